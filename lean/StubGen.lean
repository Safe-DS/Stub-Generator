import StubGen.Py.Basic
import StubGen.Py.Str
import StubGen.Generated.Tables
import StubGen.Generated.DecArgs
import StubGen.Generated.DecParams
import StubGen.Generated.DecAttrs
import StubGen.Generated.DecResults
import StubGen.Generated.DecStrings
import StubGen.Model.Types
import StubGen.Model.Naming
import StubGen.Model.Api
import StubGen.Model.Gen
import StubGen.Model.Files
import StubGen.Model.Discovery
import StubGen.Model.Doc
import StubGen.Model.Src
import StubGen.Model.Analyze
import StubGen.Model.Aliases
import StubGen.Model.ApiDict
import StubGen.Model.Pipeline
import StubGen.Spec.Lex
import StubGen.Spec.Keywords
import StubGen.Spec.Markers
import StubGen.Spec.TypeSpec
import StubGen.Spec.Tokens
import StubGen.Spec.Params
import StubGen.Spec.Scope01
import StubGen.Spec.MypyMap
import StubGen.Spec.Balance
import StubGen.Proofs.Types
import StubGen.Proofs.Naming
import StubGen.Proofs.Params
import StubGen.Proofs.TypeText
import StubGen.Proofs.PyLemmas
import StubGen.Proofs.Hoare
import StubGen.Proofs.GenMonad
import StubGen.Proofs.AddToImports
import StubGen.Proofs.GenInv
import StubGen.Proofs.Files
import StubGen.Proofs.Markers
import StubGen.Proofs.Doc
import StubGen.Proofs.Lexical
import StubGen.Proofs.Order
import StubGen.Proofs.Emission
import StubGen.Proofs.Reconcile
import StubGen.Proofs.Inventory
import StubGen.Proofs.Totality
import StubGen.Proofs.Imports
import StubGen.Proofs.Locality
import StubGen.Proofs.Publicity
import StubGen.Proofs.MypyTypes
import StubGen.Proofs.Inference
import StubGen.Proofs.Roots
import StubGen.Proofs.DocTypes
import StubGen.Proofs.Reexports
import StubGen.Proofs.Balance
import StubGen.Proofs.Aliases
import StubGen.Proofs.AliasCongr
import StubGen.Proofs.TableLocal
import StubGen.Proofs.Pipeline
import StubGen.Proofs.ApiDict
import StubGen.Proofs.ApiDictTotal
import StubGen.Proofs.JsonLex
import StubGen.Proofs.PathConv
import StubGen.Proofs.StackDiscipline
import StubGen.Proofs.ToolErrors
import StubGen.Proofs.ShortestMem
import StubGen.Proofs.ImportTargets
import StubGen.Theorems.Tables
import StubGen.Theorems.DecCommon
import StubGen.Theorems.DecArgs
import StubGen.Theorems.DecParams
import StubGen.Theorems.DecAttrs
import StubGen.Theorems.DecResults
import StubGen.Theorems.DecStrings
import StubGen.Theorems.C01
import StubGen.Theorems.C01a
import StubGen.Theorems.C01b
import StubGen.Theorems.C02
import StubGen.Theorems.C02a
import StubGen.Theorems.C03
import StubGen.Theorems.C03a
import StubGen.Theorems.C03b
import StubGen.Theorems.C04
import StubGen.Theorems.C04a
import StubGen.Theorems.C04b
import StubGen.Theorems.C05
import StubGen.Theorems.C05a
import StubGen.Theorems.C05b
import StubGen.Theorems.C06
import StubGen.Theorems.C06a
import StubGen.Theorems.C06b
import StubGen.Theorems.C07
import StubGen.Theorems.C07a
import StubGen.Theorems.C07b
import StubGen.Theorems.C08
import StubGen.Theorems.C08b
import StubGen.Theorems.C09
import StubGen.Theorems.C09b
import StubGen.Theorems.C10
import StubGen.Theorems.C10b
import StubGen.Theorems.C11
import StubGen.Theorems.C11b
import StubGen.Theorems.C12
import StubGen.Theorems.C12b
import StubGen.Theorems.C13
import StubGen.Theorems.C13a
import StubGen.Theorems.C13b
import StubGen.Theorems.C14
import StubGen.Theorems.C14b
import StubGen.Theorems.C15
import StubGen.Theorems.C15a
import StubGen.Theorems.C15b
import StubGen.Theorems.C16
import StubGen.Theorems.C16b
import StubGen.Theorems.C17
import StubGen.Theorems.C18
import StubGen.Theorems.C18a
import StubGen.Theorems.C18b
import StubGen.Theorems.C19
import StubGen.Theorems.C20
