/-
C05 (analyser half) — proofs that the monadic model of `mypy_type_to_abstract_type` computes the pure
mapping of `StubGen/Spec/MypyMap.lean`.  All names carry the prefix `t05_`.
-/
import StubGen.Spec.MypyMap
import Mathlib.Tactic.SplitIfs

namespace StubGen

open Spec.MypyMap

/-! ### the state after a run -/

theorem t05_resolveOf_after (env : AEnv) (st : VSt) (tvs : List (String × Option AType)) (ws : List String) :
    resolveOf env (after st tvs ws) = resolveOf env st := rfl

theorem t05_record_append (a b l : List (String × Option AType)) : record (a ++ b) l = record b (record a l) := by
  unfold record; rw [List.foldl_append]

theorem t05_after_after (st : VSt) (a b : List (String × Option AType)) (u v : List String) :
    after (after st a u) b v = after st (a ++ b) (u ++ v) := by
  unfold after
  simp only [t05_record_append, List.append_assoc]

theorem t05_after_nil (st : VSt) : after st [] [] = st := by
  unfold after record
  simp only [List.foldl_nil, List.append_nil]

/-! ### `Sem`: a computation described by (error, value, recorded type variables, warnings) -/

structure t05_Sem (env : AEnv) (R : Resolve) {α : Type} (x : V α) (err : Option PyErr) (a : α)
    (tvs : List (String × Option AType)) (ws : List String) : Prop where
  run : ∀ st, resolveOf env st = R → x st = outcome st err a tvs ws

namespace t05_Sem
variable {env : AEnv} {R : Resolve} {α β : Type}

theorem pure (a : α) : t05_Sem env R (Pure.pure a : V α) none a [] [] := by
  refine ⟨fun st _ => ?_⟩
  show Except.ok (a, st) = Except.ok (a, after st [] [])
  rw [t05_after_nil]

theorem throw (e : PyErr) (a : α) : t05_Sem env R (throwV e : V α) (some e) a [] [] :=
  ⟨fun _ _ => rfl⟩

theorem warn (m : String) : t05_Sem env R (warnV m) none () [] [m] :=
  ⟨fun _ _ => rfl⟩

theorem addTv (tv : String × Option AType) :
    t05_Sem env R (modify fun s => { s with typeVars := addTypeVar tv s.typeVars } : V PUnit) none () [tv] [] := by
  refine ⟨fun st _ => ?_⟩
  show Except.ok ((), _) = Except.ok ((), after st [tv] [])
  unfold after record
  simp only [List.foldl_cons, List.foldl_nil, List.append_nil]

theorem bind {x : V α} {f : α → V β} {e1 e2 : Option PyErr} {a : α} {b : β}
    {tv1 tv2 : List (String × Option AType)} {w1 w2 : List String}
    (hx : t05_Sem env R x e1 a tv1 w1) (hf : t05_Sem env R (f a) e2 b tv2 w2) :
    t05_Sem env R (x >>= f) (orErr e1 e2) b (tv1 ++ tv2) (w1 ++ w2) := by
  refine ⟨fun st hR => ?_⟩
  simp only [Bind.bind, StateT.bind, Except.bind]
  rw [hx.run st hR]
  cases e1 with
  | some e => rfl
  | none =>
    show f a (after st tv1 w1) = _
    rw [hf.run _ ((t05_resolveOf_after env st tv1 w1).trans hR)]
    cases e2 with
    | some e => rfl
    | none =>
      show Except.ok (b, after (after st tv1 w1) tv2 w2) = Except.ok (b, after st (tv1 ++ tv2) (w1 ++ w2))
      rw [t05_after_after]

/-- `do x; y` -/
theorem andThen {x : V α} {y : V β} {e1 e2 : Option PyErr} {a : α} {b : β}
    {tv1 tv2 : List (String × Option AType)} {w1 w2 : List String}
    (hx : t05_Sem env R x e1 a tv1 w1) (hy : t05_Sem env R y e2 b tv2 w2) :
    t05_Sem env R (x >>= fun _ => y) (orErr e1 e2) b (tv1 ++ tv2) (w1 ++ w2) :=
  bind hx hy

theorem congr {x : V α} {e e' : Option PyErr} {a a' : α} {tv tv' : List (String × Option AType)}
    {w w' : List String} (h : t05_Sem env R x e a tv w) (he : e = e') (ha : a = a') (ht : tv = tv')
    (hw : w = w') : t05_Sem env R x e' a' tv' w' := by
  subst he ha ht hw; exact h

/-- `do let a ← x; pure (g a)` -/
theorem map {x : V α} {e : Option PyErr} {a : α} {tv : List (String × Option AType)} {w : List String}
    (h : t05_Sem env R x e a tv w) (g : α → β) : t05_Sem env R (x >>= fun a => Pure.pure (g a)) e (g a) tv w :=
  (bind h (pure (g a))).congr (by cases e <;> rfl) rfl (List.append_nil _) (List.append_nil _)

/-- the value is irrelevant when the computation fails -/
theorem errVal {x : V α} {e : PyErr} {a a' : α} {tv tv' : List (String × Option AType)} {w w' : List String}
    (h : t05_Sem env R x (some e) a tv w) : t05_Sem env R x (some e) a' tv' w' :=
  ⟨fun st hR => (h.run st hR).trans rfl⟩

theorem getBind {f : VSt → V α} {e : Option PyErr} {a : α} {tv : List (String × Option AType)} {w : List String}
    (h : ∀ s, resolveOf env s = R → t05_Sem env R (f s) e a tv w) : t05_Sem env R (get >>= f) e a tv w :=
  ⟨fun st hR => (h st hR).run st hR⟩

theorem ite {c : Prop} [Decidable c] {x y : V α} {e1 e2 : Option PyErr} {a1 a2 : α}
    {tv1 tv2 : List (String × Option AType)} {w1 w2 : List String}
    (hx : t05_Sem env R x e1 a1 tv1 w1) (hy : t05_Sem env R y e2 a2 tv2 w2) :
    t05_Sem env R (if c then x else y) (if c then e1 else e2) (if c then a1 else a2) (if c then tv1 else tv2)
      (if c then w1 else w2) := by
  split <;> assumption

end t05_Sem

/-! ### name resolution under a fixed `Resolve` -/

theorem t05_alias_sem (env : AEnv) (R : Resolve) (s : VSt) (hs : resolveOf env s = R) (n : String) :
    t05_Sem env R
      (match findAlias env s n with
        | .error e => throwV e
        | .ok (n', q) => if q == "" then do warnV "Could not parse a type, added unknown type instead."; pure .unknown
                        else pure (.named n' q) : V AType)
      (errOf (resolveAlias R n)) (valOf (resolveAlias R n)) [] (warnOf (resolveAlias R n)) := by
  have ha : R.alias n = findAlias env s n := by rw [← hs]; rfl
  unfold resolveAlias
  rw [ha]
  cases findAlias env s n with
  | error e => exact t05_Sem.throw e _
  | ok r =>
    obtain ⟨n', q⟩ := r
    dsimp only
    by_cases hq : (q == "") = true
    · rw [if_pos hq, if_pos hq]
      exact (t05_Sem.andThen (t05_Sem.warn _) (t05_Sem.pure AType.unknown)).congr rfl rfl rfl rfl
    · rw [if_neg hq, if_neg hq]
      exact t05_Sem.pure _

theorem t05_unbound_sem (env : AEnv) (R : Resolve) (s : VSt) (hs : resolveOf env s = R) (name : String) :
    t05_Sem env R
      (match bottomModule s with
        | none => throwV .typeError
        | some m =>
          match m.classes.find? (fun c => c.name == name) with
          | some c => pure (.named c.name (replaceChar c.id '/' "."))
          | none =>
            match findAlias env s name with
            | .error e => throwV e
            | .ok (n, q) => if q == "" then do warnV "Could not parse a type, added unknown type instead."; pure .unknown
                            else pure (.named n q) : V AType)
      (errOf (resolveUnbound R name)) (valOf (resolveUnbound R name)) [] (warnOf (resolveUnbound R name)) := by
  have hc : R.classes = (bottomModule s).map (·.classes) := by rw [← hs]; rfl
  unfold resolveUnbound
  rw [hc]
  cases bottomModule s with
  | none => exact t05_Sem.throw _ _
  | some m =>
    dsimp only [Option.map]
    cases m.classes.find? (fun c => c.name == name) with
    | some c => exact t05_Sem.pure _
    | none => exact t05_alias_sem env R s hs name

mutual
theorem t05_noUn_sem (env : AEnv) (R : Resolve) : (t : MType) →
    t05_Sem env R (toAbstractNoUn env t) (firstErr R t) (mapType R t) (typeVarsOf R t) (warningsOf R t)
  | .tuple items | .union items => by
    have ih := t05_abstracts_sem env R items
    rw [toAbstractNoUn, firstErr, mapType, typeVarsOf, warningsOf]
    exact ih.map _
  | .typeVar name ub ubStr => by
    have ih := t05_noUn_sem env R ub
    rw [toAbstractNoUn, firstErr, mapType, typeVarsOf, warningsOf]
    by_cases hb : (ubStr != "builtins.object") = true
    · simp only [if_pos hb]
      by_cases hn : (name == "Self") = true
      · simp only [if_pos hn]
        exact (ih.map id).congr rfl rfl rfl rfl
      · simp only [if_neg hn]
        refine (t05_Sem.bind ih (t05_Sem.andThen (t05_Sem.addTv _) (t05_Sem.pure _))).congr ?_ rfl ?_ ?_
        · cases firstErr R ub <;> rfl
        · simp only [List.append_nil]
        · simp only [List.append_nil]
    · simp only [if_neg hb]
      exact (t05_Sem.andThen (t05_Sem.addTv _) (t05_Sem.pure _)).congr rfl rfl rfl rfl
  | .callable args ret => by
    have ih1 := t05_abstracts_sem env R args
    have ih2 := t05_noUn_sem env R ret
    rw [toAbstractNoUn, firstErr, mapType, typeVarsOf, warningsOf]
    exact t05_Sem.bind ih1 (ih2.map _)
  | .any t missing => by
    rw [toAbstractNoUn, firstErr, mapType, typeVarsOf, warningsOf]
    by_cases ht : (t == fromUnimportedType) = true
    · simp only [if_pos ht]
      exact t05_Sem.getBind (fun s hs => t05_alias_sem env R s hs _)
    · simp only [if_neg ht]
      exact t05_Sem.pure _
  | .none | .literal _ => by
    rw [toAbstractNoUn, firstErr, mapType, typeVarsOf, warningsOf]
    exact t05_Sem.pure _
  | .unbound name args => by
    have ih := t05_abstracts_sem env R args
    rw [toAbstractNoUn, firstErr, mapType, typeVarsOf, warningsOf]
    -- `typeVarsOf` does not test for the builtin names; the model spells `builtinUnbound` out
    refine .ite (ih.map _) (.ite (ih.map _) ?_)
    show t05_Sem env R (if builtinUnbound name then _ else _) _ _ _ _
    by_cases h3 : builtinUnbound name = true
    · simp only [if_pos h3]; exact .pure _
    · simp only [if_neg h3]
      exact .getBind (fun s hs => t05_unbound_sem env R s hs name)
  | .inst name fullname args => by
    have ih := t05_abstracts_sem env R args
    unfold toAbstractNoUn firstErr mapType typeVarsOf warningsOf
    refine .ite (.pure _) (.ite (ih.map _) (.ite (ih.map _) (.ite (ih.map _) (.ite ?_ (.ite (.pure _) (ih.map _))))))
    rcases args with _ | ⟨k, _ | ⟨v, rest⟩⟩
    · exact .throw _ _
    · exact .throw _ _
    · exact .bind (t05_noUn_sem env R k) ((t05_noUn_sem env R v).map _)
  | .other _ _ => by
    rw [toAbstractNoUn, firstErr, mapType, typeVarsOf, warningsOf]
    exact (t05_Sem.andThen (t05_Sem.warn _) (t05_Sem.pure AType.unknown)).congr rfl rfl rfl rfl
theorem t05_abstracts_sem (env : AEnv) (R : Resolve) : (ts : List MType) →
    t05_Sem env R (toAbstracts env ts) (firstErrs R ts) (mapTypes R ts) (typeVarsOfs R ts) (warningsOfs R ts)
  | [] => by
    rw [toAbstracts, firstErrs, mapTypes, typeVarsOfs, warningsOfs]
    exact t05_Sem.pure _
  | t :: ts => by
    have ih1 := t05_noUn_sem env R t
    have ih2 := t05_abstracts_sem env R ts
    rw [toAbstracts, firstErrs, mapTypes, typeVarsOfs, warningsOfs]
    exact t05_Sem.bind ih1 (ih2.map _)
end

/-! ### list versions, visited sub-terms -/

theorem t05_orErr_eq_or (a b : Option PyErr) : orErr a b = a.or b := by
  cases a <;> rfl

theorem t05_orErr_none (a : Option PyErr) : orErr a none = a := by cases a <;> rfl

theorem t05_orErr_eq_none {a b : Option PyErr} : orErr a b = none ↔ a = none ∧ b = none := by
  cases a <;> simp [orErr]

theorem t05_mapTypes_eq_map (R : Resolve) : (ts : List MType) → mapTypes R ts = ts.map (mapType R)
  | [] => by rw [mapTypes]; rfl
  | t :: ts => by rw [mapTypes, List.map_cons, t05_mapTypes_eq_map R ts]

theorem t05_firstErrs_eq (R : Resolve) : (ts : List MType) → firstErrs R ts = ts.findSome? (firstErr R)
  | [] => by rw [firstErrs]; rfl
  | t :: ts => by
    rw [firstErrs, List.findSome?_cons, t05_firstErrs_eq R ts]
    cases firstErr R t <;> rfl

theorem t05_typeVarsOfs_eq (R : Resolve) : (ts : List MType) → typeVarsOfs R ts = ts.flatMap (typeVarsOf R)
  | [] => by rw [typeVarsOfs]; rfl
  | t :: ts => by rw [typeVarsOfs, List.flatMap_cons, t05_typeVarsOfs_eq R ts]

theorem t05_warningsOfs_eq (R : Resolve) : (ts : List MType) → warningsOfs R ts = ts.flatMap (warningsOf R)
  | [] => by rw [warningsOfs]; rfl
  | t :: ts => by rw [warningsOfs, List.flatMap_cons, t05_warningsOfs_eq R ts]

theorem t05_visiteds_eq : (ts : List MType) → visiteds ts = ts.flatMap visited
  | [] => by rw [visiteds]; rfl
  | t :: ts => by rw [visiteds, List.flatMap_cons, t05_visiteds_eq ts]

/-- `dict` and `Mapping` are none of the names tested before them -/
theorem t05_dict_excl {name : String} (h : (name == "dict" || name == "Mapping") = true) :
    (name == "int" || name == "str" || name == "bool" || name == "float") = false ∧ (name == "tuple") = false ∧
    (name == "list" || name == "Sequence" || name == "Collection") = false ∧ (name == "set") = false := by
  simp only [Bool.or_eq_true, beq_iff_eq] at h
  rcases h with rfl | rfl <;> decide

theorem t05_findSome_cons_none {α β : Type} (f : α → Option β) (a : α) (l : List α) (h : f a = none) :
    (a :: l).findSome? f = l.findSome? f := by
  rw [List.findSome?_cons, h]

mutual
theorem t05_firstErr_visited (R : Resolve) : (t : MType) → firstErr R t = (visited t).findSome? (nodeErr R)
  | .tuple items | .union items => by
    rw [firstErr, visited, t05_findSome_cons_none _ _ _ rfl]
    exact t05_firstErrs_visited R items
  | .typeVar name ub ubStr => by
    rw [firstErr, visited, t05_findSome_cons_none _ _ _ rfl]
    split_ifs
    · exact t05_firstErr_visited R ub
    · rfl
  | .callable args ret => by
    rw [firstErr, visited, t05_findSome_cons_none _ _ _ rfl]
    rw [List.findSome?_append, t05_orErr_eq_or, t05_firstErrs_visited R args, t05_firstErr_visited R ret]
  | .any t missing => by
    rw [firstErr, visited, List.findSome?_singleton]; rfl
  | .none | .literal _ | .other _ _ => by rw [firstErr, visited, List.findSome?_singleton]; rfl
  | .unbound name args => by
    have ih := t05_firstErrs_visited R args
    have hn : nodeErr R (.unbound name args) =
      if name == "list" || name == "set" || builtinUnbound name then none else errOf (resolveUnbound R name) := rfl
    rw [firstErr, visited, List.findSome?_cons, hn]
    by_cases h1 : (name == "list") = true
    · simp only [h1, Bool.true_or, if_true, ih]
    by_cases h2 : (name == "set") = true
    · simp only [h1, h2, Bool.true_or, Bool.or_true, if_true, Bool.false_eq_true, if_false, ih]
    by_cases h3 : builtinUnbound name = true
    · simp only [h1, h2, h3, Bool.or_true, if_true, Bool.false_eq_true, if_false, List.findSome?_nil]
    · simp only [h1, h2, h3, Bool.or_false, Bool.false_eq_true, if_false, List.findSome?_nil]
      cases errOf (resolveUnbound R name) <;> rfl
  | .inst name fullname args => by
    have ih := t05_firstErrs_visited R args
    have hn : nodeErr R (.inst name fullname args) =
      if name == "dict" || name == "Mapping" then
        match args with
        | _ :: _ :: _ => none
        | _ => some .indexError
      else none := rfl
    have he : (if args.isEmpty then none else firstErrs R args) = firstErrs R args := by cases args <;> rfl
    unfold firstErr visited
    rw [List.findSome?_cons, hn]
    -- only `dict`/`Mapping` raise at the node itself: they go first, the other branches are compared as they stand
    by_cases hd : (name == "dict" || name == "Mapping") = true
    · obtain ⟨h1, h3, h4, h5⟩ := t05_dict_excl hd
      simp only [h1, h3, h4, h5, hd, if_true, Bool.false_eq_true, if_false]
      rcases args with _ | ⟨k, _ | ⟨v, rest⟩⟩
      · rfl
      · rfl
      · dsimp only
        rw [List.findSome?_append, t05_orErr_eq_or, t05_firstErr_visited R k, t05_firstErr_visited R v]
    · simp only [if_neg hd, apply_ite (List.findSome? (nodeErr R)), ← ih, List.findSome?_nil, he]
theorem t05_firstErrs_visited (R : Resolve) : (ts : List MType) → firstErrs R ts = (visiteds ts).findSome? (nodeErr R)
  | [] => by rw [firstErrs, visiteds]; rfl
  | t :: ts => by
    rw [firstErrs, visiteds, List.findSome?_append, t05_orErr_eq_or, t05_firstErr_visited R t,
      t05_firstErrs_visited R ts]
end

/-! ### where the unknown marker comes from -/

def t05_bad (R : Resolve) (u : MType) : Bool := unknownNode R u || (nodeErr R u).isSome

theorem t05_any_cons_false {α : Type} (f : α → Bool) (a : α) (l : List α) (h : f a = false) :
    (a :: l).any f = l.any f := by
  rw [List.any_cons, h, Bool.false_or]

theorem t05_any_singleton {α : Type} (f : α → Bool) (a : α) : [a].any f = f a := by
  rw [List.any_cons, List.any_nil, Bool.or_false]

/-- a resolved name is an error, the unknown marker, or a named type -/
def t05_ResShape (r : Except PyErr AType) : Prop :=
  (∃ e, r = .error e) ∨ r = .ok .unknown ∨ ∃ n q, r = .ok (.named n q)

theorem t05_resolveAlias_shape (R : Resolve) (n : String) : t05_ResShape (resolveAlias R n) := by
  unfold resolveAlias
  cases R.alias n with
  | error e => exact Or.inl ⟨e, rfl⟩
  | ok r =>
    obtain ⟨n', q⟩ := r
    dsimp only
    split_ifs
    · exact Or.inr (Or.inl rfl)
    · exact Or.inr (Or.inr ⟨_, _, rfl⟩)

theorem t05_resolveUnbound_shape (R : Resolve) (n : String) : t05_ResShape (resolveUnbound R n) := by
  unfold resolveUnbound
  cases R.classes with
  | none => exact Or.inl ⟨_, rfl⟩
  | some cs =>
    dsimp only
    cases cs.find? (fun c => c.name == n) with
    | some c => exact Or.inr (Or.inr ⟨_, _, rfl⟩)
    | none => exact t05_resolveAlias_shape R n

theorem t05_shape_unknown {r : Except PyErr AType} (h : t05_ResShape r) :
    hasUnknown (valOf r) = (isUnknownRes r || (errOf r).isSome) := by
  rcases h with ⟨e, rfl⟩ | rfl | ⟨n, q, rfl⟩ <;> rfl

mutual
theorem t05_hasUnknown_visited (R : Resolve) : (t : MType) →
    hasUnknown (mapType R t) = (visited t).any (t05_bad R)
  | .tuple items | .union items => by
    rw [mapType, hasUnknown, visited, t05_any_cons_false _ _ _ rfl]
    exact t05_hasUnknowns_visited R items
  | .typeVar name ub ubStr => by
    have ih := t05_hasUnknown_visited R ub
    rw [mapType, visited, t05_any_cons_false _ _ _ rfl]
    by_cases hb : (ubStr != "builtins.object") = true
    · simp only [if_pos hb]
      by_cases hn : (name == "Self") = true
      · simp only [if_pos hn]; exact ih
      · simp only [if_neg hn]; rw [hasUnknown]; exact ih
    · simp only [if_neg hb]; rfl
  | .callable args ret => by
    rw [mapType, hasUnknown, visited, t05_any_cons_false _ _ _ rfl, List.any_append,
      t05_hasUnknowns_visited R args, t05_hasUnknown_visited R ret]
  | .any t missing => by
    have hb : t05_bad R (.any t missing) =
      ((t == fromUnimportedType && isUnknownRes (resolveAlias R (lastD "" (splitDot missing)))) ||
        (if t == fromUnimportedType then errOf (resolveAlias R (lastD "" (splitDot missing))) else none).isSome) := rfl
    rw [mapType, visited, t05_any_singleton, hb]
    by_cases ht : (t == fromUnimportedType) = true
    · simp only [ht, Bool.true_and]
      exact t05_shape_unknown (t05_resolveAlias_shape R _)
    · simp only [if_neg ht]
      simp only [Bool.not_eq_true] at ht
      rw [ht]; rfl
  | .none | .literal _ | .other _ _ => by rw [mapType, visited]; rfl
  | .unbound name args => by
    have ih := t05_hasUnknowns_visited R args
    have hb : t05_bad R (.unbound name args) =
      ((!(name == "list" || name == "set" || builtinUnbound name) && isUnknownRes (resolveUnbound R name)) ||
       (if name == "list" || name == "set" || builtinUnbound name then none
        else errOf (resolveUnbound R name)).isSome) := rfl
    rw [mapType, visited, List.any_cons, hb]
    by_cases h1 : (name == "list") = true
    · simp only [h1, Bool.true_or, if_true, hasUnknown, ih]; rfl
    by_cases h2 : (name == "set") = true
    · simp only [h1, h2, Bool.true_or, Bool.or_true, if_true, Bool.false_eq_true, if_false, hasUnknown, ih]; rfl
    by_cases h3 : builtinUnbound name = true
    · simp only [h1, h2, h3, Bool.or_true, if_true, Bool.false_eq_true, if_false, List.any_nil]; rfl
    · simp only [h1, h2, h3, Bool.or_false, Bool.false_eq_true, if_false, List.any_nil, Bool.or_false]
      exact t05_shape_unknown (t05_resolveUnbound_shape R _)
  | .inst name fullname args => by
    have ih := t05_hasUnknowns_visited R args
    have hb : t05_bad R (.inst name fullname args) =
      (false || (if name == "dict" || name == "Mapping" then
        match args with
        | _ :: _ :: _ => none
        | _ => some PyErr.indexError
      else none).isSome) := rfl
    have he : (if args.isEmpty then false else hasUnknowns (mapTypes R args)) = hasUnknowns (mapTypes R args) := by
      cases args <;> rfl
    unfold mapType visited
    rw [List.any_cons, hb]
    by_cases hd : (name == "dict" || name == "Mapping") = true
    · obtain ⟨h1, h3, h4, h5⟩ := t05_dict_excl hd
      simp only [h1, h3, h4, h5, hd, if_true, Bool.false_eq_true, if_false]
      rcases args with _ | ⟨k, _ | ⟨v, rest⟩⟩
      · rfl
      · rfl
      · dsimp only
        rw [hasUnknown, List.any_append, t05_hasUnknown_visited R k, t05_hasUnknown_visited R v]; rfl
    · simp only [if_neg hd, apply_ite hasUnknown, apply_ite (List.any · (t05_bad R)), hasUnknown, ← ih, List.any_nil, he]
      rfl
theorem t05_hasUnknowns_visited (R : Resolve) : (ts : List MType) →
    hasUnknowns (mapTypes R ts) = (visiteds ts).any (t05_bad R)
  | [] => by rw [mapTypes, visiteds]; rfl
  | t :: ts => by
    rw [mapTypes, hasUnknowns, visiteds, List.any_append, t05_hasUnknown_visited R t,
      t05_hasUnknowns_visited R ts]
end


/-! ### the un-analysed annotation -/

/-- the `Final[...]` branch of `mypy_type_to_abstract_type` -/
def t05_finalRun (env : AEnv) (args : List MType) : V AType := do
  let ts ← toAbstracts env args
  match ts with
  | [] => throwV .valueError
  | [x] => pure (.final x)
  | xs => pure (.final (.union xs))

theorem t05_toAbstract_eq (env : AEnv) (t : MType) (un : Option MType) :
    toAbstract env t un =
      match unCase t un with
      | .final args => t05_finalRun env args
      | .reparse u => toAbstractNoUn env u
      | .tuple items => toAbstractNoUn env (.tuple items)
      | .plain => toAbstractNoUn env t := by
  unfold toAbstract unCase
  cases un with
  | none => rfl
  | some u =>
    dsimp only
    cases hn : hasName u with
    | none =>
      dsimp only
      cases u <;> rfl
    | some n =>
      by_cases hf : n = "Final"
      · subst hf
        rfl
      · simp only [hf, if_false]
        by_cases hl : (n == "list" || n == "set") = true
        · simp only [if_pos hl]
          rcases argsOf t with _ | ⟨a, _ | ⟨b, r⟩⟩
          · rfl
          · dsimp only
            by_cases ha : isIncorrectAny a = true
            · simp only [if_pos ha]
            · simp only [if_neg ha]
          · rfl
        · simp only [if_neg hl]

theorem t05_final_sem (env : AEnv) (R : Resolve) (args : List MType) :
    t05_Sem env R (t05_finalRun env args)
      (orErr (firstErrs R args) (if args.isEmpty then some .valueError else none))
      (finalOf (mapTypes R args)) (typeVarsOfs R args) (warningsOfs R args) := by
  have ih := t05_abstracts_sem env R args
  unfold t05_finalRun
  refine (t05_Sem.bind ih (e2 := if args.isEmpty then some .valueError else none) (tv2 := []) (w2 := [])
    (b := finalOf (mapTypes R args)) ?_).congr rfl rfl (List.append_nil _) (List.append_nil _)
  rcases args with _ | ⟨a, _ | ⟨b, r⟩⟩
  · exact t05_Sem.throw _ _
  · exact t05_Sem.pure _
  · exact t05_Sem.pure _

theorem t05_toAbstract_sem (env : AEnv) (R : Resolve) (t : MType) (un : Option MType) :
    t05_Sem env R (toAbstract env t un) (firstErrUn R t un) (mapTypeUn R t un) (typeVarsOfUn R t un)
      (warningsOfUn R t un) := by
  rw [t05_toAbstract_eq]
  unfold firstErrUn mapTypeUn typeVarsOfUn warningsOfUn
  cases unCase t un with
  | final args => exact t05_final_sem env R args
  | reparse u => exact t05_noUn_sem env R u
  | tuple items =>
    have := t05_noUn_sem env R (.tuple items)
    rw [firstErr, mapType, typeVarsOf, warningsOf] at this
    exact this
  | plain => exact t05_noUn_sem env R t


/-! ### warnings and recorded type variables are functions of the RESULT -/

/-- what the state receives can be read off the result `a`, unless the translation raises -/
def t05_Eff (e : Option PyErr) (w : List String) (tv : List (String × Option AType)) (a : AType) : Prop :=
  e = none → w = List.replicate (countUnknown a) unknownMsg ∧ tv = tvarsIn a

namespace t05_Eff
variable {e e1 e2 : Option PyErr} {w w1 w2 : List String} {tv tv1 tv2 : List (String × Option AType)} {a a1 a2 : AType}

theorem ite {c : Prop} [Decidable c] (h1 : t05_Eff e1 w1 tv1 a1) (h2 : t05_Eff e2 w2 tv2 a2) :
    t05_Eff (if c then e1 else e2) (if c then w1 else w2) (if c then tv1 else tv2) (if c then a1 else a2) := by
  split <;> assumption

theorem pure (hc : countUnknown a = 0) (hv : tvarsIn a = []) : t05_Eff none [] [] a :=
  fun _ => by rw [hc, hv]; exact ⟨rfl, rfl⟩

/-- another result with as many unknown markers and the same type variables -/
theorem congr (h : t05_Eff e w tv a1) (hc : countUnknown a = countUnknown a1) (hv : tvarsIn a = tvarsIn a1) :
    t05_Eff e w tv a := by
  unfold t05_Eff; rw [hc, hv]; exact h

theorem append (h1 : t05_Eff e1 w1 tv1 a1) (h2 : t05_Eff e2 w2 tv2 a2)
    (hc : countUnknown a = countUnknown a1 + countUnknown a2) (hv : tvarsIn a = tvarsIn a1 ++ tvarsIn a2) :
    t05_Eff (orErr e1 e2) (w1 ++ w2) (tv1 ++ tv2) a := by
  intro he
  rw [t05_orErr_eq_none] at he
  rw [hc, hv, ← List.replicate_append_replicate, ← (h1 he.1).1, ← (h1 he.1).2, ← (h2 he.2).1, ← (h2 he.2).2]
  exact ⟨rfl, rfl⟩

end t05_Eff

theorem t05_shape_eff {r : Except PyErr AType} (h : t05_ResShape r) : t05_Eff (errOf r) (warnOf r) [] (valOf r) := by
  rcases h with ⟨e, rfl⟩ | rfl | ⟨n, q, rfl⟩
  · exact fun he => nomatch he
  · exact fun _ => ⟨rfl, rfl⟩
  · exact fun _ => ⟨rfl, rfl⟩

-- a list of results is counted as the tuple of them
mutual
theorem t05_eff (R : Resolve) : (t : MType) → t05_Eff (firstErr R t) (warningsOf R t) (typeVarsOf R t) (mapType R t)
  | .tuple items => by
    rw [firstErr, warningsOf, typeVarsOf, mapType]
    exact t05_effs_tuple R items
  | .union items => by
    rw [firstErr, warningsOf, typeVarsOf, mapType]
    exact (t05_effs_tuple R items).congr rfl rfl
  | .typeVar name ub ubStr => by
    have ih := t05_eff R ub
    rw [firstErr, warningsOf, typeVarsOf, mapType]
    refine .ite ?_ (fun _ => ⟨rfl, rfl⟩)
    by_cases hn : (name == "Self") = true
    · simp only [if_pos hn]; exact ih
    · simp only [if_neg hn]
      intro he
      rw [countUnknown, tvarsIn, (ih he).1, (ih he).2]
      exact ⟨rfl, rfl⟩
  | .callable args ret => by
    rw [firstErr, warningsOf, typeVarsOf, mapType]
    exact (t05_effs_tuple R args).append (t05_eff R ret) rfl rfl
  | .any t missing => by
    rw [firstErr, warningsOf, typeVarsOf, mapType]
    by_cases ht : (t == fromUnimportedType) = true
    · simp only [if_pos ht]; exact t05_shape_eff (t05_resolveAlias_shape R _)
    · simp only [if_neg ht]; exact .pure rfl rfl
  | .none | .literal _ => by rw [firstErr, warningsOf, typeVarsOf, mapType]; exact .pure rfl rfl
  | .unbound name args => by
    have ih := t05_effs_tuple R args
    rw [firstErr, warningsOf, typeVarsOf, mapType]
    refine .ite (ih.congr rfl rfl) (.ite (ih.congr rfl rfl) ?_)
    by_cases h3 : builtinUnbound name = true
    · simp only [if_pos h3]; exact .pure rfl rfl
    · simp only [if_neg h3]; exact t05_shape_eff (t05_resolveUnbound_shape R _)
  | .inst name fullname args => by
    have ih := (t05_effs_tuple R args)
    unfold firstErr warningsOf typeVarsOf mapType
    refine .ite (.pure rfl rfl) (.ite ih (.ite (ih.congr rfl rfl) (.ite (ih.congr rfl rfl) (.ite ?_
      (.ite (.pure rfl rfl) (ih.congr rfl rfl))))))
    rcases args with _ | ⟨k, _ | ⟨v, rest⟩⟩
    · exact fun he => nomatch he
    · exact fun he => nomatch he
    · exact (t05_eff R k).append (t05_eff R v) rfl rfl
  | .other _ _ => by rw [firstErr, warningsOf, typeVarsOf, mapType]; exact fun _ => ⟨rfl, rfl⟩
theorem t05_effs_tuple (R : Resolve) : (ts : List MType) →
    t05_Eff (firstErrs R ts) (warningsOfs R ts) (typeVarsOfs R ts) (.tuple (mapTypes R ts))
  | [] => by rw [firstErrs, warningsOfs, typeVarsOfs, mapTypes]; exact .pure rfl rfl
  | t :: ts => by
    rw [firstErrs, warningsOfs, typeVarsOfs, mapTypes]
    exact (t05_eff R t).append (t05_effs_tuple R ts) rfl rfl
end

def t05_Effs (R : Resolve) (ts : List MType) : Prop :=
  warningsOfs R ts = List.replicate (countUnknowns (mapTypes R ts)) unknownMsg ∧
  typeVarsOfs R ts = tvarsIns (mapTypes R ts)

theorem t05_effs (R : Resolve) : (ts : List MType) → firstErrs R ts = none → t05_Effs R ts :=
  t05_effs_tuple R

/-! ### what the resolver depends on -/

theorem t05_findAlias_error_iff (env : AEnv) (s : VSt) (n : String) (e : PyErr) :
    findAlias env s n = .error e ↔ bottomModule s = none ∧ e = .typeError := by
  unfold findAlias
  cases bottomModule s with
  | none => simp [eq_comm]
  | some m =>
    simp only [reduceCtorEq, false_and, iff_false]
    split_ifs
    · simp
    · simp
    · split <;> simp

end StubGen
