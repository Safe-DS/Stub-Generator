/-
Helper lemmas for `StubGen.Theorems.C11` (imports of a stub file).  All names are prefixed `q11_`.

* `addToImports` is the pure state transformer `q11_effect` (`Proofs/AddToImports`); here: its `wp` rule and what it
  registers;
* `q11_RegQ`: "the class path `q` is registered or exempt in state `st`" (the exact disjunction of the code);
  `q11_Ext`: the state order "imports and placeholder classes only grow, the module identity is fixed";
* `q11_leaves`: the named types occurring in a type; `q11_typeStr_regs`: every one is registered after `typeStr`;
* `q11_genInv`: growth w.r.t. `q11_Ext` is an invariant of the generator's primitives, hence (`Proofs/GenInv`) every
  function up to `createModuleString` is monotone (`q11_Mono`);
* `q11_importLine` / `q11_importBlock`: the text `createImportsString` prints;
* the decomposition of `callGenerator` and `createReexportElements` into reset / body / import block;
* the placeholder stub `createStubFiles` writes for every class path in `outside`.
-/
import StubGen.Proofs.Files
import StubGen.Proofs.Markers
import StubGen.Proofs.TypeText
import StubGen.Proofs.Emission

namespace StubGen

open List

/-! ### 1. `addToImports` through `wp` -/

theorem q11_wp_addToImports {env : Env} {q : String} {st : St} {Q : Unit → St → Prop}
    (h : q ≠ "" → Q () (q11_effect env q st)) : wp (addToImports env q) Q st := by
  intro u st' hr
  obtain ⟨hq, rfl⟩ := q11_addToImports_ok hr
  exact h hq

/-! ### 2. the state order and "registered or exempt" -/

/-- `s'` has at least the imports and placeholder classes of `s`, and the same module identity -/
structure q11_Ext (s s' : St) : Prop where
  imports : s.imports ⊆ s'.imports
  outside : s.outside ⊆ s'.outside
  moduleId : s'.moduleId = s.moduleId
  reexportModuleId : s'.reexportModuleId = s.reexportModuleId
  creatingReexport : s'.creatingReexport = s.creatingReexport

theorem q11_Ext.refl (s : St) : q11_Ext s s := ⟨fun _ h => h, fun _ h => h, rfl, rfl, rfl⟩

theorem q11_Ext.trans {a b c : St} (h : q11_Ext a b) (h' : q11_Ext b c) : q11_Ext a c :=
  ⟨fun _ x => h'.imports (h.imports x), fun _ x => h'.outside (h.outside x), h'.moduleId.trans h.moduleId,
   h'.reexportModuleId.trans h.reexportModuleId, h'.creatingReexport.trans h.creatingReexport⟩

theorem q11_Ext.getModuleId {s s' : St} (h : q11_Ext s s') : getModuleId s' = getModuleId s := by
  unfold StubGen.getModuleId
  rw [h.moduleId, h.reexportModuleId, h.creatingReexport]

theorem q11_Ext.of_grows {s s' : St} (h : St.Grows s s') : q11_Ext s s' :=
  ⟨h.imports, h.outside, h.moduleId, h.reexportModuleId, h.creatingReexport⟩

/-- a state that differs only in fields other than `imports`, `outside` and the module identity -/
theorem q11_Ext.of_eq {s s' : St} (h1 : s'.imports = s.imports) (h2 : s'.outside = s.outside)
    (h3 : s'.moduleId = s.moduleId) (h4 : s'.reexportModuleId = s.reexportModuleId)
    (h5 : s'.creatingReexport = s.creatingReexport) : q11_Ext s s' :=
  ⟨by rw [h1]; exact fun _ h => h, by rw [h2]; exact fun _ h => h, h3, h4, h5⟩

theorem q11_effect_ext (env : Env) (q : String) (st : St) : q11_Ext st (q11_effect env q st) :=
  .of_grows (q11_effect_grows env q st)

/-- The class path `q` is registered or exempt in state `st` — the disjunction `addToImports` implements:
    (b1) the path is ignored (`builtins.X`, `typing.Any`, no module path);
    (b2) the dotted id of the module being generated is a substring of the path;
    (c)  the path resolves to a class of the package, and the resolved path is imported, or it spells the
         id of the stub being written;
    (d)  the path resolves to no class of the package: it is queued for a placeholder stub, and it is
         imported, or it spells the id of the stub being written. -/
def q11_RegQ (env : Env) (st : St) (q : String) : Prop :=
  q11_exempt q = true
  ∨ q11_sameModule st q = true
  ∨ ((q11_found env q).isSome = true ∧
      (q11_target env q ∈ st.imports ∨ replaceChar (q11_target env q) '.' "/" = getModuleId st))
  ∨ (q11_found env q = none ∧ q ∈ st.outside ∧
      (q ∈ st.imports ∨ replaceChar q '.' "/" = getModuleId st))

theorem q11_RegQ.mono {env : Env} {s s' : St} {q : String} (he : q11_Ext s s') (h : q11_RegQ env s q) :
    q11_RegQ env s' q := by
  unfold q11_RegQ q11_sameModule at *
  rw [he.getModuleId, he.moduleId]
  rcases h with h | h | ⟨h1, h2⟩ | ⟨h1, h2, h3⟩
  · exact Or.inl h
  · exact Or.inr (Or.inl h)
  · exact Or.inr (Or.inr (Or.inl ⟨h1, h2.imp (fun x => he.imports x) id⟩))
  · exact Or.inr (Or.inr (Or.inr ⟨h1, he.outside h2, h3.imp (fun x => he.imports x) id⟩))

/-- after `addToImports env q` the path `q` is registered or exempt -/
theorem q11_effect_reg (env : Env) (q : String) (st : St) : q11_RegQ env (q11_effect env q st) q := by
  have hext := q11_effect_ext env q st
  by_cases h1 : q11_exempt q = true
  · exact Or.inl h1
  by_cases h2 : q11_sameModule st q = true
  · refine Or.inr (Or.inl ?_)
    unfold q11_sameModule at *
    rw [hext.moduleId]; exact h2
  have h1' : q11_exempt q = false := by simpa using h1
  have h2' : q11_sameModule st q = false := by simpa using h2
  unfold q11_RegQ
  rw [hext.getModuleId, q11_effect_imports h1' h2', q11_effect_outside h1' h2']
  cases hf : q11_found env q with
  | some c =>
    refine Or.inr (Or.inr (Or.inl ⟨rfl, ?_⟩))
    by_cases h3 : replaceChar (q11_target env q) '.' "/" = getModuleId st
    · exact Or.inr h3
    · rw [if_neg h3]; exact Or.inl ((mem_insertSet _ _ _).2 (Or.inr rfl))
  | none =>
    refine Or.inr (Or.inr (Or.inr ⟨rfl, ?_, ?_⟩))
    · simp only [if_true]; exact (mem_insertSet _ _ _).2 (Or.inr rfl)
    · rw [q11_target_of_none hf]
      by_cases h3 : replaceChar q '.' "/" = getModuleId st
      · exact Or.inr h3
      · rw [if_neg h3]; exact Or.inl ((mem_insertSet _ _ _).2 (Or.inr rfl))

/-! ### 3. the named types inside a type -/

/-- an occurrence of a class name in a type: a `NamedType` or the head of a `NamedSequenceType` -/
inductive q11_Leaf where
  | named (name qname : String)
  | seq (name qname : String)
  /-- a superclass listed after `sub` (name = last dot-segment of the path) -/
  | super (name qname : String)

def q11_Leaf.qname : q11_Leaf → String
  | .named _ q => q
  | .seq _ q => q
  | .super _ q => q

def q11_Leaf.name : q11_Leaf → String
  | .named n _ => n
  | .seq n _ => n
  | .super n _ => n

/-- rendered through the built-in table (only a `NamedType` is looked up there) -/
def q11_Leaf.builtin : q11_Leaf → Bool
  | .named n _ => (builtinName n).isSome
  | .seq _ _ => false
  | .super _ _ => false

mutual
/-- the class-name occurrences of a type, in rendering order (the upper bound stored in a type-variable
    type is not part of the rendered type: `typeStr` prints the variable's name only) -/
def q11_leaves : AType → List q11_Leaf
  | .named n q => [.named n q]
  | .namedSeq n q ts => q11_leavesL ts ++ [.seq n q]
  | .final t => q11_leaves t
  | .callable ps r => q11_leavesL ps ++ q11_leaves r
  | .set ts => q11_leavesL ts
  | .list ts => q11_leavesL ts
  | .union ts => q11_leavesL ts
  | .tuple ts => q11_leavesL ts
  | .dict k v => q11_leaves k ++ q11_leaves v
  | .unknown => []
  | .literal _ => []
  | .typeVar _ => []
  | .typeVarB _ _ => []
  | .enum _ => []
  | .boundary .. => []
def q11_leavesL : List AType → List q11_Leaf
  | [] => []
  | t :: ts => q11_leaves t ++ q11_leavesL ts
end

/-- registered or exempt, for an occurrence -/
def q11_RegLeaf (env : Env) (st : St) (l : q11_Leaf) : Prop :=
  l.builtin = true ∨ q11_RegQ env st l.qname

theorem q11_RegLeaf.mono {env : Env} {s s' : St} {l : q11_Leaf} (he : q11_Ext s s') (h : q11_RegLeaf env s l) :
    q11_RegLeaf env s' l := h.imp id (q11_RegQ.mono he)

/-- state transition of a rendering: the state grew, and every occurrence in `L` is registered or exempt -/
structure q11_RG (env : Env) (st : St) (L : List q11_Leaf) (st' : St) : Prop where
  ext : q11_Ext st st'
  reg : ∀ l ∈ L, q11_RegLeaf env st' l

theorem q11_RG.refl (env : Env) (st : St) : q11_RG env st [] st := ⟨q11_Ext.refl st, fun _ h => nomatch h⟩

theorem q11_RG.trans {env : Env} {s0 s1 s2 : St} {L1 L2 : List q11_Leaf}
    (h1 : q11_RG env s0 L1 s1) (h2 : q11_RG env s1 L2 s2) : q11_RG env s0 (L1 ++ L2) s2 := by
  refine ⟨h1.ext.trans h2.ext, fun l hl => ?_⟩
  rcases List.mem_append.1 hl with h | h
  · exact (h1.reg l h).mono h2.ext
  · exact h2.reg l h

theorem q11_RG.cast {env : Env} {s0 s1 : St} {L L' : List q11_Leaf} (h : q11_RG env s0 L s1) (e : L = L') :
    q11_RG env s0 L' s1 := e ▸ h

/-- adding pending markers does not matter -/
theorem q11_RG.todos {env : Env} {s0 s1 : St} {L : List q11_Leaf} (h : q11_RG env s0 L s1) (x : List String) :
    q11_RG env s0 L { s1 with todos := x } :=
  ⟨h.ext.trans (q11_Ext.of_eq rfl rfl rfl rfl rfl), fun l hl =>
    (h.reg l hl).mono (q11_Ext.of_eq rfl rfl rfl rfl rfl)⟩

/-- occurrences that are exempt whatever the state -/
def q11_LeafExempt (l : q11_Leaf) : Prop := l.builtin = true ∨ q11_exempt l.qname = true

theorem q11_RG.exempt {env : Env} {s0 s1 : St} {L L' : List q11_Leaf} (h : q11_RG env s0 L s1)
    (h' : ∀ l ∈ L', q11_LeafExempt l) : q11_RG env s0 (L ++ L') s1 := by
  refine ⟨h.ext, fun l hl => ?_⟩
  rcases List.mem_append.1 hl with hl | hl
  · exact h.reg l hl
  · exact (h' l hl).imp id Or.inl

theorem q11_addToImports_rg (env : Env) (q : String) (st : St) (l : q11_Leaf) (hl : l.qname = q) :
    wp (addToImports env q) (fun _ st' => q11_RG env st [l] st') st := by
  apply q11_wp_addToImports
  intro _
  refine ⟨q11_effect_ext env q st, fun l' hl' => ?_⟩
  have : l' = l := by simpa using hl'
  subst this
  exact Or.inr (hl ▸ q11_effect_reg env _ st)

theorem q11_exempt_builtinsNone : q11_exempt "builtins.None" = true := by decide

theorem q11_leaves_of_isLiteral {t : AType} (h : isLiteral t = true) : q11_leaves t = [] := by
  cases t <;> simp [isLiteral] at h
  simp [q11_leaves]

theorem q11_leaves_of_isNoneNamed {t : AType} (h : isNoneNamed t = true) :
    ∀ l ∈ q11_leaves t, q11_LeafExempt l := by
  cases t <;> simp [isNoneNamed] at h
  subst h
  intro l hl
  simp only [q11_leaves, List.mem_singleton] at hl
  subst hl
  exact Or.inr q11_exempt_builtinsNone

theorem q11_leavesL_exempt {ts : List AType} (h : ∀ t ∈ ts, isLiteral t = true ∨ isNoneNamed t = true) :
    ∀ l ∈ q11_leavesL ts, q11_LeafExempt l := by
  induction ts with
  | nil => intro l hl; simp [q11_leavesL] at hl
  | cons t ts ih =>
    intro l hl
    rw [q11_leavesL, List.mem_append] at hl
    rcases hl with hl | hl
    · rcases h t (by simp) with ht | ht
      · rw [q11_leaves_of_isLiteral ht] at hl; simp at hl
      · exact q11_leaves_of_isNoneNamed ht l hl
    · exact ih (fun t' h' => h t' (by simp [h'])) l hl

/-- first literal shortcut of the union rendering -/
theorem q11_union_case1 {ts : List AType}
    (h : ((ts.filter (fun t => !isLiteral t)).length == 1 &&
      (ts.filter (fun t => !isLiteral t)).any isNoneNamed) = true) :
    ∀ t ∈ ts, isLiteral t = true ∨ isNoneNamed t = true := by
  simp only [Bool.and_eq_true, beq_iff_eq] at h
  obtain ⟨h1, h2⟩ := h
  intro t ht
  cases hl : isLiteral t with
  | true => exact Or.inl rfl
  | false =>
    right
    have hm : t ∈ ts.filter (fun t => !isLiteral t) := by simp [ht, hl]
    match hf : ts.filter (fun t => !isLiteral t), h1 with
    | [x], _ =>
      rw [hf] at hm h2
      simp at hm h2
      rw [hm]; exact h2

/-- second literal shortcut -/
theorem q11_union_case2 {ts : List AType}
    (h : (ts.length == 2 && (ts.filter isLiteral).length == 1 && ts.any isNoneNamed) = true) :
    ∀ t ∈ ts, isLiteral t = true ∨ isNoneNamed t = true := by
  simp only [Bool.and_eq_true, beq_iff_eq] at h
  obtain ⟨⟨h1, h2⟩, h3⟩ := h
  match ts, h1 with
  | [a, b], _ =>
    simp only [List.any_cons, List.any_nil, Bool.or_false, Bool.or_eq_true] at h3
    simp only [List.filter_cons, List.filter_nil] at h2
    intro t ht
    simp only [List.mem_cons, List.not_mem_nil, or_false] at ht
    cases ha : isLiteral a <;> cases hb : isLiteral b <;> simp [ha, hb] at h2
    · rcases h3 with h3 | h3
      · rcases ht with rfl | rfl
        · exact Or.inr h3
        · exact Or.inl hb
      · have := not_isLiteral_of_isNoneNamed h3
        simp [hb] at this
    · rcases h3 with h3 | h3
      · have := not_isLiteral_of_isNoneNamed h3
        simp [ha] at this
      · rcases ht with rfl | rfl
        · exact Or.inl ha
        · exact Or.inr h3

mutual
/-- the second component serves the `callable` case (the members of a result tuple are rendered without rendering
    the tuple); it keeps the recursion structural -/
theorem q11_typeStr_rg_aux (env : Env) : (t : AType) →
    (∀ st, wp (typeStr env t) (fun _ st' => q11_RG env st (q11_leaves t) st') st) ∧
    ∀ ts, t = .tuple ts → ∀ pre i st, wp (typeStrsNamed env pre i ts) (fun _ st' =>
      q11_RG env st (q11_leavesL ts) st') st
  | .named name qname => by
    refine ⟨fun st => ?_, fun _ e => nomatch e⟩
    rw [typeStr]
    split
    · rename_i b hb
      rw [wp_pure]
      refine ⟨q11_Ext.refl st, fun l hl => ?_⟩
      simp only [q11_leaves, List.mem_singleton] at hl
      subst hl
      exact Or.inl (by simp [q11_Leaf.builtin, hb])
    · rw [wp_bind]
      refine wp_conseq (q11_addToImports_rg env qname st (.named name qname) rfl) ?_; intro _ s1 h1
      split
      · exact wp_throwG.2 trivial
      · simp only [wp_bind, wp_get, wp_ite, wp_addTodo, wp_pure]
        exact ⟨fun _ => (h1.todos _).cast (by simp [q11_leaves]), fun _ => h1.cast (by simp [q11_leaves])⟩
  | .final t => by
    refine ⟨fun st => ?_, fun _ e => nomatch e⟩
    rw [typeStr]
    exact wp_conseq ((q11_typeStr_rg_aux env t).1 st) fun _ _ h => h.cast (by simp [q11_leaves])
  | .callable params ret => by
    refine ⟨fun st => ?_, fun _ e => nomatch e⟩
    rw [typeStr, wp_bind]
    refine wp_conseq (q11_typeStrsNamed_rg env "param_" 1 params st) ?_; intro ps s1 h1
    have h3 := (q11_typeStr_rg_aux env ret).2
    split
    · rename_i ts
      rw [wp_bind]
      refine wp_conseq (h3 ts rfl "result_" 1 s1) ?_; intro rs s2 h2
      rw [wp_pure]
      exact (h1.trans h2).cast (by simp [q11_leaves])
    · simp only [wp_ite, wp_bind, wp_pure]
      refine ⟨?_, ?_⟩
      · intro hn
        refine (h1.exempt (L' := q11_leaves ret) ?_).cast (by simp [q11_leaves])
        cases ret <;> simp [namedNone] at hn
        subst hn
        intro l hl
        simp only [q11_leaves, List.mem_singleton] at hl
        subst hl
        exact Or.inl (by show (builtinName "None").isSome = true; decide)
      · intro _
        refine wp_conseq ((q11_typeStr_rg_aux env ret).1 s1) ?_; intro r s2 h2
        exact (h1.trans h2).cast (by simp [q11_leaves])
  | .set ts => by
    refine ⟨fun st => ?_, fun _ e => nomatch e⟩
    rw [typeStr, wp_bind]
    refine wp_conseq (q11_typeStrs_rg env ts st) ?_; intro types s1 h1
    simp only [wp_bind, wp_addTodo, wp_ite, wp_pure]
    have h2 := (h1.todos (insertSet "no set support" s1.todos)).cast (L' := q11_leaves (.set ts)) (by simp [q11_leaves])
    exact ⟨fun _ => h2, fun _ => ⟨fun _ => h2.todos _, fun _ => h2⟩⟩
  | .list ts => by
    refine ⟨fun st => ?_, fun _ e => nomatch e⟩
    rw [typeStr, wp_bind]
    refine wp_conseq (q11_typeStrs_rg env ts st) ?_; intro types s1 h1
    simp only [wp_bind, wp_addTodo, wp_ite, wp_pure]
    have h2 := h1.cast (L' := q11_leaves (.list ts)) (by simp [q11_leaves])
    exact ⟨fun _ => h2, fun _ => ⟨fun _ => h2.todos _, fun _ => h2⟩⟩
  | .namedSeq name q ts => by
    refine ⟨fun st => ?_, fun _ e => nomatch e⟩
    rw [typeStr, wp_bind]
    refine wp_conseq (q11_typeStrs_rg env ts st) ?_; intro types s0 h0
    rw [wp_bind]
    refine wp_conseq (q11_addToImports_rg env q s0 (.seq name q) rfl) ?_; intro _ s1 hi
    have h2 := (h0.trans hi).cast (L' := q11_leaves (.namedSeq name q ts)) (by simp [q11_leaves])
    simp only [wp_bind, wp_addTodo, wp_ite, wp_pure]
    exact ⟨fun _ => h2, fun _ => ⟨fun _ => h2.todos _, fun _ => h2⟩⟩
  | .unknown => by
    refine ⟨fun st => ?_, fun _ e => nomatch e⟩
    rw [typeStr]
    simp only [wp_bind, wp_addTodo, wp_pure]
    exact ((q11_RG.refl env st).todos _).cast (by simp [q11_leaves])
  | .union ts => by
    refine ⟨fun st => ?_, fun _ e => nomatch e⟩
    rw [typeStr]
    simp only [wp_ite, wp_bind, wp_pure]
    refine ⟨fun _ => ⟨?_, ?_⟩, fun _ => ⟨?_, ?_⟩⟩
    · intro h
      exact ((q11_RG.refl env st).exempt (q11_leavesL_exempt (q11_union_case1 h))).cast (by simp [q11_leaves])
    · intro _
      refine wp_conseq (q11_typeStrsSkipLit_rg env ts st) ?_; intro rs s1 h1
      exact h1.cast (by simp [q11_leaves])
    · intro h
      exact ((q11_RG.refl env st).exempt (q11_leavesL_exempt (q11_union_case2 h))).cast (by simp [q11_leaves])
    · intro _
      refine wp_conseq (q11_typeStrs_rg env ts st) ?_; intro rs s1 h1
      exact h1.cast (by simp [q11_leaves])
  | .tuple ts => by
    refine ⟨fun st => ?_, fun _ e pre i st => by cases e; exact q11_typeStrsNamed_rg env pre i ts st⟩
    rw [typeStr]
    simp only [wp_bind, wp_addTodo]
    refine wp_conseq (q11_typeStrs_rg env ts _) ?_; intro types s1 h1
    rw [wp_pure]
    have e : q11_Ext st { st with todos := insertSet "no tuple support" st.todos } :=
      q11_Ext.of_eq rfl rfl rfl rfl rfl
    exact ⟨e.trans h1.ext, fun l hl => h1.reg l (by simpa [q11_leaves] using hl)⟩
  | .dict k v => by
    refine ⟨fun st => ?_, fun _ e => nomatch e⟩
    rw [typeStr, wp_bind]
    refine wp_conseq ((q11_typeStr_rg_aux env k).1 st) ?_; intro ks s1 h1
    rw [wp_bind]
    refine wp_conseq ((q11_typeStr_rg_aux env v).1 s1) ?_; intro vs s2 h2
    rw [wp_pure]
    exact (h1.trans h2).cast (by simp [q11_leaves])
  | .literal ls => by
    refine ⟨fun st => ?_, fun _ e => nomatch e⟩
    rw [typeStr, wp_pure]; exact (q11_RG.refl env st).cast (by simp [q11_leaves])
  | .typeVar name => by
    refine ⟨fun st => ?_, fun _ e => nomatch e⟩
    rw [typeStr, wp_pure]; exact (q11_RG.refl env st).cast (by simp [q11_leaves])
  | .typeVarB name _ => by
    refine ⟨fun st => ?_, fun _ e => nomatch e⟩
    rw [typeStr, wp_pure]; exact (q11_RG.refl env st).cast (by simp [q11_leaves])
  | .enum _ => by
    refine ⟨fun st => ?_, fun _ e => nomatch e⟩
    rw [typeStr]; exact wp_throwG.2 trivial
  | .boundary .. => by
    refine ⟨fun st => ?_, fun _ e => nomatch e⟩
    rw [typeStr]; exact wp_throwG.2 trivial
theorem q11_typeStrs_rg (env : Env) : (ts : List AType) → ∀ st,
    wp (typeStrs env ts) (fun _ st' => q11_RG env st (q11_leavesL ts) st') st
  | [], st => by
    rw [typeStrs, wp_pure]
    exact (q11_RG.refl env st).cast (by simp [q11_leavesL])
  | t :: ts, st => by
    rw [typeStrs, wp_bind]
    refine wp_conseq ((q11_typeStr_rg_aux env t).1 st) ?_; intro a s1 h1
    rw [wp_bind]
    refine wp_conseq (q11_typeStrs_rg env ts s1) ?_; intro as s2 h2
    rw [wp_pure]
    exact (h1.trans h2).cast (by simp [q11_leavesL])
theorem q11_typeStrsSkipLit_rg (env : Env) : (ts : List AType) → ∀ st,
    wp (typeStrsSkipLit env ts) (fun _ st' => q11_RG env st (q11_leavesL ts) st') st
  | [], st => by
    rw [typeStrsSkipLit, wp_pure]
    exact (q11_RG.refl env st).cast (by simp [q11_leavesL])
  | t :: ts, st => by
    rw [typeStrsSkipLit]
    split
    · rename_i hl
      refine wp_conseq (q11_typeStrsSkipLit_rg env ts st) ?_; intro _ s1 h1
      exact h1.cast (by simp [q11_leavesL, q11_leaves_of_isLiteral hl])
    · rw [wp_bind]
      refine wp_conseq ((q11_typeStr_rg_aux env t).1 st) ?_; intro a s1 h1
      rw [wp_bind]
      refine wp_conseq (q11_typeStrsSkipLit_rg env ts s1) ?_; intro as s2 h2
      rw [wp_pure]
      exact (h1.trans h2).cast (by simp [q11_leavesL])
theorem q11_typeStrsNamed_rg (env : Env) (pre : String) (i : Nat) : (ts : List AType) → ∀ st,
    wp (typeStrsNamed env pre i ts) (fun _ st' => q11_RG env st (q11_leavesL ts) st') st
  | [], st => by
    rw [typeStrsNamed, wp_pure]
    exact (q11_RG.refl env st).cast (by simp [q11_leavesL])
  | t :: ts, st => by
    rw [typeStrsNamed, wp_bind]
    refine wp_conseq ((q11_typeStr_rg_aux env t).1 st) ?_; intro a s1 h1
    rw [wp_bind]
    refine wp_conseq (q11_typeStrsNamed_rg env pre (i + 1) ts s1) ?_; intro as s2 h2
    rw [wp_pure]
    exact (h1.trans h2).cast (by simp [q11_leavesL])
end

theorem q11_typeStr_rg (env : Env) (t : AType) (st : St) :
    wp (typeStr env t) (fun _ st' => q11_RG env st (q11_leaves t) st') st :=
  (q11_typeStr_rg_aux env t).1 st

/-! ### 4. every function of the generator only adds to `imports` / `outside` -/

/-- "above `s0`" survives every primitive of the string generation, hence (`Proofs/GenInv`) all of it -/
theorem q11_genInv (s0 : St) (env : Env) : GenInv env (q11_Ext s0) (fun _ => True) where
  errs _ _ := trivial
  addTodo _ _ := Triple.modify fun _ hs => hs.trans (.of_eq rfl rfl rfl rfl rfl)
  log _ _ hs := hs.trans (.of_eq rfl rfl rfl rfl rfl)
  addToImports q := inv_addToImports env q trivial fun s hs => hs.trans (q11_effect_ext env q s)
  hasNode n r node := Triple.of_wp fun st hs => wp_conseq (hasNodeShorterReexport_wp n r node st) fun _ _ h => by
    obtain ⟨_, rfl⟩ := h.2; exact hs.trans (.of_eq rfl rfl rfl rfl rfl)
  todoMsg i := Triple.of_wp fun st hs => wp_conseq (createTodoMsg_wp i st) fun _ _ h => by
    rw [h.2]; exact hs.trans (.of_eq rfl rfl rfl rfl rfl)
  generics _ _ hs := hs.trans (.of_eq rfl rfl rfl rfl rfl)

/-- `x` only adds to `imports` / `outside` and keeps the module identity -/
abbrev q11_Mono {α : Type} (x : G α) : Prop := ∀ s0, Inv (q11_Ext s0) (fun _ => True) x

open Lean in
macro "q11_mono" "[" ls:term,* "]" : tactic => do
  let alts ← ls.getElems.mapM fun l => `(tacticSeq| apply $l)
  `(tactic| repeat' (first
      | with_reducible exact q11_MonoAt.pure _
      | with_reducible exact q11_MonoAt.throw _
      | with_reducible exact q11_addTodo_mono _ _
      | with_reducible exact q11_logEmit_mono _ _ _
      | with_reducible assumption
      | ((with_reducible apply q11_MonoAt.modify); intro _; exact q11_Ext.of_eq rfl rfl rfl rfl rfl)
      | ((with_reducible apply q11_MonoAt.set'); (with_reducible assumption); (with_reducible rfl);
          (with_reducible rfl); (with_reducible rfl); (with_reducible rfl); (with_reducible rfl))
      | ((with_reducible apply q11_MonoAt.get_bind); intro _ _)
      $[| with_reducible $alts:tacticSeq]*
      | with_reducible apply q11_MonoAt.bind
      | intro _
      | split
      | dsimp only))

theorem q11_mono_of_at {α : Type} {x : G α} (hx : q11_Mono x) {s s' : St} {a : α}
    (h : x s = .ok (a, s')) : q11_Ext s s' :=
  Inv.rel_of_ok q11_Ext.refl hx h

theorem q11_Mono.of_ok {α : Type} {x : G α} (h : ∀ s a s', x s = .ok (a, s') → q11_Ext s s') : q11_Mono x :=
  fun _ => Triple.of_wp fun s hs a s' hx => hs.trans (h s a s' hx)

/-! ### 5. the superclass loop -/

/-- after the superclass loop every public superclass (last dot-segment without `_` prefix) is registered or
    exempt, whatever the inlining function does as long as it is monotone -/
theorem q11_superclassesG_reg (env : Env) (inline : String → G String)
    (hin : ∀ sc, q11_Mono (inline sc)) : (scs : List String) → ∀ st,
    wp (superclassesG env inline scs) (fun _ st' => q11_Ext st st' ∧
      ∀ sc ∈ scs, isInternal (lastD "" (splitDot sc)) = false → q11_RegQ env st' sc) st
  | [], st => by
    rw [superclassesG, wp_pure]
    exact ⟨q11_Ext.refl st, fun _ h => nomatch h⟩
  | sc :: scs, st => by
    rw [superclassesG]
    dsimp only
    split
    · rename_i hpub
      have hpub' : isInternal (lastD "" (splitDot sc)) = false := by simpa using hpub
      rw [wp_bind]
      apply q11_wp_addToImports
      intro _
      rw [wp_bind]
      refine wp_conseq (q11_superclassesG_reg env inline hin scs _) ?_
      rintro ⟨names, text⟩ s2 ⟨he, hr⟩
      rw [wp_pure]
      refine ⟨(q11_effect_ext env sc st).trans he, fun sc' hsc' hp => ?_⟩
      rcases List.mem_cons.1 hsc' with rfl | hsc'
      · exact (q11_effect_reg env _ st).mono he
      · exact hr sc' hsc' hp
    · rename_i hpriv
      have hpriv' : isInternal (lastD "" (splitDot sc)) = true := by simpa using hpriv
      rw [wp_bind]
      intro t s1 h1
      have he1 : q11_Ext st s1 := q11_mono_of_at (fun s0 => hin sc s0) h1
      rw [wp_bind]
      refine wp_conseq (q11_superclassesG_reg env inline hin scs s1) ?_
      rintro ⟨names, text⟩ s2 ⟨he, hr⟩
      rw [wp_pure]
      refine ⟨he1.trans he, fun sc' hsc' hp => ?_⟩
      rcases List.mem_cons.1 hsc' with rfl | hsc'
      · rw [hpriv'] at hp; exact absurd hp (by simp)
      · exact hr sc' hsc' hp

/-! ### 6. the import block -/

/-- the line `createImportsString` prints for a registered class path: the path without its last dot-segment,
    converted to the naming convention and keyword-escaped segment by segment, and the last segment, converted
    (as a non-class name) and keyword-escaped; there is never an `as` clause -/
def q11_importLine (safe : Bool) (imp : String) : String :=
  "from " ++ escapePath (convertPath (joinWith "." (dropLast' (splitDot imp))) safe) ++ " import "
    ++ escapeKeyword (convertName (lastD "" (splitDot imp)) safe)

/-- the lines of the import block: one per registered path, sorted -/
def q11_importLines (safe : Bool) (imports : List String) : List String :=
  sortStrings (imports.map (q11_importLine safe))

def q11_importBlock (safe : Bool) (imports : List String) : String :=
  if imports.isEmpty then "" else "\n" ++ joinWith "\n" (q11_importLines safe imports) ++ "\n"

theorem q11_createImportsString_eq (env : Env) (st : St) :
    createImportsString env st = .ok (q11_importBlock env.safe st.imports, st) := by
  unfold createImportsString q11_importBlock
  have hget : (get : G St) st = .ok (st, st) := rfl
  rw [bind_apply, hget]
  dsimp only
  split <;> rfl

theorem q11_mem_importLines (safe : Bool) (imports : List String) (line : String) :
    line ∈ q11_importLines safe imports ↔ ∃ imp ∈ imports, line = q11_importLine safe imp := by
  unfold q11_importLines
  rw [mem_sortStrings, List.mem_map]
  constructor
  · rintro ⟨imp, h, rfl⟩; exact ⟨imp, h, rfl⟩
  · rintro ⟨imp, h, rfl⟩; exact ⟨imp, h, rfl⟩

/-! ### 7. one stub file: reset, body, import block -/

/-- the enum part of a module stub -/
def q11_enumText (env : Env) (m : Module) : String :=
  String.join (m.enums.map fun e => "\n" ++ createEnumString env e ++ "\n")

/-- is the module published through a re-export (then nothing is moved out of it)? -/
def q11_modInRe (env : Env) (m : Module) : Bool :=
  (shortestPublicReexport env.api.reexportMap m.name "" true).1 != ""

theorem q11_createModuleString_decomp {env : Env} {m : Module} {s0 : St} {text pkg : String} {st' : St}
    (h : createModuleString env m s0 = .ok ((text, pkg), st')) :
    ∃ sA sB t1 t2,
      createFunctions env (q11_modInRe env m) m.functions s0 = .ok (t1, sA)
      ∧ createClasses env (q11_modInRe env m) m.classes sA = .ok (t2, sB)
      ∧ q11_Ext s0 sA ∧ q11_Ext sA sB
      ∧ st'.imports = sB.imports ∧ st'.outside = sB.outside ∧ q11_Ext sB st'
      ∧ pkg = modulePackage env m
      ∧ text = moduleDoc m ++ packageHeader env pkg ++ q11_importBlock env.safe sB.imports ++ t1 ++ t2
          ++ q11_enumText env m := by
  unfold createModuleString at h
  rcases hsp : shortestPublicReexport env.api.reexportMap m.name "" true with ⟨sp, al⟩
  rw [hsp] at h
  simp only at h
  have hh := se_bind_ok h; clear h; obtain ⟨t1, sA, h1, h⟩ := hh
  have hh := se_bind_ok h; clear h; obtain ⟨t2, sB, h2, h⟩ := hh
  have hh := se_bind_ok h; clear h; obtain ⟨_, s3, h3, h⟩ := hh
  have e3 := se_modify_ok h3
  have hh := se_bind_ok h; clear h; obtain ⟨imports, s4, h4, h⟩ := hh
  rw [q11_createImportsString_eq] at h4
  simp only [Except.ok.injEq, Prod.mk.injEq] at h4
  obtain ⟨hi, hs4⟩ := h4
  obtain ⟨h, hst⟩ := se_pure_ok h
  simp only [Prod.mk.injEq] at h
  obtain ⟨ht, hp⟩ := h
  have hre : q11_modInRe env m = (sp != "") := by unfold q11_modInRe; rw [hsp]
  have hp' : pkg = modulePackage env m := by
    unfold modulePackage; rw [hsp]; exact hp
  have hs3i : s3.imports = sB.imports := by rw [e3]
  have hs3o : s3.outside = sB.outside := by rw [e3]
  refine ⟨sA, sB, t1, t2, by rw [hre]; exact h1, by rw [hre]; exact h2,
    q11_mono_of_at (fun s0 => inv_createFunctions (q11_genInv s0 env) _ _) h1,
    q11_mono_of_at (fun s0 => inv_createClasses (q11_genInv s0 env) _ _) h2,
    by rw [hst, ← hs4, hs3i], by rw [hst, ← hs4, hs3o],
    by rw [hst, ← hs4, e3]; exact q11_Ext.of_eq rfl rfl rfl rfl rfl, hp', ?_⟩
  rw [ht, ← hi, hs3i, hp]
  unfold moduleDoc q11_enumText
  simp only [String.append_assoc]

/-- the state in which the body of a module stub starts -/
def q11_moduleStart (m : Module) (st : St) : St :=
  let s1 := { st with log := st.log ++ [("module", m.id)] }
  let s2 := if s1.creatingReexport then { s1 with reexportModuleId := m.id } else { s1 with moduleId := m.id }
  { s2 with reexportModuleId := "", classGenerics := [], imports := [], todos := [] }

theorem q11_callGenerator_eq (env : Env) (m : Module) (st : St) :
    callGenerator env m st = createModuleString env m (q11_moduleStart m st) := rfl

theorem q11_createReexportElements_cons {env : Env} {moduleId : String} {el : Node} {els : List Node} {st st' : St}
    {ds : List StubData} (h : createReexportElements env moduleId (el :: els) st = .ok (ds, st')) :
    ∃ body sB rest,
      (q11_reexportStart moduleId el st).imports = []
      ∧ q11_reexportBody env el (q11_reexportStart moduleId el st) = .ok (body, sB)
      ∧ q11_Ext (q11_reexportStart moduleId el st) sB
      ∧ createReexportElements env moduleId els sB = .ok (rest, st')
      ∧ ds = { dir := getModuleId sB, name := el.name,
               text := packageHeader env (joinWith "." (dropLast' (splitSlash (getModuleId sB))))
                 ++ q11_importBlock env.safe sB.imports ++ "\n" ++ body ++ "\n",
               isPackageModule := true } :: rest := by
  obtain ⟨body, sB, imports, sI, rest, hbody, hi, hr, rfl⟩ := createReexportElements_cons_ok h
  rw [q11_createImportsString_eq] at hi
  obtain ⟨rfl, rfl⟩ := Prod.mk.inj (Except.ok.inj hi)
  have hext : q11_Ext (q11_reexportStart moduleId el st) sB := by
    cases el with
    | cls c => exact q11_mono_of_at (fun s0 => inv_createClassString (q11_genInv s0 env) _ c "" true) hbody
    | fn f => exact q11_mono_of_at (fun s0 => inv_createFunctionString (q11_genInv s0 env) f "" false true) hbody
  have himp : (q11_reexportStart moduleId el st).imports = [] := by
    unfold q11_reexportStart
    dsimp only
    split <;> rfl
  exact ⟨body, sB, rest, himp, hbody, hext, hr, by rw [← hext.getModuleId]⟩

/-! ### 8. placeholder stubs -/

/-- the class name a placeholder stub declares for class path `c` -/
def q11_placeholderClassName (safe : Bool) (c : String) : String :=
  escapeKeyword (convertName (lastD "" (splitDot c)) safe true)

/-- the name the import line for class path `c` mentions -/
def q11_importedName (safe : Bool) (c : String) : String :=
  escapeKeyword (convertName (lastD "" (splitDot c)) safe)

/-- the package path both the import line and the placeholder's package line spell -/
def q11_packageText (safe : Bool) (c : String) : String :=
  escapePath (convertPath (joinWith "." (dropLast' (splitDot c))) safe)

theorem q11_importLine_eq (safe : Bool) (c : String) :
    q11_importLine safe c = "from " ++ q11_packageText safe c ++ " import " ++ q11_importedName safe c := rfl

theorem q11_outsideHeader_eq (safe : Bool) (c : String) :
    ∃ ann, outsideHeader safe c = ann ++ "package " ++ q11_packageText safe c ++ "\n"
      ∧ (ann = "" ∨ ann = "@PythonModule(\"" ++ joinWith "." (dropLast' (splitDot c)) ++ "\")\n") := by
  unfold outsideHeader outsidePyPath q11_packageText
  split
  · exact ⟨_, rfl, Or.inr rfl⟩
  · exact ⟨"", rfl, Or.inl rfl⟩

theorem q11_outsideClassText_eq (safe : Bool) (c : String) :
    ∃ ann, outsideClassText (lastD "" (splitDot c)) safe = ann ++ "\nclass " ++ q11_placeholderClassName safe c ++ "\n"
      ∧ (ann = "" ∨ ann = "\n" ++ nameAnnotation (lastD "" (splitDot c))) := by
  unfold outsideClassText q11_placeholderClassName
  dsimp only
  split
  · exact ⟨_, rfl, Or.inr rfl⟩
  · exact ⟨"", rfl, Or.inl rfl⟩

/-- every class path handed to the placeholder loop gets an operation on its file: a `write` of package
    header and class, or an `append` of the class -/
theorem q11_outsideWrites_each (safe : Bool) : ∀ (cs created existing : List String) (ops : List WriteOp),
    outsideWrites safe cs created existing = .ok ops → ∀ c ∈ cs, ∃ op ∈ ops, op.path = outsideFile c
      ∧ ((op.mode = .append ∧ op.text = outsideClassText (lastD "" (splitDot c)) safe)
         ∨ (op.mode = .write ∧ op.text = outsideHeader safe c ++ outsideClassText (lastD "" (splitDot c)) safe))
  | [], _, _, _, _, c, hc => nomatch hc
  | c0 :: cs, created, existing, ops, h, c, hc => by
    obtain ⟨op0, created', ops', hr, hr2, rfl⟩ := outsideWrites_cons_ok h
    rcases List.mem_cons.1 hc with rfl | hc
    · obtain ⟨_, hp, _, hcase⟩ := createOutsidePackageClass_ok hr
      refine ⟨op0, by simp, hp, ?_⟩
      rcases hcase with ⟨hm, ht, _⟩ | ⟨hm, ht, _⟩
      · exact Or.inl ⟨hm, ht⟩
      · exact Or.inr ⟨hm, ht⟩
    · obtain ⟨op, hop, hr⟩ := q11_outsideWrites_each safe cs created' _ ops' hr2 c hc
      exact ⟨op, List.mem_cons_of_mem _ hop, hr⟩

/-- every class path `addToImports` queues for a placeholder has a module path (a dot) -/
theorem q11_effect_outside_dotted {env : Env} {q : String} {st : St} (c : String)
    (hc : c ∈ (q11_effect env q st).outside) : c ∈ st.outside ∨ (c = q ∧ '.' ∈ q.toList) := by
  by_cases h : q11_exempt q = true ∨ q11_sameModule st q = true
  · rw [q11_effect_skip h] at hc; exact Or.inl hc
  · have h1 : q11_exempt q = false := by
      cases hh : q11_exempt q with
      | true => exact absurd (Or.inl hh) h
      | false => rfl
    have h2 : q11_sameModule st q = false := by
      cases hh : q11_sameModule st q with
      | true => exact absurd (Or.inr hh) h
      | false => rfl
    rw [q11_effect_outside h1 h2] at hc
    split at hc
    · rcases (mem_insertSet _ _ _).1 hc with hc | rfl
      · exact Or.inl hc
      · refine Or.inr ⟨rfl, ?_⟩
        unfold q11_exempt at h1
        simp only [Bool.or_eq_false_iff] at h1
        have hlen : (splitDot c).length ≠ 1 := by simpa using h1.2
        by_contra hn
        have h0 := (dropLast'_splitDot_eq_nil c).2 hn
        have hne : splitDot c ≠ [] := pySplit_ne_nil '.' c
        match hq : splitDot c with
        | [] => exact hne hq
        | [_] => rw [hq] at hlen; exact hlen rfl
        | a :: b :: r => rw [hq] at h0; simp [dropLast'] at h0
    · exact Or.inl hc

/-! ### 9. exact outcome of rendering a `NamedType` -/

theorem q11_typeStr_named_ok {env : Env} {name qname : String} {st st' : St} {text : String}
    (h : typeStr env (.named name qname) st = .ok (text, st')) :
    (∃ b, builtinName name = some b ∧ text = b ∧ st' = st)
    ∨ (builtinName name = none ∧ qname ≠ "" ∧ name ≠ "" ∧ text = escapeKeyword name
        ∧ ∃ td, st' = { q11_effect env qname st with todos := td }) := by
  rw [typeStr] at h
  cases hb : builtinName name with
  | some b =>
    rw [hb] at h
    obtain ⟨e1, e2⟩ := se_pure_ok h
    exact Or.inl ⟨b, rfl, e1, e2⟩
  | none =>
    rw [hb] at h
    right
    have hh := se_bind_ok h; clear h; obtain ⟨_, s1, h1, h⟩ := hh
    obtain ⟨hq, rfl⟩ := q11_addToImports_ok h1
    cases hc : name.toList with
    | nil =>
      rw [hc] at h
      exact absurd h (by simp [throwG])
    | cons c tl =>
      rw [hc] at h
      dsimp only at h
      have hne : name ≠ "" := by
        intro e; rw [e] at hc; simp at hc
      have hh := se_bind_ok h; clear h; obtain ⟨sa, s2, h2, h⟩ := hh
      obtain ⟨rfl, rfl⟩ := se_get_ok h2
      split at h
      · have hh := se_bind_ok h; clear h; obtain ⟨_, s3, h3, h⟩ := hh
        unfold addTodo at h3
        have e3 := se_modify_ok h3
        obtain ⟨rfl, rfl⟩ := se_pure_ok h
        exact ⟨rfl, hq, hne, rfl, st'.todos, by rw [e3]⟩
      · obtain ⟨rfl, rfl⟩ := se_pure_ok h
        -- (a plain `rfl` would unfold `q11_effect`)
        refine ⟨rfl, hq, hne, rfl, (q11_effect env qname st).todos, ?_⟩
        generalize q11_effect env qname st = s
        cases s
        rfl

/-! ### 10. end to end: the class names in the signature of a function are registered -/

/-- every successful run of `x` grows the state and leaves the occurrences `L` registered or exempt -/
structure q11_Regs (env : Env) (L : List q11_Leaf) {α : Type} (x : G α) : Prop where
  run : ∀ st a st', x st = .ok (a, st') → q11_RG env st L st'

namespace q11_Regs
variable {env : Env} {α β : Type}

theorem of_mono {x : G α} (h : q11_Mono x) : q11_Regs env [] x :=
  ⟨fun _ _ _ hr => ⟨q11_mono_of_at h hr, fun _ hl => nomatch hl⟩⟩

theorem pure (a : α) : q11_Regs env [] (Pure.pure a : G α) := of_mono (fun _ => Inv.pure a)

theorem bind {L1 L2 : List q11_Leaf} {x : G α} {f : α → G β} (hx : q11_Regs env L1 x)
    (hf : ∀ a, q11_Regs env L2 (f a)) : q11_Regs env (L1 ++ L2) (x >>= f) := by
  refine ⟨fun st b st' h => ?_⟩
  obtain ⟨a, s1, h1, h2⟩ := se_bind_ok h
  exact (hx.run st a s1 h1).trans ((hf a).run s1 b st' h2)

/-- fewer occurrences, or occurrences that are exempt anyway -/
theorem weaken {L L' : List q11_Leaf} {x : G α} (hx : q11_Regs env L x)
    (h : ∀ l ∈ L', l ∈ L ∨ q11_LeafExempt l) : q11_Regs env L' x := by
  refine ⟨fun st a st' hr => ⟨(hx.run st a st' hr).ext, fun l hl => ?_⟩⟩
  rcases h l hl with h1 | h1
  · exact (hx.run st a st' hr).reg l h1
  · exact h1.imp id Or.inl

theorem cast {L L' : List q11_Leaf} {x : G α} (hx : q11_Regs env L x) (e : L = L') : q11_Regs env L' x := e ▸ hx

end q11_Regs

theorem q11_typeStr_regs (env : Env) (t : AType) : q11_Regs env (q11_leaves t) (typeStr env t) :=
  ⟨fun st a st' h => q11_typeStr_rg env t st a st' h⟩

/-- the class-name occurrences in the type of a parameter -/
def q11_paramLeaves (p : Parameter) : List q11_Leaf :=
  match p.type with
  | some t => q11_leaves t
  | none => []

def q11_paramsLeaves (ps : List Parameter) : List q11_Leaf := ps.flatMap q11_paramLeaves

theorem q11_leaves_vararg (a : Assign) (t : AType) :
    q11_leaves (match a, t with
      | .positionalVararg, .tuple ts => AType.list ts
      | _, t => t) = q11_leaves t := by
  split <;> simp [q11_leaves]

theorem q11_RG.of_ext {env : Env} {st st' : St} (h : q11_Ext st st') : q11_RG env st [] st' :=
  ⟨h, fun _ hl => nomatch hl⟩

theorem q11_RG.ext_left {env : Env} {s0 s1 s2 : St} {L : List q11_Leaf} (he : q11_Ext s0 s1)
    (h : q11_RG env s1 L s2) : q11_RG env s0 L s2 := ((q11_RG.of_ext he).trans h).cast (List.nil_append _)

theorem q11_RG.ext_right {env : Env} {s0 s1 s2 : St} {L : List q11_Leaf} (h : q11_RG env s0 L s1)
    (he : q11_Ext s1 s2) : q11_RG env s0 L s2 := (h.trans (q11_RG.of_ext he)).cast (List.append_nil _)

theorem q11_createParameter_regs (env : Env) (p : Parameter) :
    q11_Regs env (q11_paramLeaves p) (createParameter env p) := by
  refine ⟨fun st a st' h => ?_⟩
  unfold createParameter at h
  have hh := se_bind_ok h; clear h; obtain ⟨tv, s1, h1, h⟩ := hh
  have he2 : q11_Ext s1 st' := q11_mono_of_at (fun s0 => by gen_hoare (q11_genInv s0 env) []) h
  refine q11_RG.ext_right ?_ he2
  clear h he2
  unfold q11_paramLeaves
  cases hp : p.type with
  | none =>
    rw [hp] at h1
    dsimp only at h1
    exact q11_RG.of_ext (q11_mono_of_at (fun s0 => by gen_hoare (q11_genInv s0 env) []) h1)
  | some t =>
    rw [hp] at h1
    dsimp only at h1
    split at h1 <;>
    · have hh := se_bind_ok h1; clear h1; obtain ⟨value, s2, h2, h1⟩ := hh
      have he1 : q11_Ext st s2 := q11_mono_of_at (fun s0 => by gen_hoare (q11_genInv s0 env) [inv_defaultString (q11_genInv s0 env)]) h2
      have hh := se_bind_ok h1; clear h1; obtain ⟨ts, s3, h3, h1⟩ := hh
      obtain ⟨_, rfl⟩ := se_pure_ok h1
      exact q11_RG.ext_left he1 (((q11_typeStr_regs env _).run _ _ _ h3).cast (q11_leaves_vararg _ _))

theorem q11_createParameters_regs (env : Env) :
    (ps : List Parameter) → q11_Regs env (q11_paramsLeaves ps) (createParameters env ps)
  | [] => by unfold createParameters; exact q11_Regs.pure _
  | p :: ps => by
    unfold createParameters
    refine (q11_Regs.bind (q11_createParameter_regs env p) (fun _ =>
      (q11_Regs.bind (L2 := []) (q11_createParameters_regs env ps) (fun _ => q11_Regs.pure _)))).cast ?_
    simp [q11_paramsLeaves]

/-- the parameters that are printed: all but `self` -/
def q11_shownParams (params : List Parameter) (isInstanceMethod : Bool) : List Parameter :=
  if isInstanceMethod then params.drop 1 else params

theorem q11_createParameterString_regs (env : Env) (params : List Parameter) (indent : String) (im : Bool) :
    q11_Regs env (q11_paramsLeaves (q11_shownParams params im)) (createParameterString env params indent im) := by
  unfold createParameterString
  dsimp only
  refine (q11_Regs.bind (L2 := []) (q11_createParameters_regs env _)
    (fun _ => q11_Regs.of_mono (fun s0 => by gen_hoare (q11_genInv s0 env) []))).cast (by simp [q11_shownParams])

/-- the class-name occurrences in the types of the results -/
def q11_resultLeaves (rs : List Result) : List q11_Leaf :=
  rs.flatMap fun r => match r.type with
    | some t => q11_leaves t
    | none => []

theorem q11_createResults_regs (env : Env) :
    (rs : List Result) → q11_Regs env (q11_resultLeaves rs) (createResults env rs)
  | [] => by unfold createResults; exact q11_Regs.pure _
  | r :: rs => by
    unfold createResults
    cases hr : r.type with
    | none =>
      dsimp only
      exact (q11_createResults_regs env rs).cast (by simp [q11_resultLeaves, hr])
    | some t =>
      dsimp only
      refine (q11_Regs.bind (q11_typeStr_regs env t) (fun _ =>
        (q11_Regs.bind (L2 := []) (q11_createResults_regs env rs) (fun _ => q11_Regs.pure _)))).cast ?_
      simp [q11_resultLeaves, hr]

theorem q11_resultLeaves_onlyNone {rs : List Result} (h : Spec.onlyNoneResult rs = true) :
    ∀ l ∈ q11_resultLeaves rs, q11_LeafExempt l := by
  match rs, h with
  | [r], h =>
    have h' : Spec.isNoneResult r = true := h
    unfold Spec.isNoneResult at h'
    intro l hl
    simp only [q11_resultLeaves, List.flatMap_cons, List.flatMap_nil, List.append_nil] at hl
    cases ht : r.type with
    | none => rw [ht] at hl; simp at hl
    | some t =>
      rw [ht] at hl h'
      dsimp only at hl
      cases t <;> simp at h'
      subst h'
      simp only [q11_leaves, List.mem_singleton] at hl
      subst hl
      exact Or.inr q11_exempt_builtinsNone

theorem q11_createResultString_regs (env : Env) (rs : List Result) :
    q11_Regs env (q11_resultLeaves rs) (createResultString env rs) := by
  rw [mk_createResultString_eq]
  split
  · rename_i honly
    exact (q11_Regs.pure (env := env) "").weaken (fun l hl => Or.inr (q11_resultLeaves_onlyNone honly l hl))
  · unfold mk_resultStringBody
    exact (q11_Regs.bind (L2 := []) (q11_createResults_regs env rs)
      (fun r => q11_Regs.of_mono (fun s0 => by gen_hoare (q11_genInv s0 env) []))).cast (by simp)

/-- the class-name occurrences in the signature of a function (the bounds of its type variables are not
    tracked here) -/
def q11_funLeaves (f : Function) (isMethod : Bool) : List q11_Leaf :=
  q11_paramsLeaves (q11_shownParams f.params (!f.isStatic && isMethod)) ++ q11_resultLeaves f.results

theorem q11_wp_ext {α : Type} {x : G α} (h : q11_Mono x) (st : St) :
    wp x (fun _ st' => q11_Ext st st') st := fun _ _ hr => q11_mono_of_at h hr

theorem q11_functionBody_regs (env : Env) (f : Function) (indent : String) (isMethod : Bool) :
    q11_Regs env (q11_funLeaves f isMethod) (functionBody env f indent isMethod) := by
  refine ⟨fun st => ?_⟩
  show wp (functionBody env f indent isMethod) (fun _ st' => q11_RG env st (q11_funLeaves f isMethod) st') st
  unfold functionBody
  simp only [wp_bind, wp_logEmit, wp_condTodo]
  have e1 : q11_Ext st (if f.isClassMethod = true then
      { ({ st with log := st.log ++ [("fun", f.id)] } : St) with
        todos := insertSet "class_method" ({ st with log := st.log ++ [("fun", f.id)] } : St).todos }
      else { st with log := st.log ++ [("fun", f.id)] }) := by
    split <;> exact q11_Ext.of_eq rfl rfl rfl rfl rfl
  refine wp_conseq ((q11_createParameterString_regs env _ _ _).run _) ?_; intro fp s3 r3
  refine wp_conseq (q11_wp_ext (fun s0 => inv_typeVarStrings (q11_genInv s0 env) _ _) _) ?_; intro tvs s4 e4
  refine wp_conseq ((q11_createResultString_regs env _).run _) ?_; intro rs s5 r5
  refine wp_conseq (q11_wp_ext (fun s0 => (q11_genInv s0 env).todoMsg _) _) ?_; intro todo s6 e6
  rw [wp_pure]
  exact q11_RG.ext_left e1 ((r3.ext_right e4).trans (r5.ext_right e6))

/-- a function that is not moved to a re-export stub has the class names of its signature registered -/
theorem q11_createFunctionString_reg (env : Env) (f : Function) (indent : String) (isMethod inRe : Bool) (st : St) :
    wp (createFunctionString env f indent isMethod inRe) (fun _ st' => q11_Ext st st' ∧
      (n03_movedB (getModuleId st) isMethod inRe f.reexportedBy = false →
        ∀ l ∈ q11_funLeaves f isMethod, q11_RegLeaf env st' l)) st := by
  intro text st' h
  refine ⟨q11_mono_of_at (fun s0 => inv_createFunctionString (q11_genInv s0 env) f indent isMethod inRe) h, fun hm => ?_⟩
  rw [createFunctionString_eq] at h
  split at h
  · rename_i hc
    have hh := se_bind_ok h; clear h; obtain ⟨b, s1, h1, h⟩ := hh
    obtain ⟨hb, hs1⟩ := n03_hasNodeShorterReexport_wp _ _ _ st b s1 h1
    have hbf : b = false := by
      rw [hb]
      unfold n03_movedB at hm
      simp only [Bool.and_eq_true, Bool.not_eq_true'] at hc
      rw [hc.1, hc.2] at hm
      simpa using hm
    subst hbf
    simp only [Bool.false_eq_true, if_false] at hs1 h
    subst hs1
    exact ((q11_functionBody_regs env f indent isMethod).run _ _ _ h).reg
  · exact ((q11_functionBody_regs env f indent isMethod).run _ _ _ h).reg

/-- the module-level functions of a stub: every public function that stays in the stub has the class names of
    its signature registered at the end -/
theorem q11_createFunctions_reg (env : Env) (inRe : Bool) : (fs : List Function) → ∀ st,
    wp (createFunctions env inRe fs) (fun _ st' => q11_Ext st st' ∧
      ∀ f ∈ fs, f.isPublic = true → n03_movedB (getModuleId st) false inRe f.reexportedBy = false →
        ∀ l ∈ q11_funLeaves f false, q11_RegLeaf env st' l) st
  | [], st => by
    rw [createFunctions, wp_pure]
    exact ⟨q11_Ext.refl st, fun _ h => nomatch h⟩
  | f :: fs, st => by
    rw [createFunctions, wp_bind]
    intro t s1 h1
    have he1 : q11_Ext st s1 := by
      split at h1
      · exact q11_mono_of_at (fun s0 => inv_createFunctionString (q11_genInv s0 env) f "" false inRe) h1
      · obtain ⟨_, rfl⟩ := se_pure_ok h1; exact q11_Ext.refl _
    rw [wp_bind]
    refine wp_conseq (q11_createFunctions_reg env inRe fs s1) ?_
    rintro rest s2 ⟨he2, hr2⟩
    rw [wp_pure]
    refine ⟨he1.trans he2, fun f' hf' hpub hmv l hl => ?_⟩
    rcases List.mem_cons.1 hf' with rfl | hf'
    · rw [if_pos hpub] at h1
      exact ((q11_createFunctionString_reg env f' "" false inRe st t s1 h1).2 hmv l hl).mono he2
    · exact hr2 f' hf' hpub (by rw [he1.getModuleId]; exact hmv) l hl

/-! ### 11. end to end: the class names in a class block -/

theorem q11_Regs.wp {env : Env} {L : List q11_Leaf} {α : Type} {x : G α} (h : q11_Regs env L x) (st : St) :
    StubGen.wp x (fun _ st' => q11_RG env st L st') st := h.run st

def q11_typeParamLeaves (tps : List TypeParam) : List q11_Leaf :=
  tps.flatMap fun tp => match tp.type with
    | some t => q11_leaves t
    | none => []

theorem q11_typeParamStrings_regs (env : Env) :
    (tps : List TypeParam) → q11_Regs env (q11_typeParamLeaves tps) (typeParamStrings env tps)
  | [] => by unfold typeParamStrings; exact q11_Regs.pure _
  | tp :: tps => by
    refine ⟨fun st => ?_⟩
    show StubGen.wp (typeParamStrings env (tp :: tps)) (fun _ st' => q11_RG env st _ st') st
    rw [typeParamStrings]
    simp only [wp_bind]
    refine wp_conseq (q11_wp_ext (fun s0 => inv_varianceKeyword _) _) ?_; intro dir s1 e1
    cases ht : tp.type with
    | none =>
      simp only [wp_pure]
      refine wp_conseq ((q11_typeParamStrings_regs env tps).wp _) ?_; intro rest s2 r2
      exact (q11_RG.ext_left e1 r2).cast (by simp [q11_typeParamLeaves, ht])
    | some t =>
      simp only [wp_bind, wp_pure]
      refine wp_conseq ((q11_typeStr_regs env t).wp _) ?_; intro ts s2 r2
      refine wp_conseq ((q11_typeParamStrings_regs env tps).wp _) ?_; intro rest s3 r3
      exact ((q11_RG.ext_left e1 r2).trans r3).cast (by simp [q11_typeParamLeaves, ht])

/-- the class-name occurrences in the type of an attribute that is printed -/
def q11_attrLeaves (a : Attribute) : List q11_Leaf :=
  if a.isPublic && !isTypeVarType a.type then
    (match a.type with
     | some t => q11_leaves t
     | none => [])
  else []

theorem q11_createAttribute_regs (env : Env) (a : Attribute) (inner : String) :
    q11_Regs env (q11_attrLeaves a) (createAttribute env a inner) := by
  refine ⟨fun st => ?_⟩
  show StubGen.wp (createAttribute env a inner) (fun _ st' => q11_RG env st _ st') st
  unfold createAttribute q11_attrLeaves
  rw [wp_ite]
  refine ⟨fun h => ?_, fun h => ?_⟩
  · rw [wp_pure]
    have : a.isPublic = false := by simpa using h
    simp only [this, Bool.false_and, Bool.false_eq_true, if_false]
    exact q11_RG.refl env st
  rw [wp_ite]
  refine ⟨fun h2 => ?_, fun h2 => ?_⟩
  · rw [wp_pure]
    simp only [h2, Bool.not_true, Bool.and_false, Bool.false_eq_true, if_false]
    exact q11_RG.refl env st
  have hp : a.isPublic = true := by simpa using h
  have hv : isTypeVarType a.type = false := by simpa using h2
  simp only [hp, hv, Bool.not_false, Bool.and_self, if_true]
  simp only [wp_bind, wp_logEmit]
  have e1 : q11_Ext st { st with log := st.log ++ [("attr", a.id)] } := q11_Ext.of_eq rfl rfl rfl rfl rfl
  have r2 : StubGen.wp (typeStrOpt env a.type) (fun _ st' => q11_RG env { st with log := st.log ++ [("attr", a.id)] }
      (match a.type with
       | some t => q11_leaves t
       | none => []) st') { st with log := st.log ++ [("attr", a.id)] } := by
    cases a.type with
    | none => rw [typeStrOpt, wp_pure]; exact q11_RG.refl env _
    | some t => rw [typeStrOpt]; exact (q11_typeStr_regs env t).wp _
  refine wp_conseq r2 ?_; intro t s2 r2
  simp only [wp_condTodo, wp_bind]
  refine wp_conseq (q11_wp_ext (fun s0 => (q11_genInv s0 env).todoMsg _) _) ?_; intro todo s3 e3
  rw [wp_pure]
  have e2' : ∀ (c : Prop) [Decidable c], q11_Ext s2 (if c then
      { s2 with todos := insertSet "attr without type" s2.todos } else s2) := by
    intro c _
    split
    · exact q11_Ext.of_eq rfl rfl rfl rfl rfl
    · exact q11_Ext.refl _
  exact q11_RG.ext_left e1 (r2.ext_right ((e2' _).trans e3))

def q11_attrsLeaves (as : List Attribute) : List q11_Leaf := as.flatMap q11_attrLeaves

theorem q11_createAttributes_regs (env : Env) (inner : String) :
    (as : List Attribute) → q11_Regs env (q11_attrsLeaves as) (createAttributes env inner as)
  | [] => by unfold createAttributes; exact q11_Regs.pure _
  | a :: as => by
    refine ⟨fun st => ?_⟩
    show StubGen.wp (createAttributes env inner (a :: as)) (fun _ st' => q11_RG env st _ st') st
    rw [createAttributes]
    simp only [wp_bind]
    refine wp_conseq ((q11_createAttribute_regs env a inner).wp _) ?_; intro r s1 r1
    refine wp_conseq ((q11_createAttributes_regs env inner as).wp _) ?_; rintro ⟨texts, names⟩ s2 r2
    have : q11_RG env st (q11_attrsLeaves (a :: as)) s2 := (r1.trans r2).cast (by simp [q11_attrsLeaves])
    dsimp only
    split <;> (rw [wp_pure]; exact this)

theorem q11_createClassAttributeString_regs (env : Env) (as : List Attribute) (inner : String) :
    q11_Regs env (q11_attrsLeaves as) (createClassAttributeString env as inner) := by
  refine ⟨fun st => ?_⟩
  show StubGen.wp (createClassAttributeString env as inner) (fun _ st' => q11_RG env st _ st') st
  unfold createClassAttributeString
  simp only [wp_bind]
  refine wp_conseq ((q11_createAttributes_regs env inner as).wp _) ?_; rintro ⟨texts, names⟩ s1 r1
  dsimp only
  rw [wp_pure]; exact r1

theorem q11_leavesL_filterMap (rs : List Result) :
    q11_leavesL (rs.filterMap (·.type)) = q11_resultLeaves rs := by
  induction rs with
  | nil => simp [q11_leavesL, q11_resultLeaves]
  | cons r rs ih =>
    have ih' : q11_leavesL (rs.filterMap (·.type)) = rs.flatMap fun r => match r.type with
        | some t => q11_leaves t
        | none => [] := ih
    cases ht : r.type with
    | none => simp [ht, q11_resultLeaves, ih']
    | some t => simp [ht, q11_resultLeaves, q11_leavesL, ih']

theorem q11_createPropertyFunctionString_regs (env : Env) (f : Function) (indent : String) :
    q11_Regs env (q11_resultLeaves f.results) (createPropertyFunctionString env f indent) := by
  refine ⟨fun st => ?_⟩
  show StubGen.wp (createPropertyFunctionString env f indent) (fun _ st' => q11_RG env st _ st') st
  unfold createPropertyFunctionString
  simp only [wp_bind, wp_logEmit]
  have e1 : q11_Ext st { st with log := st.log ++ [("prop", f.id)] } := q11_Ext.of_eq rfl rfl rfl rfl rfl
  refine wp_conseq ((q11_typeStr_regs env _).wp _) ?_; intro t s2 r2
  refine wp_conseq (q11_wp_ext (fun s0 => (q11_genInv s0 env).todoMsg _) _) ?_; intro todo s3 e3
  rw [wp_pure]
  exact ((q11_RG.ext_left e1 r2).ext_right e3).cast (by simp [q11_leaves, q11_leavesL_filterMap])

/-- the class-name occurrences in the methods of a class block that are printed -/
def q11_methodsLeaves (isInternalClass : Bool) (ad : List String) (ms : List Function) : List q11_Leaf :=
  ms.flatMap fun m =>
    if methodSkipped m isInternalClass ad then []
    else if m.isProperty then q11_resultLeaves m.results else q11_funLeaves m true

theorem q11_createMethods_regs (env : Env) (inner : String) (isInt : Bool) (ad : List String) :
    (ms : List Function) → q11_Regs env (q11_methodsLeaves isInt ad ms) (createMethods env inner isInt ad ms)
  | [] => by unfold createMethods; exact q11_Regs.pure _
  | m :: ms => by
    refine ⟨fun st => ?_⟩
    show StubGen.wp (createMethods env inner isInt ad (m :: ms)) (fun _ st' => q11_RG env st _ st') st
    rw [createMethods]
    rw [wp_ite]
    refine ⟨fun h => ?_, fun h => ?_⟩
    · exact wp_conseq ((q11_createMethods_regs env inner isInt ad ms).wp _) fun _ _ r =>
        r.cast (by simp [q11_methodsLeaves, h])
    have h' : methodSkipped m isInt ad = false := by simpa using h
    rw [wp_ite]
    refine ⟨fun hp => ?_, fun hp => ?_⟩
    · simp only [wp_bind]
      refine wp_conseq ((q11_createPropertyFunctionString_regs env m inner).wp _) ?_; intro t s1 r1
      refine wp_conseq ((q11_createMethods_regs env inner isInt ad ms).wp _) ?_; rintro ⟨props, meths, names⟩ s2 r2
      dsimp only
      rw [wp_pure]
      exact (r1.trans r2).cast (by simp [q11_methodsLeaves, h', hp])
    · have hp' : m.isProperty = false := by simpa using hp
      simp only [wp_bind]
      have r0 : StubGen.wp (createFunctionString env m inner true) (fun _ st' => q11_RG env st (q11_funLeaves m true) st') st := by
        intro t s1 h1
        obtain ⟨he, hr⟩ := q11_createFunctionString_reg env m inner true false st t s1 h1
        exact ⟨he, hr (by simp [n03_movedB])⟩
      refine wp_conseq r0 ?_; intro t s1 r1
      refine wp_conseq ((q11_createMethods_regs env inner isInt ad ms).wp _) ?_; rintro ⟨props, meths, names⟩ s2 r2
      dsimp only
      rw [wp_pure]
      exact (r1.trans r2).cast (by simp [q11_methodsLeaves, h', hp'])

theorem q11_createClassMethodString_regs (env : Env) (ms : List Function) (inner : String) (isInt : Bool)
    (ad : List String) :
    q11_Regs env (q11_methodsLeaves isInt ad ms) (createClassMethodString env ms inner isInt ad) := by
  refine ⟨fun st => ?_⟩
  show StubGen.wp (createClassMethodString env ms inner isInt ad) (fun _ st' => q11_RG env st _ st') st
  unfold createClassMethodString
  simp only [wp_bind]
  refine wp_conseq ((q11_createMethods_regs env inner isInt ad ms).wp _) ?_; rintro ⟨props, meths, names⟩ s1 r1
  dsimp only
  rw [wp_pure]; exact r1

/-- the public superclasses, as occurrences -/
def q11_superLeaves (scs : List String) : List q11_Leaf :=
  (scs.filter fun sc => !isInternal (lastD "" (splitDot sc))).map fun sc => .super (lastD "" (splitDot sc)) sc

theorem q11_superclassesG_regs (env : Env) (inline : String → G String)
    (hin : ∀ sc, q11_Mono (inline sc)) (scs : List String) :
    q11_Regs env (q11_superLeaves scs) (superclassesG env inline scs) := by
  refine ⟨fun st r st' h => ?_⟩
  obtain ⟨he, hr⟩ := q11_superclassesG_reg env inline hin scs st r st' h
  refine ⟨he, fun l hl => ?_⟩
  unfold q11_superLeaves at hl
  rw [List.mem_map] at hl
  obtain ⟨sc, hsc, rfl⟩ := hl
  rw [List.mem_filter] at hsc
  exact Or.inr (hr sc hsc.1 (by simpa using hsc.2))

/-- the class-name occurrences in the constructor of a class block -/
def q11_ctorLeaves (c : Class) : List q11_Leaf :=
  if c.isAbstract then []
  else match c.ctor with
    | some ctor => q11_paramsLeaves (q11_shownParams ctor.params true)
    | none => []

/-- the class-name occurrences in a class block (the methods of INLINED private superclasses are not tracked) -/
def q11_classLeaves : Nat → Class → List q11_Leaf
  | 0, _ => []
  | fuel + 1, c =>
    q11_ctorLeaves c ++ (if !c.typeParams.isEmpty || !(match c.ctor with
        | some ctor => ctor.typeVars
        | none => []).isEmpty then q11_typeParamLeaves c.typeParams else [])
      ++ q11_attrsLeaves c.attributes
      ++ (c.classes.filter (·.isPublic)).flatMap (q11_classLeaves fuel)
      ++ q11_methodsLeaves false [] c.methods
      ++ (if !c.renderedSupers.isEmpty && !c.isAbstract then q11_superLeaves c.renderedSupers else [])

theorem q11_innerClassesG_regs (env : Env) (render : Class → G String) (F : Class → List q11_Leaf)
    (hr : ∀ c, q11_Regs env (F c) (render c)) :
    (cs : List Class) → q11_Regs env (cs.flatMap F) (innerClassesG render cs)
  | [] => by unfold innerClassesG; exact q11_Regs.pure _
  | c :: cs => by
    refine ⟨fun st => ?_⟩
    show StubGen.wp (innerClassesG render (c :: cs)) (fun _ st' => q11_RG env st _ st') st
    rw [innerClassesG]
    simp only [wp_bind]
    refine wp_conseq ((hr c).wp _) ?_; intro t s1 r1
    refine wp_conseq ((q11_innerClassesG_regs env render F hr cs).wp _) ?_; intro rest s2 r2
    rw [wp_pure]
    exact (r1.trans r2).cast (by simp)

theorem q11_wp_ite_rg {env : Env} {α : Type} {b : Bool} {x y : G α} {L1 L2 : List q11_Leaf}
    (hx : q11_Regs env L1 x) (hy : q11_Regs env L2 y) (s : St) :
    wp (if b = true then x else y) (fun _ st' => q11_RG env s (if b = true then L1 else L2) st') s := by
  cases b with
  | false => simp only [Bool.false_eq_true, if_false]; exact hy.wp s
  | true => simp only [if_true]; exact hx.wp s

theorem q11_classBody_regs (env : Env) (fuel : Nat) (c : Class) (indent : String)
    (ih : ∀ ic ind, q11_Regs env (q11_classLeaves fuel ic) (createClassString env fuel ic ind true)) :
    q11_Regs env (q11_classLeaves (fuel + 1) c) (classBody env fuel c indent) := by
  refine ⟨fun st => ?_⟩
  show StubGen.wp (classBody env fuel c indent) (fun _ st' => q11_RG env st _ st') st
  unfold classBody
  simp only [wp_bind, wp_logEmit]
  have e0 : q11_Ext st { st with log := st.log ++ [("class", c.id)] } := q11_Ext.of_eq rfl rfl rfl rfl rfl
  -- constructor
  refine wp_conseq (q11_wp_ite_rg (env := env) (L1 := []) (L2 := match c.ctor with
      | some ctor => q11_paramsLeaves (q11_shownParams ctor.params true)
      | none => []) (q11_Regs.pure _) ?_ _) ?_
  · refine ⟨fun s a s' h => ?_⟩
    have hh := se_bind_ok h; clear h; obtain ⟨p, s1, h1, h⟩ := hh
    obtain ⟨_, rfl⟩ := se_pure_ok h
    cases hc : c.ctor with
    | none =>
      rw [hc] at h1
      obtain ⟨_, rfl⟩ := se_pure_ok h1
      exact q11_RG.refl env _
    | some ctor =>
      rw [hc] at h1
      exact (q11_createParameterString_regs env ctor.params indent true).run _ _ _ h1
  intro ci s1 r1
  -- the generics of the surrounding class are put aside
  rw [wp_get, wp_modify]
  generalize hs1 : ({ s1 with classGenerics := [] } : St) = s1'
  have e1 : q11_Ext s1 s1' := by rw [← hs1]; exact q11_Ext.of_eq rfl rfl rfl rfl rfl
  -- type parameters
  refine wp_conseq (q11_wp_ite_rg (env := env) (L1 := q11_typeParamLeaves c.typeParams) (L2 := [])
    ((q11_Regs.bind (L2 := []) (q11_typeParamStrings_regs env c.typeParams)
      (fun items => q11_Regs.of_mono (fun s0 => by gen_hoare (q11_genInv s0 env) []))).cast (List.append_nil _))
    (q11_Regs.pure _) _) ?_
  intro vi s2 r2
  refine wp_conseq (q11_wp_ext (fun s0 => (q11_genInv s0 env).todoMsg _) _) ?_; intro t1 s3 e3
  refine wp_conseq ((q11_createClassAttributeString_regs env c.attributes _).wp _) ?_
  rintro ⟨attrText, attrNames⟩ s4 r4
  dsimp only
  refine wp_conseq ((q11_innerClassesG_regs env _ (q11_classLeaves fuel)
    (fun ic => ih ic (indent ++ indentation)) _).wp _) ?_
  intro innerText s5 r5
  refine wp_conseq ((q11_createClassMethodString_regs env c.methods _ false []).wp _) ?_
  rintro ⟨methodText, methodNames⟩ s6 r6
  dsimp only
  -- superclasses
  refine wp_conseq (q11_wp_ite_rg (env := env) (L1 := q11_superLeaves c.renderedSupers) (L2 := [])
    ((q11_Regs.bind (L2 := []) (q11_superclassesG_regs env _
        (fun sc s0 => inv_createInternalClassString (q11_genInv s0 env) fuel sc _ _) c.renderedSupers)
      (fun r => q11_Regs.of_mono (fun s0 => by gen_hoare (q11_genInv s0 env) []))).cast (List.append_nil _))
    (q11_Regs.pure _) _) ?_
  rintro ⟨superInfo, superMethodsText, nNames⟩ s7 r7
  dsimp only
  simp only [wp_condTodo, wp_bind]
  refine wp_conseq (q11_wp_ext (fun s0 => (q11_genInv s0 env).todoMsg _) _) ?_; intro t2 s8 e8
  rw [wp_modify]
  generalize hs9 : ({ s8 with classGenerics := s1.classGenerics } : St) = s9
  have e8' : q11_Ext s8 s9 := by rw [← hs9]; exact q11_Ext.of_eq rfl rfl rfl rfl rfl
  simp only [wp_logEmit, wp_ite, wp_pure]
  have e7 : ∀ (cnd : Prop) [Decidable cnd], q11_Ext s7 (if cnd then
      { s7 with todos := insertSet "multiple_inheritance" s7.todos } else s7) := by
    intro cnd _
    split
    · exact q11_Ext.of_eq rfl rfl rfl rfl rfl
    · exact q11_Ext.refl _
  have e9 : q11_Ext s9 { s9 with log := s9.log ++ [("endclass", c.id)] } := q11_Ext.of_eq rfl rfl rfl rfl rfl
  have fin : q11_RG env st (q11_classLeaves (fuel + 1) c) { s9 with log := s9.log ++ [("endclass", c.id)] } := by
    have := ((((((q11_RG.ext_left e0 r1).ext_right e1).trans (r2.ext_right e3)).trans r4).trans r5).trans r6).trans
      (r7.ext_right ((((e7 _).trans e8).trans e8').trans e9))
    refine this.cast ?_
    simp only [q11_classLeaves, q11_ctorLeaves]
    rfl
  exact ⟨fun _ => fin, fun _ => fin⟩

theorem q11_createClassString_regs (env : Env) : (fuel : Nat) → ∀ (c : Class) (indent : String),
    q11_Regs env (q11_classLeaves fuel c) (createClassString env fuel c indent true)
  | 0, c, indent => ⟨fun st => by
      show StubGen.wp (createClassString env 0 c indent true) _ st
      rw [createClassString]; exact wp_throwG.2 trivial⟩
  | fuel + 1, c, indent => by
    have ih := fun ic ind => q11_createClassString_regs env fuel ic ind
    rw [createClassString_eq]
    simp only [Bool.not_true, Bool.false_eq_true, if_false]
    exact q11_classBody_regs env fuel c indent ih

/-- a class that is not moved to a re-export stub has the class names of its block registered -/
theorem q11_createClassString_reg (env : Env) (fuel : Nat) (c : Class) (indent : String) (inRe : Bool) (st : St) :
    wp (createClassString env fuel c indent inRe) (fun _ st' => q11_Ext st st' ∧
      (n03_movedB (getModuleId st) false inRe c.reexportedBy = false →
        ∀ l ∈ q11_classLeaves fuel c, q11_RegLeaf env st' l)) st := by
  intro text st' h
  refine ⟨q11_mono_of_at (fun s0 => inv_createClassString (q11_genInv s0 env) fuel c indent inRe) h, fun hm => ?_⟩
  cases fuel with
  | zero => intro l hl; simp [q11_classLeaves] at hl
  | succ fuel =>
    have hbody := q11_classBody_regs env fuel c indent (fun ic ind => q11_createClassString_regs env fuel ic ind)
    rw [createClassString_eq] at h
    split at h
    · rename_i hc
      have hh := se_bind_ok h; clear h; obtain ⟨b, s1, h1, h⟩ := hh
      obtain ⟨hb, hs1⟩ := n03_hasNodeShorterReexport_wp _ _ _ st b s1 h1
      have hbf : b = false := by
        rw [hb]
        unfold n03_movedB at hm
        have hc' : inRe = false := by simpa using hc
        rw [hc'] at hm
        simpa using hm
      subst hbf
      simp only [Bool.false_eq_true, if_false] at hs1 h
      subst hs1
      exact (hbody.run _ _ _ h).reg
    · exact (hbody.run _ _ _ h).reg

/-- the classes of a module stub -/
theorem q11_createClasses_reg (env : Env) (inRe : Bool) : (cs : List Class) → ∀ st,
    wp (createClasses env inRe cs) (fun _ st' => q11_Ext st st' ∧
      ∀ c ∈ cs, c.isPublic = true → c.inheritsFromException = false →
        n03_movedB (getModuleId st) false inRe c.reexportedBy = false →
        ∀ l ∈ q11_classLeaves (classFuel env) c, q11_RegLeaf env st' l) st
  | [], st => by
    rw [createClasses, wp_pure]
    exact ⟨q11_Ext.refl st, fun _ h => nomatch h⟩
  | c :: cs, st => by
    rw [createClasses, wp_bind]
    intro t s1 h1
    have he1 : q11_Ext st s1 := by
      split at h1
      · exact q11_mono_of_at (fun s0 => inv_createClassString (q11_genInv s0 env) _ c "" inRe) h1
      · obtain ⟨_, rfl⟩ := se_pure_ok h1; exact q11_Ext.refl _
    rw [wp_bind]
    refine wp_conseq (q11_createClasses_reg env inRe cs s1) ?_
    rintro rest s2 ⟨he2, hr2⟩
    rw [wp_pure]
    refine ⟨he1.trans he2, fun c' hc' hpub hex hmv l hl => ?_⟩
    rcases List.mem_cons.1 hc' with rfl | hc'
    · rw [if_pos (by simp [hpub, hex])] at h1
      exact ((q11_createClassString_reg env _ c' "" inRe st t s1 h1).2 hmv l hl).mono he2
    · exact hr2 c' hc' hpub hex (by rw [he1.getModuleId]; exact hmv) l hl

end StubGen
