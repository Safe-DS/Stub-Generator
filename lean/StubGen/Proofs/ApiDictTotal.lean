/-
`dataclasses.asdict` + `json.dump` of a docstring type fails only on an `EnumType` (frozenset); the docstring parser
never produces one.
-/
import StubGen.Model.ApiDict
import StubGen.Proofs.DocTypes

namespace StubGen

mutual
def AType.noEnum : AType → Bool
  | .enum _ => false
  | .namedSeq _ _ ts => AType.noEnumL ts
  | .union ts => AType.noEnumL ts
  | .list ts => AType.noEnumL ts
  | .set ts => AType.noEnumL ts
  | .tuple ts => AType.noEnumL ts
  | .dict k v => k.noEnum && v.noEnum
  | .callable ps r => AType.noEnumL ps && r.noEnum
  | .final t => t.noEnum
  | .typeVarB _ u => u.noEnum
  | _ => true
def AType.noEnumL : List AType → Bool
  | [] => true
  | t :: ts => t.noEnum && AType.noEnumL ts
end

theorem noEnumL_append (a b : List AType) : AType.noEnumL (a ++ b) = (AType.noEnumL a && AType.noEnumL b) := by
  induction a with
  | nil => simp [AType.noEnumL]
  | cons t ts ih => simp [AType.noEnumL, ih, Bool.and_assoc]

mutual
theorem asdict_ok_of_noEnum : ∀ (t : AType), t.noEnum = true → ∃ j, t.asdict = .ok j
  | .unknown, _ => ⟨_, rfl⟩
  | .named _ _, _ => ⟨_, rfl⟩
  | .namedSeq n q ts, h => by
    simp only [AType.noEnum] at h
    obtain ⟨js, hjs⟩ := asdictL_ok_of_noEnum ts h
    simp only [AType.asdict, hjs, bind, Except.bind, pure, Except.pure]; exact ⟨_, rfl⟩
  | .enum _, h => by simp [AType.noEnum] at h
  | .boundary _ _ _ _ _, _ => ⟨_, rfl⟩
  | .union ts, h => by
    simp only [AType.noEnum] at h
    obtain ⟨js, hjs⟩ := asdictL_ok_of_noEnum ts h
    simp only [AType.asdict, hjs, bind, Except.bind, pure, Except.pure]; exact ⟨_, rfl⟩
  | .list ts, h => by
    simp only [AType.noEnum] at h
    obtain ⟨js, hjs⟩ := asdictL_ok_of_noEnum ts h
    simp only [AType.asdict, hjs, bind, Except.bind, pure, Except.pure]; exact ⟨_, rfl⟩
  | .set ts, h => by
    simp only [AType.noEnum] at h
    obtain ⟨js, hjs⟩ := asdictL_ok_of_noEnum ts h
    simp only [AType.asdict, hjs, bind, Except.bind, pure, Except.pure]; exact ⟨_, rfl⟩
  | .tuple ts, h => by
    simp only [AType.noEnum] at h
    obtain ⟨js, hjs⟩ := asdictL_ok_of_noEnum ts h
    simp only [AType.asdict, hjs, bind, Except.bind, pure, Except.pure]; exact ⟨_, rfl⟩
  | .dict k v, h => by
    simp only [AType.noEnum, Bool.and_eq_true] at h
    obtain ⟨jk, hk⟩ := asdict_ok_of_noEnum k h.1
    obtain ⟨jv, hv⟩ := asdict_ok_of_noEnum v h.2
    simp only [AType.asdict, hk, hv, bind, Except.bind, pure, Except.pure]; exact ⟨_, rfl⟩
  | .callable ps r, h => by
    simp only [AType.noEnum, Bool.and_eq_true] at h
    obtain ⟨js, hjs⟩ := asdictL_ok_of_noEnum ps h.1
    obtain ⟨jr, hr⟩ := asdict_ok_of_noEnum r h.2
    simp only [AType.asdict, hjs, hr, bind, Except.bind, pure, Except.pure]; exact ⟨_, rfl⟩
  | .literal _, _ => ⟨_, rfl⟩
  | .final t, h => by
    simp only [AType.noEnum] at h
    obtain ⟨j, hj⟩ := asdict_ok_of_noEnum t h
    simp only [AType.asdict, hj, bind, Except.bind, pure, Except.pure]; exact ⟨_, rfl⟩
  | .typeVar _, _ => ⟨_, rfl⟩
  | .typeVarB _ u, h => by
    simp only [AType.noEnum] at h
    obtain ⟨j, hj⟩ := asdict_ok_of_noEnum u h
    simp only [AType.asdict, hj, bind, Except.bind, pure, Except.pure]; exact ⟨_, rfl⟩
theorem asdictL_ok_of_noEnum : ∀ (ts : List AType), AType.noEnumL ts = true → ∃ js, AType.asdictL ts = .ok js
  | [], _ => ⟨_, rfl⟩
  | t :: ts, h => by
    simp only [AType.noEnumL, Bool.and_eq_true] at h
    obtain ⟨j, hj⟩ := asdict_ok_of_noEnum t h.1
    obtain ⟨js, hjs⟩ := asdictL_ok_of_noEnum ts h.2
    simp only [AType.asdictL, hj, hjs, bind, Except.bind, pure, Except.pure]; exact ⟨_, rfl⟩
end

theorem noEnum_any : AType.noEnum anyType = true := by decide
theorem noEnum_none : AType.noEnum noneType = true := by decide

theorem noEnum_headD (ts : List AType) (h : AType.noEnumL ts = true) : AType.noEnum (ts.headD anyType) = true := by
  cases ts with
  | nil => exact noEnum_any
  | cons a _ => simp only [AType.noEnumL, Bool.and_eq_true] at h; exact h.1

theorem noEnum_getD1 (ts : List AType) (h : AType.noEnumL ts = true) : AType.noEnum (ts.getD 1 anyType) = true := by
  match ts, h with
  | [], _ => exact noEnum_any
  | [_], _ => exact noEnum_any
  | _ :: b :: _, h =>
    simp only [AType.noEnumL, Bool.and_eq_true] at h
    exact h.2.1

theorem noEnumL_of_forall (ts : List AType) (h : ∀ t ∈ ts, t.noEnum = true) : AType.noEnumL ts = true := by
  induction ts with
  | nil => rfl
  | cons a as ih =>
    simp only [AType.noEnumL, Bool.and_eq_true]
    exact ⟨h a (by simp), ih (fun t ht => h t (by simp [ht]))⟩

theorem noEnum_nameTable (p n : String) : ((v13_nameTable.lookup p).getD (.named n p)).noEnum = true := by
  simp only [v13_nameTable, List.lookup]
  repeat' split
  all_goals rfl

theorem noEnum_subscriptType (p n : String) (types : List AType) (ht : AType.noEnumL types = true) :
    (v13_subscriptType p n types).noEnum = true := by
  have h1 := noEnum_headD types ht
  have h2 := noEnum_getD1 types ht
  unfold v13_subscriptType
  split
  · exact ht
  split
  · exact ht
  split
  · exact ht
  split
  · split
    · rfl
    · simp only [AType.noEnumL, AType.noEnum, Bool.and_eq_true] at ht ⊢
      exact ⟨ht.1, noEnum_headD _ ht.2⟩
    · simp only [AType.noEnumL, AType.noEnum, Bool.and_eq_true] at ht ⊢
      exact ⟨⟨ht.1, trivial⟩, noEnum_headD _ ht.2⟩
  split
  · simp only [AType.noEnum, Bool.and_eq_true]; exact ⟨h1, h2⟩
  split
  · simp only [AType.noEnum, noEnumL_append, ht, AType.noEnumL, noEnum_none, Bool.and_self]
  · exact ht

theorem docType_noEnum_lt (k : Nat) : ∀ e : GExpr, sizeOf e < k → ∀ t, v13_docType e = some t → t.noEnum = true := by
  induction k with
  | zero => intro e h; exact absurd h (Nat.not_lt_zero _)
  | succ k ih =>
    intro e h t ht
    have hm : ∀ es l : List GExpr, sizeOf es < k → l ⊆ es → AType.noEnumL (l.filterMap v13_docType) = true := by
      intro es l hes hsub
      apply noEnumL_of_forall
      intro x hx
      obtain ⟨e', he', hx'⟩ := List.mem_filterMap.mp hx
      exact ih e' (Nat.lt_trans (List.sizeOf_lt_of_mem (hsub he')) hes) x hx'
    cases e with
    | name p n =>
      rw [v13_docType] at ht
      cases ht
      exact noEnum_nameTable p n
    | subscript p n slice =>
      cases slice with
      | tuple es =>
        rw [v13_docType] at ht
        cases ht
        exact noEnum_subscriptType p n _ (hm es es (by simp at h; omega) (List.Subset.refl _))
      | _ =>
        rw [v13_docType] at ht
        · cases ht
          apply noEnum_subscriptType
          apply noEnumL_of_forall
          intro x hx
          simp only [Option.mem_toList] at hx
          exact ih _ (by simp at h ⊢; omega) x hx
        all_goals (intro es he; cases he)
    | tuple es =>
      rw [v13_docType] at ht
      cases ht
      have := hm es _ (by simp at h; omega) (List.filter_subset_self (l := es) (p := fun e => !isOptionalMarker e))
      split
      · simp only [AType.noEnum, noEnumL_append, this, AType.noEnumL, noEnum_none, Bool.and_self]
      · exact this
    | list es | boolOp es | binOp es =>
      rw [v13_docType] at ht
      cases ht
      exact hm es es (by simp at h; omega) (List.Subset.refl _)
    | str raw cut parsed =>
      cases parsed with
      | none =>
        rw [v13_docType] at ht
        split at ht
        · cases ht; exact noEnum_none
        · cases ht
      | some e' =>
        rw [v13_docType] at ht
        exact ih e' (by simp at h ⊢; omega) t ht
    | other =>
      rw [v13_docType] at ht
      cases ht; rfl

/-- `_griffe_annotation_to_api_type` never yields an `EnumType` (at any depth) -/
theorem annToType_noEnum (e : GExpr) (t : AType) (h : annToType e = some t) : t.noEnum = true := by
  rw [v13_docType_eq] at h
  exact docType_noEnum_lt (sizeOf e + 1) e (Nat.lt_succ_self _) t h

end StubGen
