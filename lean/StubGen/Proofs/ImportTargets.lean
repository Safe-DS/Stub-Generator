/-
What `_add_to_imports` can add to the import set of a stub, and when it is a bracket-free qualified name.
-/
import StubGen.Proofs.ShortestMem
import StubGen.Proofs.Imports
import StubGen.Proofs.Doc

namespace StubGen

theorem it_replace_slash (id : String) : replaceChar id '/' "." = joinWith "." (splitSlash id) :=
  replaceChar_eq_joinWith id '/' '.' "." (by decide)

theorem it_splitDot_dotted (id : String) (h : sm_idBal id = true) :
    splitDot (joinWith "." (splitSlash id)) = splitSlash id :=
  sm_pySplit_join _ (sm_splitSlash_ne_nil id) h

/-- the path registered for a class of the package: its own dotted id, or `<re-exporting package>.<class name>` -/
theorem it_classTarget_bal (env : Env) (c : Class) (hc : sm_idBal c.id = true)
    (hre : ∀ kv ∈ env.api.reexportMap, ∀ r ∈ kv.2, sm_idBal r.id = true) :
    Spec.pathBal (q11_classTarget env c) = true := by
  unfold q11_classTarget
  dsimp only
  rw [it_replace_slash, it_splitDot_dotted c.id hc]
  have hname : Convertible (lastD "" (splitSlash c.id)).toList = true := by
    unfold sm_idBal at hc
    exact List.all_eq_true.mp hc _ (lastD_mem "" _ (sm_splitSlash_ne_nil c.id))
  rcases sm_shortest_is_reexporter env.api.reexportMap (lastD "" (splitSlash c.id)) (joinWith "." (splitSlash c.id)) false
    with h | ⟨kv, hkv, r, hr, h⟩
  · rw [h]
    simp only [bne_self_eq_false, Bool.false_eq_true, if_false]
    exact sm_pathBal_dotted c.id hc
  · split
    · rw [h]
      have hr' := hre kv hkv r hr
      have e : joinWith "." (splitSlash r.id) ++ "." ++ lastD "" (splitSlash c.id)
          = joinWith "." (splitSlash r.id ++ [lastD "" (splitSlash c.id)]) := by
        rw [joinWith_append "." _ _ (sm_splitSlash_ne_nil r.id) (by simp)]
        simp [joinWith]
      rw [e]
      apply sm_pathBal_join _ (by simp)
      unfold sm_idBal at hr'
      simp only [List.all_append, Bool.and_eq_true, List.all_cons, List.all_nil, Bool.and_true]
      exact ⟨hr', hname⟩
    · exact sm_pathBal_dotted c.id hc

/-- … so the path registered for a request `q` is bracket-free when `q` is and the ids of the package are -/
theorem it_target_bal (env : Env) (q : String) (hq : Spec.pathBal q = true)
    (hcls : ∀ c ∈ env.api.classes, sm_idBal c.id = true)
    (hre : ∀ kv ∈ env.api.reexportMap, ∀ r ∈ kv.2, sm_idBal r.id = true) :
    Spec.pathBal (q11_target env q) = true := by
  unfold q11_target
  split
  · rename_i c hfound
    have hmem : c ∈ env.api.classes := by
      unfold q11_found at hfound
      exact List.mem_of_find?_eq_some hfound
    split
    · exact it_classTarget_bal env c (hcls c hmem) hre
    · exact hq
  · exact hq

/-- ONE REGISTRATION STEP keeps the import set bracket-free -/
theorem it_addToImports_keeps (env : Env) (q : String) (st st' : St) (u : Unit)
    (h : addToImports env q st = .ok (u, st')) (hq : Spec.pathBal q = true)
    (hcls : ∀ c ∈ env.api.classes, sm_idBal c.id = true)
    (hre : ∀ kv ∈ env.api.reexportMap, ∀ r ∈ kv.2, sm_idBal r.id = true)
    (hst : ∀ imp ∈ st.imports, Spec.pathBal imp = true) :
    ∀ imp ∈ st'.imports, Spec.pathBal imp = true := by
  obtain ⟨_, rfl⟩ := q11_addToImports_ok h
  intro imp himp
  by_cases hs : q11_exempt q = true ∨ q11_sameModule st q = true
  · rw [q11_effect_skip hs] at himp; exact hst imp himp
  · rw [not_or, Bool.not_eq_true, Bool.not_eq_true] at hs
    rw [q11_effect_imports hs.1 hs.2] at himp
    split at himp
    · exact hst imp himp
    · rcases (mem_insertSet _ _ _).1 himp with hm | e
      · exact hst imp hm
      · rw [e]; exact it_target_bal env q hq hcls hre

end StubGen
