/-
One walk through the stub generator for every state invariant.

`GenInv env P E`: the state predicate `P` survives the generator's state-changing primitives (`addTodo` with a key of
the message table, writing to the log, `addToImports`, `hasNodeShorterReexport`, `createTodoMsg`, the `classGenerics`
updates), which raise errors in `E` only, and `E` admits the errors the generator's own code raises.  Then every
function up to `createModuleString` maintains `P` and raises errors in `E` only (`inv_…`).  `RunInv` adds the updates
made between modules (`setModuleId`, the resets of `callGenerator` and of the re-export phase); with it the same holds
up to `generateStubData`.

Instances: the frame of the re-export phase (`Proofs/Files`), "imports and placeholders only grow"
(`Proofs/Imports`), "every pending key has a message" and its refinements (`Proofs/Totality`).
-/
import StubGen.Proofs.Hoare
import StubGen.Proofs.Markers
import StubGen.Model.Files

namespace StubGen

/-- the key has a message in the generator's table -/
@[reducible] def o01_hasMsg (k : String) : Prop := (assocGet? Generated.todoMessages k).isSome = true

/-- the exceptions the generator's own code can raise -/
def o01_errs : List PyErr := [.valueError, .indexError, .lookupError, .unsupported]

structure GenInv (env : Env) (P : St → Prop) (E : PyErr → Prop) : Prop where
  /-- the generator throws these itself, so `E` must admit them (total correctness is therefore not an instance) -/
  errs : ∀ e ∈ o01_errs, E e
  /-- only keys of the message table are ever added (every call site has a literal key, or `Set`/`List`) -/
  addTodo : ∀ k, o01_hasMsg k → Inv P E (addTodo k)
  /-- `logEmit`, and the enum entries `createModuleString` appends in one step -/
  log : ∀ s l, P s → P { s with log := s.log ++ l }
  addToImports : ∀ q, Inv P E (addToImports env q)
  hasNode : ∀ n r node, Inv P E (hasNodeShorterReexport n r node)
  todoMsg : ∀ i, Inv P E (createTodoMsg i)
  /-- `createClassString` clears, sets and restores the generics of the class it renders -/
  generics : ∀ s g, P s → P { s with classGenerics := g }

structure RunInv (env : Env) (P : St → Prop) (E : PyErr → Prop) : Prop extends GenInv env P E where
  setModuleId : ∀ id, Inv P E (setModuleId id)
  /-- the start of a module stub in `callGenerator` -/
  reset : ∀ s, P s → P { s with reexportModuleId := "", classGenerics := [], imports := [], todos := [] }
  /-- the start of a re-export stub in `createReexportElements` -/
  resetImports : ∀ s, P s → P { s with imports := [], classGenerics := [] }
  /-- `createReexportModules` switches the flag off to set the module id and on again -/
  flag : ∀ s b, P s → P { s with creatingReexport := b }

/-- the three variance names are keys of the generated table: no `KeyError` -/
theorem varianceKeyword_eq (v : Variance) :
    varianceKeyword v = pure (match v with | .invariant => "" | .covariant => "out " | .contravariant => "in ") := by
  cases v <;> rfl

theorem getClassInPackage_err {env : Env} {sc : String} {e : PyErr}
    (h : getClassInPackage env sc = .error e) : e = .lookupError := by
  unfold getClassInPackage at h
  dsimp only at h
  split at h
  · cases h
  · split at h
    · cases h
    · cases h; rfl

section Gen
variable {env : Env} {P : St → Prop} {E : PyErr → Prop}

theorem inv_throw (h : GenInv env P E) {α : Type} {e : PyErr} (he : e ∈ o01_errs) : Inv P E (throwG e : G α) :=
  Triple.throw (h.errs e he)

theorem inv_log (h : GenInv env P E) (l : List LogEntry) : Inv P E (modify fun s => { s with log := s.log ++ l } : G PUnit) :=
  Triple.modify fun s hs => h.log s l hs

theorem inv_logEmit (h : GenInv env P E) (k i : String) : Inv P E (logEmit k i) := inv_log h _

theorem inv_generics (h : GenInv env P E) (g : List String) : Inv P E (modify fun s => { s with classGenerics := g } : G PUnit) :=
  Triple.modify fun s hs => h.generics s g hs

theorem inv_varianceKeyword (v : Variance) : Inv P E (varianceKeyword v) := by
  rw [varianceKeyword_eq]; exact Inv.pure _

/-- `hoare` with the primitives of a `GenInv`; side goals (`k` has a message, `e ∈ o01_errs`) are closed by `decide` -/
macro "gen_hoare" h:term:max "[" ls:term,* "]" : tactic =>
  `(tactic| hoare [inv_throw $h, GenInv.addTodo $h, inv_logEmit $h, inv_log $h, inv_generics $h, $ls,*])

mutual
/-- the second component serves the `callable` case, which renders the members of a result tuple by name without
    rendering the tuple: structural recursion needs the fact about the members of `ret` from the call on `ret` -/
theorem inv_typeStr_aux (h : GenInv env P E) : (t : AType) → Inv P E (typeStr env t) ∧
    ∀ ts, t = .tuple ts → ∀ pre i, Inv P E (typeStrsNamed env pre i ts)
  | .named name qname => by
    refine ⟨?_, fun ts e => by cases e⟩
    unfold typeStr
    gen_hoare h [h.addToImports]
  | .final t => by
    have := (inv_typeStr_aux h t).1
    refine ⟨?_, fun ts e => by cases e⟩
    unfold typeStr
    exact this
  | .callable params ret => by
    have h1 := inv_typeStrsNamed h "param_" 1 params
    have h2 := (inv_typeStr_aux h ret).1
    have h3 : ∀ ts, ret = .tuple ts → Inv P E (typeStrsNamed env "result_" 1 ts) :=
      fun ts e => (inv_typeStr_aux h ret).2 ts e "result_" 1
    refine ⟨?_, fun ts e => by cases e⟩
    unfold typeStr
    gen_hoare h [h3 _ rfl]
  | .set ts | .list ts => by
    have h1 := inv_typeStrs h ts
    refine ⟨?_, fun ts e => by cases e⟩
    unfold typeStr
    gen_hoare h []
  | .namedSeq name _ ts => by
    have h1 := inv_typeStrs h ts
    refine ⟨?_, fun ts e => by cases e⟩
    unfold typeStr
    gen_hoare h [h.addToImports]
    rename_i hc
    simp only [Bool.and_eq_true, Bool.or_eq_true, beq_iff_eq] at hc
    rcases hc.2 with e | e <;> rw [e] <;> decide
  | .union ts => by
    have h1 := inv_typeStrs h ts
    have h2 := inv_typeStrsSkipLit h ts
    refine ⟨?_, fun ts e => by cases e⟩
    unfold typeStr
    gen_hoare h []
  | .tuple ts => by
    have h1 := inv_typeStrs h ts
    have h2 := fun pre i => inv_typeStrsNamed h pre i ts
    refine ⟨?_, fun ts' e pre i => by cases e; exact h2 pre i⟩
    unfold typeStr
    gen_hoare h []
  | .dict k v => by
    have h1 := (inv_typeStr_aux h k).1
    have h2 := (inv_typeStr_aux h v).1
    refine ⟨?_, fun ts e => by cases e⟩
    unfold typeStr
    gen_hoare h []
  | .unknown | .literal _ | .typeVar _ | .typeVarB .. | .enum _ | .boundary .. => by
    refine ⟨?_, fun ts e => by cases e⟩
    unfold typeStr
    gen_hoare h []
theorem inv_typeStrs (h : GenInv env P E) : (ts : List AType) → Inv P E (typeStrs env ts)
  | [] => by unfold typeStrs; gen_hoare h []
  | t :: ts => by
    have h1 := (inv_typeStr_aux h t).1
    have h2 := inv_typeStrs h ts
    unfold typeStrs
    gen_hoare h []
theorem inv_typeStrsSkipLit (h : GenInv env P E) : (ts : List AType) → Inv P E (typeStrsSkipLit env ts)
  | [] => by unfold typeStrsSkipLit; gen_hoare h []
  | t :: ts => by
    have h1 := (inv_typeStr_aux h t).1
    have h2 := inv_typeStrsSkipLit h ts
    unfold typeStrsSkipLit
    gen_hoare h []
theorem inv_typeStrsNamed (h : GenInv env P E) (pre : String) (i : Nat) :
    (ts : List AType) → Inv P E (typeStrsNamed env pre i ts)
  | [] => by unfold typeStrsNamed; gen_hoare h []
  | t :: ts => by
    have h1 := (inv_typeStr_aux h t).1
    have h2 := inv_typeStrsNamed h pre (i + 1) ts
    unfold typeStrsNamed
    gen_hoare h []
end

theorem inv_typeStr (h : GenInv env P E) (t : AType) : Inv P E (typeStr env t) := (inv_typeStr_aux h t).1

theorem inv_typeStrOpt (h : GenInv env P E) (t : Option AType) : Inv P E (typeStrOpt env t) := by
  unfold typeStrOpt
  gen_hoare h [inv_typeStr h]

theorem inv_defaultString (h : GenInv env P E) (a : Assign) (d : DefaultVal) : Inv P E (defaultString a d) := by
  unfold defaultString
  gen_hoare h []

theorem inv_createParameter (h : GenInv env P E) (p : Parameter) : Inv P E (createParameter env p) := by
  unfold createParameter
  gen_hoare h [inv_typeStr h, inv_defaultString h]

theorem inv_createParameters (h : GenInv env P E) : (ps : List Parameter) → Inv P E (createParameters env ps)
  | [] => by unfold createParameters; gen_hoare h []
  | p :: ps => by
    have := inv_createParameters h ps
    unfold createParameters
    gen_hoare h [inv_createParameter h]

theorem inv_createParameterString (h : GenInv env P E) (ps : List Parameter) (indent : String) (b : Bool) :
    Inv P E (createParameterString env ps indent b) := by
  unfold createParameterString
  gen_hoare h [inv_createParameters h]

theorem inv_createResults (h : GenInv env P E) : (rs : List Result) → Inv P E (createResults env rs)
  | [] => by unfold createResults; gen_hoare h []
  | r :: rs => by
    have := inv_createResults h rs
    unfold createResults
    gen_hoare h [inv_typeStr h]

theorem inv_createResultString (h : GenInv env P E) (rs : List Result) : Inv P E (createResultString env rs) := by
  unfold createResultString
  gen_hoare h [inv_createResults h]

theorem inv_typeVarStrings (h : GenInv env P E) (b : Bool) : (tvs : List TypeVar) → Inv P E (typeVarStrings env b tvs)
  | [] => by unfold typeVarStrings; gen_hoare h []
  | tv :: tvs => by
    have := inv_typeVarStrings h b tvs
    unfold typeVarStrings
    gen_hoare h [inv_typeStr h]

theorem inv_createFunctionString (h : GenInv env P E) (f : Function) (indent : String) (b1 b2 : Bool) :
    Inv P E (createFunctionString env f indent b1 b2) := by
  unfold createFunctionString
  gen_hoare h [h.hasNode, inv_createParameterString h, inv_typeVarStrings h,
    inv_createResultString h, h.todoMsg]

theorem inv_createPropertyFunctionString (h : GenInv env P E) (f : Function) (indent : String) :
    Inv P E (createPropertyFunctionString env f indent) := by
  unfold createPropertyFunctionString
  gen_hoare h [inv_typeStr h, h.todoMsg]

theorem inv_createAttribute (h : GenInv env P E) (a : Attribute) (inner : String) :
    Inv P E (createAttribute env a inner) := by
  unfold createAttribute
  gen_hoare h [inv_typeStrOpt h, h.todoMsg]

theorem inv_createAttributes (h : GenInv env P E) (inner : String) :
    (as : List Attribute) → Inv P E (createAttributes env inner as)
  | [] => by unfold createAttributes; gen_hoare h []
  | a :: as => by
    have := inv_createAttributes h inner as
    unfold createAttributes
    gen_hoare h [inv_createAttribute h]

theorem inv_createClassAttributeString (h : GenInv env P E) (as : List Attribute) (inner : String) :
    Inv P E (createClassAttributeString env as inner) := by
  unfold createClassAttributeString
  gen_hoare h [inv_createAttributes h]

theorem inv_createMethods (h : GenInv env P E) (inner : String) (b : Bool) (ad : List String) :
    (ms : List Function) → Inv P E (createMethods env inner b ad ms)
  | [] => by unfold createMethods; gen_hoare h []
  | m :: ms => by
    have := inv_createMethods h inner b ad ms
    unfold createMethods
    gen_hoare h [inv_createPropertyFunctionString h, inv_createFunctionString h]

theorem inv_createClassMethodString (h : GenInv env P E) (ms : List Function) (inner : String) (b : Bool)
    (ad : List String) : Inv P E (createClassMethodString env ms inner b ad) := by
  unfold createClassMethodString
  gen_hoare h [inv_createMethods h]

theorem inv_typeParamStrings (h : GenInv env P E) : (tps : List TypeParam) → Inv P E (typeParamStrings env tps)
  | [] => by unfold typeParamStrings; gen_hoare h []
  | tp :: tps => by
    have := inv_typeParamStrings h tps
    unfold typeParamStrings
    gen_hoare h [inv_varianceKeyword, inv_typeStr h]

theorem inv_innerClassesG (render : Class → G String) (hr : ∀ c, Inv P E (render c)) :
    (cs : List Class) → Inv P E (innerClassesG render cs)
  | [] => by unfold innerClassesG; hoare []
  | c :: cs => by
    have := inv_innerClassesG render hr cs
    unfold innerClassesG
    hoare [hr]

theorem inv_superclassesG (h : GenInv env P E) (inline : String → G String) (hr : ∀ c, Inv P E (inline c)) :
    (scs : List String) → Inv P E (superclassesG env inline scs)
  | [] => by unfold superclassesG; gen_hoare h []
  | sc :: scs => by
    have := inv_superclassesG h inline hr scs
    unfold superclassesG
    gen_hoare h [hr, h.addToImports]

theorem inv_internalSupersG (inline : String → G String) (hr : ∀ c, Inv P E (inline c)) :
    (scs : List String) → Inv P E (internalSupersG inline scs)
  | [] => by unfold internalSupersG; hoare []
  | sc :: scs => by
    have := inv_internalSupersG inline hr scs
    unfold internalSupersG
    hoare [hr]

mutual
theorem inv_createClassString (h : GenInv env P E) : (fuel : Nat) → (c : Class) → (indent : String) → (b : Bool) →
    Inv P E (createClassString env fuel c indent b)
  | 0, _, _, _ => by unfold createClassString; gen_hoare h []
  | fuel + 1, c, indent, b => by
    have h1 := fun c i b => inv_createClassString h fuel c i b
    have h2 := fun sc i ad => inv_createInternalClassString h fuel sc i ad
    unfold createClassString
    gen_hoare h [h.hasNode, inv_createParameterString h, inv_typeParamStrings h,
      h.todoMsg, inv_createClassAttributeString h, inv_innerClassesG,
      inv_createClassMethodString h, inv_superclassesG h, h1, h2]
theorem inv_createInternalClassString (h : GenInv env P E) : (fuel : Nat) → (sc : String) → (inner : String) →
    (ad : List String) → Inv P E (createInternalClassString env fuel sc inner ad)
  | 0, _, _, _ => by unfold createInternalClassString; gen_hoare h []
  | fuel + 1, sc, inner, ad => by
    have h1 := fun c i b => inv_createClassString h fuel c i b
    have h2 := fun sc i ad => inv_createInternalClassString h fuel sc i ad
    unfold createInternalClassString
    gen_hoare h [inv_createClassMethodString h, inv_innerClassesG, inv_internalSupersG, h1, h2]
    rename_i e he
    rw [getClassInPackage_err he]; decide
end

theorem inv_createImportsString : Inv P E (createImportsString env) := by
  unfold createImportsString
  hoare []

theorem inv_createFunctions (h : GenInv env P E) (b : Bool) : (fs : List Function) → Inv P E (createFunctions env b fs)
  | [] => by unfold createFunctions; gen_hoare h []
  | f :: fs => by
    have := inv_createFunctions h b fs
    unfold createFunctions
    gen_hoare h [inv_createFunctionString h]

theorem inv_createClasses (h : GenInv env P E) (b : Bool) : (cs : List Class) → Inv P E (createClasses env b cs)
  | [] => by unfold createClasses; gen_hoare h []
  | c :: cs => by
    have := inv_createClasses h b cs
    unfold createClasses
    gen_hoare h [inv_createClassString h]

theorem inv_createModuleString (h : GenInv env P E) (m : Module) : Inv P E (createModuleString env m) := by
  unfold createModuleString
  gen_hoare h [inv_createFunctions h, inv_createClasses h, inv_createImportsString]

end Gen

section Run
variable {env : Env} {P : St → Prop} {E : PyErr → Prop}

theorem inv_callGenerator (h : RunInv env P E) (m : Module) : Inv P E (callGenerator env m) := by
  have h3 : Inv P E (modify fun s => { s with reexportModuleId := "", classGenerics := [], imports := [], todos := [] } : G PUnit) :=
    Triple.modify h.reset
  unfold callGenerator
  gen_hoare h.toGenInv [h.setModuleId, inv_createModuleString h.toGenInv]

theorem inv_generateModules (h : RunInv env P E) : (ms : List Module) → Inv P E (generateModules env ms)
  | [] => by unfold generateModules; gen_hoare h.toGenInv []
  | m :: ms => by
    have := inv_generateModules h ms
    unfold generateModules
    gen_hoare h.toGenInv [inv_callGenerator h]

theorem inv_createReexportElements (h : RunInv env P E) (moduleId : String) :
    (els : List Node) → Inv P E (createReexportElements env moduleId els)
  | [] => by unfold createReexportElements; gen_hoare h.toGenInv []
  | el :: els => by
    have := inv_createReexportElements h moduleId els
    have h0 : Inv P E (modify fun s => { s with imports := [], classGenerics := [] } : G PUnit) :=
      Triple.modify h.resetImports
    unfold createReexportElements
    gen_hoare h.toGenInv [h.setModuleId, inv_createClassString h.toGenInv, inv_createFunctionString h.toGenInv,
      inv_createImportsString]

theorem inv_createReexportModules (h : RunInv env P E) :
    (rs : List (String × List Node)) → Inv P E (createReexportModules env rs)
  | [] => by unfold createReexportModules; gen_hoare h.toGenInv []
  | (moduleId, elements) :: rest => by
    have := inv_createReexportModules h rest
    have hf : ∀ b, Inv P E (modify fun s => { s with creatingReexport := b } : G PUnit) :=
      fun b => Triple.modify fun s => h.flag s b
    unfold createReexportModules
    gen_hoare h.toGenInv [hf, h.setModuleId, inv_createReexportElements h]

theorem inv_createReexportModuleStrings (h : RunInv env P E) : Inv P E (createReexportModuleStrings env) := by
  unfold createReexportModuleStrings
  gen_hoare h.toGenInv [inv_createReexportModules h]

theorem inv_generateStubData (h : RunInv env P E) : Inv P E (generateStubData env) := by
  unfold generateStubData
  gen_hoare h.toGenInv [inv_generateModules h, inv_createReexportModuleStrings h]

end Run

end StubGen
