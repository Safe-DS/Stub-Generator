/-
C03 (analyser half) — helper lemmas: the re-export bookkeeping (`addReexports`, `getReexportedBy`, `sortModRefs`),
the module record `enter_moduledef` builds, enums and their members, the walker as a sequence of visitor calls.

All names carry the prefix `w03_`.
-/
import StubGen.Proofs.Order
import StubGen.Proofs.Inventory

namespace StubGen

open List

/-! ### 1. `_get_reexported_by`: the probed keys, first-by-id collection -/

/-- round `i`: the first `i + 1` segments of the qualified name -/
def w03_fwdKey (path : List String) (i : Nat) : String := joinWith "." (path.take (i + 1))

/-- round `i`: the last `i + 1` segments of the qualified name -/
def w03_bwdKey (path : List String) (i : Nat) : String := joinWith "." (path.drop (path.length - (i + 1)))

/-- round `i`: the last `min (n - 1) (i + 1)` segments of the name WITHOUT its last segment, followed by `.*` -/
def w03_wildKey (path : List String) (i : Nat) : String :=
  joinWith "." ((path.take (path.length - 1)).drop (path.length - 1 - min (path.length - 1) (i + 1))) ++ ".*"

def w03_roundKeys (path : List String) (i : Nat) : List String := [w03_fwdKey path i, w03_bwdKey path i, w03_wildKey path i]

/-- all keys `_get_reexported_by(qname)` looks up, in the order of the look-ups -/
def w03_probeKeys (qname : String) : List String :=
  (List.range (splitDot qname).length).flatMap (w03_roundKeys (splitDot qname))

/-- the matching condition between a key of the re-export map and a qualified name: the key is EQUAL to one of the
    three strings built in some round `i < n` (no `endswith`, no prefix test: plain dictionary look-ups) -/
def w03_KeyMatches (key qname : String) : Prop :=
  ∃ i, i < (splitDot qname).length ∧
    (key = w03_fwdKey (splitDot qname) i ∨ key = w03_bwdKey (splitDot qname) i ∨ key = w03_wildKey (splitDot qname) i)

theorem w03_keyMatches_iff_mem (key qname : String) : w03_KeyMatches key qname ↔ key ∈ w03_probeKeys qname := by
  unfold w03_KeyMatches w03_probeKeys w03_roundKeys
  simp only [List.mem_flatMap, List.mem_range, List.mem_cons, List.not_mem_nil, or_false]

instance (key qname : String) : Decidable (w03_KeyMatches key qname) :=
  decidable_of_iff _ (w03_keyMatches_iff_mem key qname).symm

/-- a set of modules keyed by id, in insertion order: the first module with a given id stays -/
def w03_firstById (l : List ModRef) : List ModRef := l.foldl addToSetById []

theorem w03_foldl_flatMap {α β γ : Type} (f : β → γ → β) (g : α → List γ) :
    ∀ (l : List α) (init : β), l.foldl (fun acc a => (g a).foldl f acc) init = (l.flatMap g).foldl f init
  | [], _ => rfl
  | a :: l, init => by
    rw [List.foldl_cons, List.flatMap_cons, List.foldl_append, w03_foldl_flatMap f g l]

/-- `_get_reexported_by`, exactly: concatenate the look-ups of the probed keys, keep the first module per id -/
theorem w03_getReexportedBy_eq (s : VSt) (qname : String) :
    getReexportedBy s qname = w03_firstById ((w03_probeKeys qname).flatMap (p08_lookD s.api.reexportMap)) := by
  rw [p08_getReexportedBy_eq]
  unfold p08_grb w03_firstById w03_probeKeys
  simp only []
  rw [List.flatMap_assoc, ← w03_foldl_flatMap]
  congr 1
  funext acc i
  simp only [w03_roundKeys, List.flatMap_cons, List.flatMap_nil, List.append_nil, List.foldl_append, w03_fwdKey,
    w03_bwdKey, w03_wildKey]

theorem w03_hasId_append (a b : List ModRef) (i : String) : p08_hasId (a ++ b) i = (p08_hasId a i || p08_hasId b i) := by
  unfold p08_hasId; rw [List.any_append]

/-- membership in a first-by-id fold -/
theorem w03_mem_foldl_addToSetById (m : ModRef) : ∀ (l acc : List ModRef),
    m ∈ l.foldl addToSetById acc ↔ m ∈ acc ∨ (p08_hasId acc m.id = false ∧ l.find? (fun x => x.id == m.id) = some m)
  | [], acc => by simp
  | x :: l, acc => by
    rw [List.foldl_cons, w03_mem_foldl_addToSetById m l, p08_addToSetById_eq, List.find?_cons]
    by_cases hx : p08_hasId acc x.id = true
    · rw [if_pos hx]
      by_cases hxm : x.id = m.id
      · have h1 : p08_hasId acc m.id = true := hxm ▸ hx
        simp [h1]
      · have : (x.id == m.id) = false := by simpa using hxm
        simp only [this]
    · rw [if_neg hx]
      have hx' : p08_hasId acc x.id = false := Bool.eq_false_iff.2 hx
      by_cases hxm : x.id = m.id
      · have hb : (x.id == m.id) = true := by simpa using hxm
        have h1 : p08_hasId acc m.id = false := hxm ▸ hx'
        have h2 : p08_hasId (acc ++ [x]) m.id = true := by
          rw [w03_hasId_append]; simp [p08_hasId, hxm]
        simp only [hb, h1, h2, List.mem_append, List.mem_singleton, Option.some.injEq, true_and]
        constructor
        · rintro ((h | h) | h)
          · exact Or.inl h
          · exact Or.inr h.symm
          · exact absurd h.1 (by simp)
        · rintro (h | h)
          · exact Or.inl (Or.inl h)
          · exact Or.inl (Or.inr h.symm)
      · have hb : (x.id == m.id) = false := by simpa using hxm
        have h2 : p08_hasId (acc ++ [x]) m.id = p08_hasId acc m.id := by
          rw [w03_hasId_append]; simp [p08_hasId, hxm]
        have hne : m ≠ x := fun e => hxm (e ▸ rfl)
        simp only [hb, h2, List.mem_append, List.mem_singleton, hne, or_false]

/-- `m` is collected iff it is the FIRST module with its id among the concatenated look-ups -/
theorem w03_mem_firstById (m : ModRef) (l : List ModRef) :
    m ∈ w03_firstById l ↔ l.find? (fun x => x.id == m.id) = some m := by
  unfold w03_firstById
  rw [w03_mem_foldl_addToSetById]
  simp [p08_hasId]

theorem w03_firstById_nodup (l : List ModRef) : ((w03_firstById l).map (·.id)).Nodup :=
  p08_foldl_addToSetById_nodup l [] (by simp)

theorem w03_ids_foldl_addToSetById (i : String) : ∀ (l acc : List ModRef),
    i ∈ (l.foldl addToSetById acc).map (·.id) ↔ i ∈ acc.map (·.id) ∨ i ∈ l.map (·.id)
  | [], acc => by simp
  | x :: l, acc => by
    rw [List.foldl_cons, w03_ids_foldl_addToSetById i l, p08_addToSetById_eq]
    split
    · rename_i hx
      rw [p08_hasId_iff] at hx
      simp only [List.map_cons, List.mem_cons]
      constructor
      · rintro (h | h)
        · exact Or.inl h
        · exact Or.inr (Or.inr h)
      · rintro (h | h | h)
        · exact Or.inl h
        · exact Or.inl (h ▸ hx)
        · exact Or.inr h
    · simp only [List.map_append, List.map_cons, List.map_nil, List.mem_append, List.mem_cons, List.not_mem_nil,
        or_false, or_assoc]

theorem w03_ids_firstById (i : String) (l : List ModRef) : i ∈ (w03_firstById l).map (·.id) ↔ i ∈ l.map (·.id) := by
  unfold w03_firstById
  rw [w03_ids_foldl_addToSetById]
  simp

theorem w03_find?_eq_some_of_unique {m : ModRef} {l : List ModRef} (hm : m ∈ l)
    (hu : ∀ x ∈ l, x.id = m.id → x = m) : l.find? (fun x => x.id == m.id) = some m := by
  induction l with
  | nil => simp at hm
  | cons x l ih =>
    rw [List.find?_cons]
    by_cases hxm : x.id = m.id
    · have hb : (x.id == m.id) = true := by simpa using hxm
      rw [hb, hu x List.mem_cons_self hxm]
    · have hb : (x.id == m.id) = false := by simpa using hxm
      rw [hb]
      rcases List.mem_cons.1 hm with rfl | hm
      · exact absurd rfl hxm
      · exact ih hm (fun y hy => hu y (List.mem_cons_of_mem _ hy))

/-! ### 2. `sortModRefs` -/

theorem w03_sortModRefs_perm (l : List ModRef) : sortModRefs l ~ l := sortBy_perm _ l

theorem w03_sortModRefs_sorted (l : List ModRef) : (sortModRefs l).Pairwise (fun a b => a.id ≤ b.id) := by
  have := sortBy_pairwise (fun (a b : ModRef) => strLe a.id b.id) (fun a b => p08_strLe_total a.id b.id)
    (fun a b c => p08_strLe_trans a.id b.id c.id) l
  unfold sortModRefs
  exact this.imp (fun h => (strLe_iff _ _).1 h)

theorem w03_sortModRefs_strict {l : List ModRef} (hnd : (l.map (·.id)).Nodup) :
    (sortModRefs l).Pairwise (fun a b => a.id < b.id) := by
  have hs := w03_sortModRefs_sorted l
  have hn : ((sortModRefs l).map (·.id)).Nodup := ((w03_sortModRefs_perm l).map _).nodup_iff.2 hnd
  rw [List.Nodup, List.pairwise_map] at hn
  exact (hs.and hn).imp (fun h => lt_of_le_of_ne h.1 h.2)

/-! ### 3. `_add_reexports`: the exact shape of the map afterwards -/

/-- what happens to an existing entry: the module joins the set (by id) iff the key is one of the import keys -/
def w03_upd (r : ModRef) (ks : List String) (kv : String × List ModRef) : String × List ModRef :=
  if kv.1 ∈ ks then (kv.1, addToSetById kv.2 r) else kv

/-- the keys of `ks` that are not in `seen`, first occurrences, in order -/
def w03_fresh : List String → List String → List String
  | _, [] => []
  | seen, k :: ks => if k ∈ seen then w03_fresh seen ks else k :: w03_fresh (seen ++ [k]) ks

theorem w03_upd_fst (r : ModRef) (ks : List String) (kv : String × List ModRef) : (w03_upd r ks kv).1 = kv.1 := by
  unfold w03_upd; split <;> rfl

theorem w03_any_key_iff (rm : List (String × List ModRef)) (k : String) :
    rm.any (·.1 == k) = true ↔ k ∈ rm.map (·.1) := by
  simp only [List.any_eq_true, beq_iff_eq, List.mem_map]

theorem w03_foldl_addKey (r : ModRef) : ∀ (ks : List String) (rm : List (String × List ModRef)),
    ks.foldl (p08_addKey r) rm =
      rm.map (w03_upd r ks) ++ (w03_fresh (rm.map (·.1)) ks).map (fun k => (k, [r]))
  | [], rm => by
    simp only [List.foldl_nil, w03_fresh, List.map_nil, List.append_nil]
    have : w03_upd r [] = id := by funext kv; simp [w03_upd]
    rw [this, List.map_id]
  | k :: ks, rm => by
    rw [List.foldl_cons, w03_foldl_addKey r ks]
    unfold p08_addKey
    by_cases hk : k ∈ rm.map (·.1)
    · rw [if_pos ((w03_any_key_iff rm k).2 hk)]
      have hkeys : (rm.map (fun kv => if kv.1 == k then (kv.1, addToSetById kv.2 r) else kv)).map (·.1) = rm.map (·.1) := by
        rw [List.map_map]
        apply List.map_congr_left
        intro kv _
        simp only [Function.comp]
        split <;> rfl
      rw [hkeys, List.map_map]
      conv_rhs => rw [w03_fresh, if_pos hk]
      congr 1
      apply List.map_congr_left
      intro kv _
      obtain ⟨k0, ms⟩ := kv
      simp only [Function.comp, w03_upd]
      by_cases e : k0 = k
      · subst e
        simp only [beq_self_eq_true, if_true, List.mem_cons, true_or]
        split
        · rw [p08_addToSetById_idem]
        · rfl
      · have eb : (k0 == k) = false := by simpa using e
        simp only [eb, Bool.false_eq_true, if_false, List.mem_cons, e, false_or]
    · have hk' : ¬ rm.any (·.1 == k) = true := fun h => hk ((w03_any_key_iff rm k).1 h)
      rw [if_neg hk']
      conv_rhs => rw [w03_fresh, if_neg hk]
      rw [List.map_append, List.map_append, List.map_cons, List.map_nil, List.map_cons, List.map_nil, List.map_cons,
        List.append_assoc]
      congr 1
      · apply List.map_congr_left
        intro kv hkv
        have hne : kv.1 ≠ k := fun e => hk (e ▸ List.mem_map_of_mem hkv)
        simp only [w03_upd, List.mem_cons, hne, false_or]
      · rw [List.singleton_append]
        congr 1
        simp only [w03_upd]
        split
        · simp [addToSetById]
        · rfl

theorem w03_mem_fresh (k : String) : ∀ (ks seen : List String), k ∈ w03_fresh seen ks ↔ k ∈ ks ∧ k ∉ seen
  | [], seen => by simp [w03_fresh]
  | k' :: ks, seen => by
    rw [w03_fresh]
    split
    · rename_i h
      rw [w03_mem_fresh k ks seen, List.mem_cons]
      constructor
      · rintro ⟨h1, h2⟩; exact ⟨Or.inr h1, h2⟩
      · rintro ⟨h1 | h1, h2⟩
        · exact absurd (h1 ▸ h) h2
        · exact ⟨h1, h2⟩
    · rename_i h
      rw [List.mem_cons, w03_mem_fresh k ks (seen ++ [k']), List.mem_cons, List.mem_append, List.mem_singleton]
      constructor
      · rintro (h1 | ⟨h1, h2⟩)
        · exact ⟨Or.inl h1, h1 ▸ h⟩
        · exact ⟨Or.inr h1, fun h3 => h2 (Or.inl h3)⟩
      · rintro ⟨h1 | h1, h2⟩
        · exact Or.inl h1
        · by_cases e : k = k'
          · exact Or.inl e
          · exact Or.inr ⟨h1, fun h3 => h3.elim h2 e⟩

theorem w03_fresh_nodup : ∀ (ks seen : List String), (w03_fresh seen ks).Nodup
  | [], _ => by simp [w03_fresh]
  | k :: ks, seen => by
    rw [w03_fresh]
    split
    · exact w03_fresh_nodup ks seen
    · refine List.nodup_cons.2 ⟨?_, w03_fresh_nodup ks _⟩
      rw [w03_mem_fresh]
      simp

theorem w03_fresh_eq_nil {ks seen : List String} (h : ∀ k ∈ ks, k ∈ seen) : w03_fresh seen ks = [] := by
  apply List.eq_nil_iff_forall_not_mem.2
  intro k hk
  rw [w03_mem_fresh] at hk
  exact hk.2 (h k hk.1)

/-- the exact map after `_add_reexports(module)` -/
theorem w03_addReexports_eq (api : AnaResult) (m : Module) :
    (addReexports api m).reexportMap =
      api.reexportMap.map (w03_upd m.ref (p08_importKeys m)) ++
        (w03_fresh (api.reexportMap.map (·.1)) (p08_importKeys m)).map (fun k => (k, [m.ref])) := by
  rw [p08_addReexports_eq, w03_foldl_addKey]

theorem w03_addReexports_others (api : AnaResult) (m : Module) :
    (addReexports api m).modules = api.modules ∧ (addReexports api m).classes = api.classes ∧
    (addReexports api m).functions = api.functions ∧ (addReexports api m).results = api.results ∧
    (addReexports api m).enums = api.enums ∧ (addReexports api m).enumInstances = api.enumInstances ∧
    (addReexports api m).attributes = api.attributes ∧ (addReexports api m).parameters = api.parameters :=
  ⟨rfl, rfl, rfl, rfl, rfl, rfl, rfl, rfl⟩

theorem w03_addReexports_keys (api : AnaResult) (m : Module) :
    (addReexports api m).reexportMap.map (·.1) =
      api.reexportMap.map (·.1) ++ w03_fresh (api.reexportMap.map (·.1)) (p08_importKeys m) := by
  rw [w03_addReexports_eq, List.map_append, List.map_map, List.map_map]
  congr 1
  · apply List.map_congr_left
    intro kv _
    exact w03_upd_fst _ _ _
  · exact List.map_id _

theorem w03_upd_idem (r : ModRef) (ks : List String) (kv : String × List ModRef) :
    w03_upd r ks (w03_upd r ks kv) = w03_upd r ks kv := by
  unfold w03_upd
  by_cases h : kv.1 ∈ ks
  · simp only [h, if_true, p08_addToSetById_idem]
  · simp only [h, if_false]

theorem w03_addToSetById_cases (l : List ModRef) (r : ModRef) : addToSetById l r = l ∨ addToSetById l r = l ++ [r] := by
  rw [p08_addToSetById_eq]; split
  · exact Or.inl rfl
  · exact Or.inr rfl

/-- entries are only added: every old entry keeps its key, its position and its modules (the new module may be
    appended) -/
theorem w03_addReexports_only_adds (api : AnaResult) (m : Module) :
    ∃ added, (addReexports api m).reexportMap = api.reexportMap.map (w03_upd m.ref (p08_importKeys m)) ++ added ∧
      (∀ kv ∈ added, kv.2 = [m.ref] ∧ kv.1 ∈ p08_importKeys m ∧ kv.1 ∉ api.reexportMap.map (·.1)) ∧
      ∀ kv, (w03_upd m.ref (p08_importKeys m) kv).1 = kv.1 ∧
        ((w03_upd m.ref (p08_importKeys m) kv).2 = kv.2 ∨ (w03_upd m.ref (p08_importKeys m) kv).2 = kv.2 ++ [m.ref]) := by
  refine ⟨_, w03_addReexports_eq api m, ?_, ?_⟩
  · intro kv hkv
    obtain ⟨k, hk, rfl⟩ := List.mem_map.1 hkv
    rw [w03_mem_fresh] at hk
    exact ⟨rfl, hk.1, hk.2⟩
  · intro kv
    refine ⟨w03_upd_fst _ _ _, ?_⟩
    unfold w03_upd
    split
    · exact w03_addToSetById_cases _ _
    · exact Or.inl rfl

/-! ### 4. tables the walk leaves alone -/

/-- tables the walk below a module never touches, except through the two calls named in the theorems -/
structure w03_Kept (a b : AnaResult) : Prop where
  enums : b.enums = a.enums
  reexportMap : b.reexportMap = a.reexportMap

theorem w03_Kept.refl (a : AnaResult) : w03_Kept a a := ⟨rfl, rfl⟩
theorem w03_Kept.of_eq {a b : AnaResult} (h : b = a) : w03_Kept a b := h ▸ ⟨rfl, rfl⟩
theorem w03_Kept.trans {a b c : AnaResult} (h1 : w03_Kept a b) (h2 : w03_Kept b c) : w03_Kept a c :=
  ⟨h2.1.trans h1.1, h2.2.trans h1.2⟩

theorem w03_addItem_kept (st : AnaResult × List Frame) (i : AssignItem) : w03_Kept st.1 (k12_addItem st i).1 := by
  obtain ⟨api, frames⟩ := st
  cases i with
  | attr a =>
    show w03_Kept api (k12_addAttr (api, frames) a).1
    unfold k12_addAttr
    dsimp only
    split <;> exact ⟨rfl, rfl⟩
  | inst e =>
    show w03_Kept api (k12_addInst (api, frames) e).1
    unfold k12_addInst
    dsimp only
    split <;> exact ⟨rfl, rfl⟩

theorem w03_foldl_addItem_kept (items : List AssignItem) (st : AnaResult × List Frame) :
    w03_Kept st.1 (items.foldl k12_addItem st).1 := by
  induction items generalizing st with
  | nil => exact w03_Kept.refl _
  | cons i items ih => exact (w03_addItem_kept st i).trans (ih _)

theorem w03_leaveAssignment_kept {s s' : VSt} {u : Unit} (h : leaveAssignment s = .ok (u, s')) : w03_Kept s.api s'.api := by
  obtain ⟨items, rest, _, rfl⟩ := k12_leaveAssignment_eq h
  exact w03_foldl_addItem_kept items (s.api, rest)

theorem w03_leaveFuncdef_kept {s s' : VSt} {u : Unit} (h : leaveFuncdef s = .ok (u, s')) : w03_Kept s.api s'.api := by
  obtain ⟨f, rest, _, _, hc⟩ := k12_leaveFuncdef_ok h
  rcases hc with ⟨_, e, _⟩ | ⟨p, up, _, e, _⟩
  · exact .of_eq e
  · rw [e]; exact ⟨rfl, rfl⟩

theorem w03_leaveClassdef_api {s s' : VSt} {u : Unit} (h : leaveClassdef s = .ok (u, s')) :
    ∃ cs, s'.api = { s.api with classes := cs } := by
  obtain ⟨_, _, _, _, hapi, _⟩ := k12_leaveClassdef_ok h
  exact hapi

theorem w03_leaveClassdef_kept {s s' : VSt} {u : Unit} (h : leaveClassdef s = .ok (u, s')) : w03_Kept s.api s'.api := by
  obtain ⟨cs, e⟩ := w03_leaveClassdef_api h
  rw [e]
  exact ⟨rfl, rfl⟩

theorem w03_walkAssignment_kept {env : AEnv} {a : Assignment} {s s' : VSt} {u : Unit}
    (h : walkAssignment env a s = .ok (u, s')) : w03_Kept s.api s'.api := by
  unfold walkAssignment at h
  obtain ⟨_, s1, h1, h2⟩ := se_bind_ok h
  obtain ⟨items, eapi, _, _⟩ := k12_enterAssignment_ok h1
  exact (w03_Kept.of_eq eapi).trans (w03_leaveAssignment_kept h2)

theorem w03_walkAssignments_kept {env : AEnv} : ∀ (l : List Assignment) {s s' : VSt} {u : PUnit},
    (forIn l PUnit.unit (fun a _ => do walkAssignment env a; pure (ForInStep.yield PUnit.unit)) : V PUnit) s = .ok (u, s') →
    w03_Kept s.api s'.api
  | [], s, s', u, h => by
    rw [List.forIn_nil] at h
    obtain ⟨_, rfl⟩ := se_pure_ok h
    exact w03_Kept.refl _
  | a :: l, s, s', u, h => by
    rw [List.forIn_cons] at h
    obtain ⟨r, s1, h1, h2⟩ := se_bind_ok h
    obtain ⟨_, s1', h1a, h1b⟩ := se_bind_ok h1
    obtain ⟨rfl, rfl⟩ := se_pure_ok h1b
    dsimp only at h2
    exact (w03_walkAssignment_kept h1a).trans (w03_walkAssignments_kept l h2)

theorem w03_walkFunc_kept {env : AEnv} {f : FuncDef} {s s' : VSt} {u : Unit} (h : walkFunc env f s = .ok (u, s')) :
    w03_Kept s.api s'.api := by
  unfold walkFunc at h
  obtain ⟨_, s1, h1, h2⟩ := se_bind_ok h
  obtain ⟨fn, eapi, _, _, _, _⟩ := k12_enterFuncdef_ok h1
  refine (w03_Kept.of_eq eapi).trans ?_
  dsimp only at h2
  split at h2
  · obtain ⟨_, s2, h2a, h2b⟩ := se_bind_ok h2
    exact (w03_walkAssignments_kept _ h2a).trans (w03_leaveFuncdef_kept h2b)
  · exact w03_leaveFuncdef_kept h2

/-! ### enum members -/

/-- the names an assignment target contributes to an enum (`lvalueNames`, total version) -/
def w03_targetNames : LValue → List String
  | .tuple items => items.filterMap fun i => match i with
      | .name n .. => some n
      | .member n .. => some n
      | _ => none
  | .name n .. => [n]
  | .member n .. => [n]
  | .other => []

theorem w03_lvalueNames_ok {lv : LValue} {ns : List String} (h : lvalueNames lv = .ok ns) : ns = w03_targetNames lv := by
  cases lv <;> simp only [lvalueNames, Except.ok.injEq, reduceCtorEq] at h <;> exact h.symm

def w03_mkInst (enumId : String) (n : String) : EnumInstance := { id := enumId ++ "/" ++ n, name := n }

theorem w03_enterAssignment_go_enum (env : AEnv) (a : Assignment) : ∀ (lvs : List LValue) {s s' : VSt}
    {items : List AssignItem} {en : Enum} {rest : List Frame},
    enterAssignment.go env a lvs s = .ok (items, s') → s.stack = .enum en :: rest →
    s' = s ∧ items = ((lvs.flatMap w03_targetNames).map (w03_mkInst en.id)).map AssignItem.inst
  | [], s, s', items, en, rest, h, _ => by
    unfold enterAssignment.go at h
    obtain ⟨rfl, rfl⟩ := se_pure_ok h
    exact ⟨rfl, rfl⟩
  | lv :: lvs, s, s', items, en, rest, h, hstk => by
    unfold enterAssignment.go at h
    replace h := k12_get_bind_ok h
    have hh := se_bind_ok h; clear h; obtain ⟨here, s1, h1, h⟩ := hh
    rw [hstk] at h1
    dsimp only at h1
    cases hn : lvalueNames lv with
    | error e => rw [hn] at h1; exact (k12_throw_ok h1).elim
    | ok ns =>
      rw [hn] at h1
      obtain ⟨rfl, rfl⟩ := se_pure_ok h1
      have hh := se_bind_ok h; clear h; obtain ⟨more, s2, h2, h⟩ := hh
      obtain ⟨rfl, rfl⟩ := w03_enterAssignment_go_enum env a lvs h2 hstk
      obtain ⟨rfl, rfl⟩ := se_pure_ok h
      refine ⟨rfl, ?_⟩
      rw [List.flatMap_cons, List.map_append, List.map_append, ← w03_lvalueNames_ok hn]
      simp only [List.map_map]
      rfl

theorem w03_fold_insts : ∀ (insts : List EnumInstance) (api : AnaResult) (en : Enum) (up : List Frame),
    (insts.map AssignItem.inst).foldl k12_addItem (api, .enum en :: up) =
      ({ api with enumInstances := insts.foldl (dictSet (·.id)) api.enumInstances },
       .enum { en with instances := en.instances ++ insts } :: up)
  | [], api, en, up => by
    simp only [List.map_nil, List.foldl_nil, List.append_nil]
  | e :: insts, api, en, up => by
    rw [List.map_cons, List.foldl_cons]
    show List.foldl k12_addItem
      ({ api with enumInstances := dictSet (·.id) api.enumInstances e }, .enum { en with instances := en.instances ++ [e] } :: up) _ = _
    rw [w03_fold_insts insts]
    simp only [List.foldl_cons, List.append_assoc, List.singleton_append]

/-- the instances an assignment in an enum body adds -/
def w03_assignInsts (enumId : String) (a : Assignment) : List EnumInstance :=
  (a.lvalues.flatMap w03_targetNames).map (w03_mkInst enumId)

theorem w03_walkAssignment_enum {env : AEnv} {a : Assignment} {s s' : VSt} {u : Unit} {en : Enum} {rest : List Frame}
    (h : walkAssignment env a s = .ok (u, s')) (hstk : s.stack = .enum en :: rest) :
    s'.stack = .enum { en with instances := en.instances ++ w03_assignInsts en.id a } :: rest ∧
    s'.api = { s.api with enumInstances := (w03_assignInsts en.id a).foldl (dictSet (·.id)) s.api.enumInstances } := by
  unfold walkAssignment at h
  have hh := se_bind_ok h; clear h; obtain ⟨_, s1, h1, h2⟩ := hh
  unfold enterAssignment at h1
  have hh := se_bind_ok h1; clear h1; obtain ⟨items, t1, h0, h1⟩ := hh
  obtain ⟨rfl, hitems⟩ := w03_enterAssignment_go_enum env a a.lvalues h0 hstk
  have hs1 := se_modify_ok h1
  obtain ⟨items', rest', hstk', rfl⟩ := k12_leaveAssignment_eq h2
  rw [hs1] at hstk' ⊢
  simp only [List.cons.injEq, Frame.assigns.injEq] at hstk'
  obtain ⟨rfl, rfl⟩ := hstk'
  have hf := w03_fold_insts (w03_assignInsts en.id a) t1.api en rest
  unfold w03_assignInsts at hf ⊢
  dsimp only
  rw [hstk, hitems, hf]
  exact ⟨rfl, rfl⟩

/-- the member names of an enum body, in source order -/
def w03_enumBodyNames : List Def → List String
  | [] => []
  | .assign a :: ds => a.lvalues.flatMap w03_targetNames ++ w03_enumBodyNames ds
  | _ :: ds => w03_enumBodyNames ds

theorem w03_walkDef_enum_skip {env : AEnv} {d : Def} {s s1 : VSt} {u : Unit} (hd : ∀ a, d ≠ .assign a)
    (h : walkDef env .enum d s = .ok (u, s1)) : s1 = s := by
  cases d with
  | assign a => exact absurd rfl (hd a)
  | func f => unfold walkDef at h; rw [if_pos (by decide)] at h; exact (se_pure_ok h).2
  | decorator f => unfold walkDef at h; rw [if_pos (by decide)] at h; exact (se_pure_ok h).2
  | overloaded impl => unfold walkDef at h; rw [if_pos (by decide)] at h; exact (se_pure_ok h).2
  | cls name fullname bases removed defs => unfold walkDef at h; rw [if_pos (by decide)] at h; exact (se_pure_ok h).2
  | docExpr a b => unfold walkDef at h; exact (se_pure_ok h).2
  | other k => unfold walkDef at h; exact (se_pure_ok h).2

theorem w03_enumBodyNames_skip {d : Def} (ds : List Def) (hd : ∀ a, d ≠ .assign a) :
    w03_enumBodyNames (d :: ds) = w03_enumBodyNames ds := by
  cases d with
  | assign a => exact absurd rfl (hd a)
  | _ => rfl

theorem w03_walkDefs_enum (env : AEnv) : ∀ (defs : List Def) {s s' : VSt} {u : Unit} {en : Enum} {rest : List Frame},
    walkDefs env .enum defs s = .ok (u, s') → s.stack = .enum en :: rest →
    s'.stack = .enum { en with instances := en.instances ++ (w03_enumBodyNames defs).map (w03_mkInst en.id) } :: rest ∧
    s'.api = { s.api with enumInstances :=
      ((w03_enumBodyNames defs).map (w03_mkInst en.id)).foldl (dictSet (·.id)) s.api.enumInstances }
  | [], s, s', u, en, rest, h, hstk => by
    unfold walkDefs at h
    obtain ⟨_, rfl⟩ := se_pure_ok h
    constructor
    · rw [hstk]; simp only [w03_enumBodyNames, List.map_nil, List.append_nil]
    · simp only [w03_enumBodyNames, List.map_nil, List.foldl_nil]
  | d :: ds, s, s', u, en, rest, h, hstk => by
    unfold walkDefs at h
    have hh := se_bind_ok h; clear h; obtain ⟨_, s1, h1, h2⟩ := hh
    by_cases hd : ∃ a, d = .assign a
    · obtain ⟨a, rfl⟩ := hd
      unfold walkDef at h1
      rw [if_neg (by decide)] at h1
      obtain ⟨e1, e2⟩ := w03_walkAssignment_enum h1 hstk
      obtain ⟨e3, e4⟩ := w03_walkDefs_enum env ds h2 e1
      rw [e3, e4, e2]
      simp only [w03_enumBodyNames, w03_assignInsts, List.map_append, List.foldl_append, List.append_assoc]
      exact ⟨trivial, trivial⟩
    · have hd' : ∀ a, d ≠ .assign a := fun a e => hd ⟨a, e⟩
      have e1 := w03_walkDef_enum_skip hd' h1
      subst e1
      rw [w03_enumBodyNames_skip ds hd']
      exact w03_walkDefs_enum env ds h2 hstk

/-- the walk of an enum class: `enter_enumdef`, the body, `leave_enumdef` -/
theorem w03_walk_enumClass {env : AEnv} {mode : WalkMode} {name fullname : String} {bases removed : List BaseExpr}
    {defs : List Def} {s s' : VSt} {u : Unit}
    (h : walkDef env mode (.cls name fullname bases removed defs) s = .ok (u, s')) (hm : mode ≠ .enum)
    (he : isEnumClass bases = true) :
    ∃ e : Enum, e.id = joinWith "/" (k12_segs s.stack ++ [name]) ∧ e.name = name ∧
      e.instances = (w03_enumBodyNames defs).map (w03_mkInst e.id) ∧
      ((∃ md up, s.stack = .module md :: up ∧ s'.stack = .module { md with enums := md.enums ++ [e] } :: up ∧
          s'.api = { s.api with enumInstances := e.instances.foldl (dictSet (·.id)) s.api.enumInstances,
                                enums := dictSet (·.id) s.api.enums e }) ∨
       ((∀ md up, s.stack ≠ .module md :: up) ∧ s'.stack = s.stack ∧
          s'.api = { s.api with enumInstances := e.instances.foldl (dictSet (·.id)) s.api.enumInstances })) := by
  unfold walkDef at h
  have hm' : ¬ (mode == WalkMode.enum) = true := by simpa using hm
  rw [if_neg hm', if_pos he] at h
  have hh := se_bind_ok h; clear h; obtain ⟨_, s1, h1, h⟩ := hh
  have hh := se_bind_ok h; clear h; obtain ⟨_, s2, h2, h3⟩ := hh
  obtain ⟨e0, eapi, estk, eok, ename⟩ := k12_enterEnumdef_ok h1
  obtain ⟨estk2, eapi2⟩ := w03_walkDefs_enum env defs h2 estk
  rw [eok.instances, List.nil_append] at estk2
  refine ⟨{ e0 with instances := (w03_enumBodyNames defs).map (w03_mkInst e0.id) }, eok.id_eq.trans (by rw [ename]), ename, rfl, ?_⟩
  unfold leaveEnumdef at h3
  replace h3 := k12_get_bind_ok h3
  rw [estk2] at h3
  dsimp only at h3
  rcases hs : s.stack with _ | ⟨fr, up⟩
  · rw [hs] at h3
    dsimp only at h3
    have hs' := se_set_ok h3
    refine Or.inr ⟨by simp, ?_, ?_⟩
    · rw [hs']
    · rw [hs', eapi2, eapi]
  · rw [hs] at h3
    cases fr
    case module md =>
      dsimp only at h3
      have hs' := se_set_ok h3
      refine Or.inl ⟨md, up, rfl, ?_, ?_⟩
      · rw [hs']
      · rw [hs', eapi2, eapi]
    all_goals
      dsimp only at h3
      have hs' := se_set_ok h3
      refine Or.inr ⟨by simp, ?_, ?_⟩
      · rw [hs']
      · rw [hs', eapi2, eapi]

theorem w03_Step_insts {a : AnaResult} {s : List Frame} {e : List Function} {cs : List Class} {a' : AnaResult}
    {s' : List Frame} (h : k12_Step a s e cs a' s') (k : String) (hk : k ∈ a.enumInstances.map (·.id)) :
    k ∈ a'.enumInstances.map (·.id) := by
  cases h with
  | addInst en up x _ => exact k12_sub_dictSet _ _ _ k hk
  | _ => exact hk

theorem w03_Steps_insts {a : AnaResult} {s : List Frame} {e : List Function} {cs : List Class} {a' : AnaResult}
    {s' : List Frame} (h : k12_Steps a s e cs a' s') (k : String) (hk : k ∈ a.enumInstances.map (·.id)) :
    k ∈ a'.enumInstances.map (·.id) :=
  k12_Steps_inv (fun a _ => k ∈ a.enumInstances.map (·.id)) (fun _ _ _ _ _ _ hs hi => w03_Step_insts hs k hi) h hk

/-! ### the enums of the source, as the analyser records them -/

/-- `(id, name, member names)` of the enum class a definition contributes to the `enums` table: only an enum class
    directly below a module does -/
def w03_defEnums (pre : List String) (mode : WalkMode) : Def → List (String × String × List String)
  | .cls name _ bases _ defs =>
    if mode == .module && isEnumClass bases then [(joinWith "/" (pre ++ [name]), name, w03_enumBodyNames defs)] else []
  | _ => []

def w03_defsEnums (pre : List String) (mode : WalkMode) : List Def → List (String × String × List String)
  | [] => []
  | d :: ds => w03_defEnums pre mode d ++ w03_defsEnums pre mode ds

mutual
/-- the ids of ALL enum members the walk records (enum classes below a module or below classes, at any depth) -/
def w03_defInsts (pre : List String) (mode : WalkMode) : Def → List String
  | .cls name _ bases _ defs =>
    if mode == .enum then []
    else if isEnumClass bases then (w03_enumBodyNames defs).map (fun n => joinWith "/" (pre ++ [name]) ++ "/" ++ n)
    else w03_defsInsts (pre ++ [name]) .cls defs
  | .func _ => []
  | .decorator _ => []
  | .overloaded _ => []
  | .assign _ => []
  | .docExpr _ _ => []
  | .other _ => []
def w03_defsInsts (pre : List String) (mode : WalkMode) : List Def → List String
  | [] => []
  | d :: ds => w03_defInsts pre mode d ++ w03_defsInsts pre mode ds
end

def w03_EnumMatch (p : String × String × List String) (e : Enum) : Prop :=
  e.id = p.1 ∧ e.name = p.2.1 ∧ e.instances = p.2.2.map (w03_mkInst e.id)

structure w03_WalkEnums (s s' : VSt) (src : List (String × String × List String)) (insts : List String) : Prop where
  enums : ∃ es, List.Forall₂ w03_EnumMatch src es ∧ s'.api.enums = es.foldl (dictSet (·.id)) s.api.enums
  rm : s'.api.reexportMap = s.api.reexportMap
  insts : ∀ i ∈ insts, i ∈ s'.api.enumInstances.map (·.id)

theorem w03_WalkEnums.of_kept {s s' : VSt} (h : w03_Kept s.api s'.api) : w03_WalkEnums s s' [] [] :=
  ⟨⟨[], List.Forall₂.nil, h.enums⟩, h.reexportMap, fun _ hi => absurd hi List.not_mem_nil⟩

theorem w03_WalkEnums.trans {s s1 s2 : VSt} {a b : List (String × String × List String)} {ia ib : List String}
    (h1 : w03_WalkEnums s s1 a ia) (h2 : w03_WalkEnums s1 s2 b ib)
    (mono : ∀ i ∈ s1.api.enumInstances.map (·.id), i ∈ s2.api.enumInstances.map (·.id)) :
    w03_WalkEnums s s2 (a ++ b) (ia ++ ib) := by
  obtain ⟨es1, hm1, he1⟩ := h1.enums
  obtain ⟨es2, hm2, he2⟩ := h2.enums
  refine ⟨⟨es1 ++ es2, List.rel_append hm1 hm2, by rw [List.foldl_append, ← he1, he2]⟩, h2.rm.trans h1.rm, ?_⟩
  intro i hi
  rcases List.mem_append.1 hi with hi | hi
  · exact mono i (h1.insts i hi)
  · exact h2.insts i hi

theorem w03_defsEnums_nonmodule (pre : List String) {mode : WalkMode} (hm : mode ≠ .module) :
    ∀ ds : List Def, w03_defsEnums pre mode ds = []
  | [] => rfl
  | d :: ds => by
    have hm' : (mode == WalkMode.module) = false := by simpa using hm
    rw [w03_defsEnums, w03_defsEnums_nonmodule pre hm ds, List.append_nil]
    cases d <;> simp [w03_defEnums, hm']

theorem w03_WalkOk_mono {s s' : VSt} {a : List (String × FuncDef)} {b : List String} (h : k12_WalkOk s s' a b) :
    ∀ i ∈ s.api.enumInstances.map (·.id), i ∈ s'.api.enumInstances.map (·.id) := by
  obtain ⟨_, _, hsteps, _⟩ := h
  exact fun i hi => w03_Steps_insts hsteps i hi

theorem w03_defEnums_cls (pre : List String) (mode : WalkMode) (name fullname : String) (bases removed : List BaseExpr)
    (defs : List Def) : w03_defEnums pre mode (.cls name fullname bases removed defs) =
      if mode == .module && isEnumClass bases then [(joinWith "/" (pre ++ [name]), name, w03_enumBodyNames defs)] else [] := rfl

theorem w03_modeTop_module {mode : WalkMode} {md : Module} {up : List Frame} (h : k12_ModeTop mode (.module md :: up)) :
    mode = .module := by
  cases mode <;> first | rfl | cases h

theorem w03_modeTop_cls {mode : WalkMode} {c : Class} {up : List Frame} (h : k12_ModeTop mode (.cls c :: up)) :
    mode = .cls := by
  cases mode <;> first | rfl | cases h

mutual
theorem w03_walkDef_enums (env : AEnv) (mode : WalkMode) : (d : Def) → ∀ {s s' : VSt} {u : Unit},
    walkDef env mode d s = .ok (u, s') → s.stack ≠ [] → k12_ModeTop mode s.stack →
    w03_WalkEnums s s' (w03_defEnums (k12_segs s.stack) mode d) (w03_defInsts (k12_segs s.stack) mode d)
  | .func f, s, s', u, h, _, _ | .decorator f, s, s', u, h, _, _ => by
    unfold walkDef at h
    unfold w03_defInsts
    show w03_WalkEnums s s' [] []
    split at h
    · obtain ⟨_, rfl⟩ := se_pure_ok h; exact .of_kept (.refl _)
    · exact .of_kept (w03_walkFunc_kept h)
  | .overloaded impl, s, s', u, h, _, _ => by
    unfold walkDef at h
    unfold w03_defInsts
    show w03_WalkEnums s s' [] []
    split at h
    · obtain ⟨_, rfl⟩ := se_pure_ok h; exact .of_kept (.refl _)
    · cases impl with
      | some f => exact .of_kept (w03_walkFunc_kept h)
      | none => exact .of_kept (.of_eq (k12_walkNone_ok h).1)
  | .assign a, s, s', u, h, _, _ => by
    unfold walkDef at h
    unfold w03_defInsts
    show w03_WalkEnums s s' [] []
    split at h
    · obtain ⟨_, rfl⟩ := se_pure_ok h; exact .of_kept (.refl _)
    · exact .of_kept (w03_walkAssignment_kept h)
  | .docExpr _ _, s, s', u, h, _, _ | .other _, s, s', u, h, _, _ => by
    unfold walkDef at h
    unfold w03_defInsts
    show w03_WalkEnums s s' [] []
    obtain ⟨_, rfl⟩ := se_pure_ok h; exact .of_kept (.refl _)
  | .cls name fullname bases removed defs, s, s', u, h, hne, hmt => by
    by_cases hm : mode = .enum
    · subst hm
      unfold walkDef at h
      rw [if_pos (by decide)] at h
      obtain ⟨_, rfl⟩ := se_pure_ok h
      exact (.of_kept (.refl _) : w03_WalkEnums s' s' [] [])
    have hm' : ¬ (mode == WalkMode.enum) = true := by simpa using hm
    by_cases he : isEnumClass bases = true
    · obtain ⟨e, eid, ename, einst, hcase⟩ := w03_walk_enumClass h hm he
      have hinsts : ∀ api : AnaResult, ∀ i ∈ (w03_enumBodyNames defs).map (fun n => joinWith "/" (k12_segs s.stack ++ [name]) ++ "/" ++ n),
          i ∈ (e.instances.foldl (dictSet (·.id)) api.enumInstances).map (·.id) := by
        intro api i hi
        rw [k12_foldl_dictSet_ids]
        right
        rw [einst, List.map_map]
        obtain ⟨n, hn, rfl⟩ := List.mem_map.1 hi
        exact List.mem_map.2 ⟨n, hn, by simp only [Function.comp, w03_mkInst, eid]⟩
      rw [w03_defEnums_cls]
      unfold w03_defInsts
      rw [if_neg hm', if_pos he]
      rcases hcase with ⟨md, up, hstk, _, hapi⟩ | ⟨hnm, _, hapi⟩
      · have hmode : mode = .module := w03_modeTop_module (hstk ▸ hmt)
        subst hmode
        rw [he, if_pos (by decide)]
        exact ⟨⟨[e], List.Forall₂.cons ⟨eid, ename, einst⟩ List.Forall₂.nil, by rw [hapi]; rfl⟩, by rw [hapi],
          by rw [hapi]; exact hinsts s.api⟩
      · have hmode : (mode == WalkMode.module) = false := by
          cases mode with
          | module =>
            rcases k12_ParentOk_cases (Or.inl hmt) with ⟨m, up, hs⟩ | ⟨p, up, hs⟩
            · exact absurd hs (hnm m up)
            · exact absurd (w03_modeTop_cls (hs ▸ hmt)) (by decide)
          | cls => rfl
          | enum => exact absurd rfl hm
        rw [hmode, Bool.false_and, if_neg (by decide)]
        exact ⟨⟨[], List.Forall₂.nil, by rw [hapi]; rfl⟩, by rw [hapi], by rw [hapi]; exact hinsts s.api⟩
    · have hef : isEnumClass bases = false := Bool.eq_false_iff.2 he
      unfold walkDef at h
      rw [if_neg hm', if_neg he] at h
      have hh := se_bind_ok h; clear h; obtain ⟨_, s1, h1, h⟩ := hh
      have hh := se_bind_ok h; clear h; obtain ⟨_, s2, h2, h3⟩ := hh
      obtain ⟨c, eapi, estk, cok, cname, _⟩ := k12_enterClassdef_ok h1
      have hne1 : s1.stack ≠ [] := by rw [estk]; simp
      have ih := w03_walkDefs_enums env .cls defs h2 hne1 (by rw [estk]; rfl)
      have hsegs : k12_segs s1.stack = k12_segs s.stack ++ [name] := by
        rw [estk, k12_segs_cons]; simp only [frameSegment, Option.toList_some, cname]
      rw [hsegs, w03_defsEnums_nonmodule _ (by decide)] at ih
      obtain ⟨cs, hapi3⟩ := w03_leaveClassdef_api h3
      rw [w03_defEnums_cls]
      unfold w03_defInsts
      rw [if_neg hm', if_neg he, hef, Bool.and_false, if_neg (by decide)]
      obtain ⟨es, hes, henums⟩ := ih.enums
      cases hes
      refine ⟨⟨[], List.Forall₂.nil, ?_⟩, ?_, ?_⟩
      · rw [hapi3]; show s2.api.enums = _; rw [henums, eapi]
      · rw [hapi3]; show s2.api.reexportMap = _; rw [ih.rm, eapi]
      · intro i hi
        rw [hapi3]
        exact ih.insts i hi
theorem w03_walkDefs_enums (env : AEnv) (mode : WalkMode) : (ds : List Def) → ∀ {s s' : VSt} {u : Unit},
    walkDefs env mode ds s = .ok (u, s') → s.stack ≠ [] → k12_ModeTop mode s.stack →
    w03_WalkEnums s s' (w03_defsEnums (k12_segs s.stack) mode ds) (w03_defsInsts (k12_segs s.stack) mode ds)
  | [], s, s', u, h, _, _ => by
    unfold walkDefs at h
    unfold w03_defsEnums w03_defsInsts
    obtain ⟨_, rfl⟩ := se_pure_ok h
    exact .of_kept (.refl _)
  | d :: ds, s, s', u, h, hne, hmt => by
    unfold walkDefs at h
    unfold w03_defsEnums w03_defsInsts
    obtain ⟨_, s1, h1, h2⟩ := se_bind_ok h
    have r1 := w03_walkDef_enums env mode d h1 hne hmt
    have k1 := k12_walkDef_ok env mode d h1 hne hmt
    have hne1 : s1.stack ≠ [] := k12_shape_ne_nil k1.shape hne
    have hmt1 : k12_ModeTop mode s1.stack := (k12_topKind_of_shape k1.shape).trans hmt
    have r2 := w03_walkDefs_enums env mode ds h2 hne1 hmt1
    have k2 := k12_walkDefs_ok env mode ds h2 hne1 hmt1
    rw [k12_segs_eq_of_shape k1.shape] at r2
    exact r1.trans r2 (w03_WalkOk_mono k2)
end

/-! ### the module record of `enter_moduledef` -/

/-- a file is a package `__init__` iff its PATH ends in `__init__.py` -/
def w03_isPackageFile (m : SrcModule) : Bool := pyEndsWith m.path "__init__.py"

/-- the qualified imports one import statement contributes -/
def w03_importEntries : ImportStmt → List QImport
  | .import_ ids => ids.map fun (n, a) => (⟨n, a⟩ : QImport)
  | .from_ id names => names.map fun (n, a) => (⟨(if id != "" then id ++ "." else "") ++ n, a⟩ : QImport)
  | .all _ => []

def w03_wildcardOf : ImportStmt → Option String
  | .all id => some id
  | _ => none

/-- the `Module` record `enter_moduledef` pushes for a source file -/
def w03_moduleRecord (m : SrcModule) : Module :=
  { id := replaceChar m.fullname '.' "/", name := if w03_isPackageFile m then "__init__" else m.name,
    docstring := firstModuleDoc m.defs, qualifiedImports := m.imports.flatMap w03_importEntries,
    wildcardImports := m.imports.filterMap w03_wildcardOf }

theorem w03_enterModuledef_eq (m : SrcModule) (s : VSt) :
    enterModuledef m s =
      .ok ((), { s with fileFullname := m.fullname, fileName := m.name,
                        api := if w03_isPackageFile m then addReexports s.api (w03_moduleRecord m) else s.api,
                        stack := .module (w03_moduleRecord m) :: s.stack }) := rfl

theorem w03_leaveModuledef_api {s s' : VSt} {u : Unit} (h : leaveModuledef s = .ok (u, s')) :
    ∃ ms, s'.api = { s.api with modules := ms } := by
  obtain ⟨_, _, _, _, _, hapi⟩ := k12_leaveModuledef_ok h
  exact hapi

def w03_modEnums (m : SrcModule) : List (String × String × List String) :=
  w03_defsEnums [replaceChar m.fullname '.' "/"] .module m.defs

def w03_modInsts (m : SrcModule) : List String := w03_defsInsts [replaceChar m.fullname '.' "/"] .module m.defs

/-- what one file does to the re-export map -/
def w03_addPkg (api : AnaResult) (m : SrcModule) : AnaResult :=
  if w03_isPackageFile m then addReexports api (w03_moduleRecord m) else api

theorem w03_addReexports_congr_rm {api api' : AnaResult} (h : api.reexportMap = api'.reexportMap) (m : Module) :
    (addReexports api m).reexportMap = (addReexports api' m).reexportMap := by
  rw [p08_addReexports_eq, p08_addReexports_eq, h]

theorem w03_addPkg_congr_rm {api api' : AnaResult} (h : api.reexportMap = api'.reexportMap) (m : SrcModule) :
    (w03_addPkg api m).reexportMap = (w03_addPkg api' m).reexportMap := by
  unfold w03_addPkg
  split
  · exact w03_addReexports_congr_rm h _
  · exact h

theorem w03_foldl_addPkg_congr_rm : ∀ (ms : List SrcModule) {api api' : AnaResult}, api.reexportMap = api'.reexportMap →
    (ms.foldl w03_addPkg api).reexportMap = (ms.foldl w03_addPkg api').reexportMap
  | [], _, _, h => h
  | m :: ms, _, _, h => w03_foldl_addPkg_congr_rm ms (w03_addPkg_congr_rm h m)

theorem w03_walkModule_enums {env : AEnv} {m : SrcModule} {s s' : VSt} {u : Unit} (h : walkModule env m s = .ok (u, s'))
    (hs : s.stack = []) :
    s'.stack = [] ∧
      (∃ es, List.Forall₂ w03_EnumMatch (w03_modEnums m) es ∧ s'.api.enums = es.foldl (dictSet (·.id)) s.api.enums) ∧
      s'.api.reexportMap = (w03_addPkg s.api m).reexportMap ∧
      (∀ i ∈ w03_modInsts m, i ∈ s'.api.enumInstances.map (·.id)) ∧
      (∀ i ∈ s.api.enumInstances.map (·.id), i ∈ s'.api.enumInstances.map (·.id)) := by
  have hk := k12_walkModule_ok h hs
  obtain ⟨hstk', evs, cs, hsteps, _, _⟩ := hk
  unfold walkModule at h
  have hh := se_bind_ok h; clear h; obtain ⟨_, s0, h0, h⟩ := hh
  have e0 := se_modify_ok h0
  have hh := se_bind_ok h; clear h; obtain ⟨_, s1, h1, h⟩ := hh
  have hh := se_bind_ok h; clear h; obtain ⟨_, s2, h2, h3⟩ := hh
  rw [w03_enterModuledef_eq] at h1
  simp only [Except.ok.injEq, Prod.mk.injEq] at h1
  have e1 := h1.2
  have estk : s1.stack = [.module (w03_moduleRecord m)] := by rw [← e1, e0]; dsimp only; rw [hs]
  have eapi : s1.api = w03_addPkg s.api m := by rw [← e1, e0]; rfl
  have hne1 : s1.stack ≠ [] := by rw [estk]; simp
  have ih := w03_walkDefs_enums env .module m.defs h2 hne1 (by rw [estk]; rfl)
  have hsegs : k12_segs s1.stack = [replaceChar m.fullname '.' "/"] := by rw [estk]; rfl
  rw [hsegs] at ih
  obtain ⟨ms, hapi3⟩ := w03_leaveModuledef_api h3
  obtain ⟨es, hes, henums⟩ := ih.enums
  refine ⟨hstk', ⟨es, hes, ?_⟩, ?_, ?_, fun i hi => w03_Steps_insts hsteps i hi⟩
  · rw [hapi3]; show s2.api.enums = _; rw [henums, eapi]; unfold w03_addPkg; split <;> rfl
  · rw [hapi3]; show s2.api.reexportMap = _; rw [ih.rm, eapi]
  · intro i hi
    rw [hapi3]
    exact ih.insts i hi

def w03_srcEnums : List SrcModule → List (String × String × List String)
  | [] => []
  | m :: ms => w03_modEnums m ++ w03_srcEnums ms

def w03_srcInsts : List SrcModule → List String
  | [] => []
  | m :: ms => w03_modInsts m ++ w03_srcInsts ms

theorem w03_walkModules_enums {env : AEnv} : ∀ (ms : List SrcModule) {s s' : VSt} {u : Unit},
    walkModules env ms s = .ok (u, s') → s.stack = [] →
    (∃ es, List.Forall₂ w03_EnumMatch (w03_srcEnums ms) es ∧ s'.api.enums = es.foldl (dictSet (·.id)) s.api.enums) ∧
      s'.api.reexportMap = (ms.foldl w03_addPkg s.api).reexportMap ∧
      (∀ i ∈ w03_srcInsts ms, i ∈ s'.api.enumInstances.map (·.id)) ∧
      (∀ i ∈ s.api.enumInstances.map (·.id), i ∈ s'.api.enumInstances.map (·.id))
  | [], s, s', u, h, _ => by
    unfold walkModules at h
    obtain ⟨_, rfl⟩ := se_pure_ok h
    exact ⟨⟨[], List.Forall₂.nil, rfl⟩, rfl, fun _ hi => absurd hi List.not_mem_nil, fun _ hi => hi⟩
  | m :: ms, s, s', u, h, hs => by
    unfold walkModules at h
    obtain ⟨_, s1, h1, h2⟩ := se_bind_ok h
    obtain ⟨hs1, ⟨es1, hm1, he1⟩, hrm1, hi1, hmono1⟩ := w03_walkModule_enums h1 hs
    obtain ⟨⟨es2, hm2, he2⟩, hrm2, hi2, hmono2⟩ := w03_walkModules_enums ms h2 hs1
    refine ⟨⟨es1 ++ es2, List.rel_append hm1 hm2, by rw [List.foldl_append, ← he1, he2]⟩, ?_, ?_,
      fun i hi => hmono2 i (hmono1 i hi)⟩
    · rw [hrm2, List.foldl_cons]
      exact w03_foldl_addPkg_congr_rm ms hrm1
    · intro i hi
      rcases List.mem_append.1 hi with hi | hi
      · exact hmono2 i (hi1 i hi)
      · exact hi2 i hi

theorem w03_analyze_enums {env : AEnv} {root : GNode} {mods : List SrcModule} {r : AnaResult} {w : List String}
    (h : analyze env root mods = .ok (r, w)) :
    (∃ es, List.Forall₂ w03_EnumMatch (w03_srcEnums mods) es ∧ r.enums = es.foldl (dictSet (·.id)) []) ∧
      r.reexportMap = (mods.foldl w03_addPkg {}).reexportMap ∧
      (∀ i ∈ w03_srcInsts mods, i ∈ r.enumInstances.map (·.id)) := by
  unfold analyze at h
  dsimp only at h
  split at h
  · exact absurd h (by simp)
  · rename_i s hrun
    simp only [Except.ok.injEq, Prod.mk.injEq] at h
    obtain ⟨h1, h2, h3, _⟩ := w03_walkModules_enums mods hrun rfl
    rw [h.1] at h1 h2 h3
    exact ⟨h1, h2, h3⟩

/-! ### 6. generic lemmas: tables built by `dictSet`, last definitions -/

theorem w03_mem_foldl_dictSet_last {α : Type} (key : α → String) (l1 : List α) (e : α) (l2 : List α) (tbl : List α)
    (h : ∀ x ∈ l2, key x ≠ key e) : e ∈ (l1 ++ e :: l2).foldl (dictSet key) tbl := by
  rw [List.foldl_append, List.foldl_cons]
  generalize hT : dictSet key (List.foldl (dictSet key) tbl l1) e = T
  have hmem : e ∈ T := hT ▸ k12_self_mem_dictSet key _ e
  clear hT
  induction l2 generalizing T with
  | nil => exact hmem
  | cons x l2 ih =>
    rw [List.foldl_cons]
    exact ih (fun y hy => h y (List.mem_cons_of_mem _ hy)) _
      (k12_mem_dictSet_of_ne key hmem (Ne.symm (h x List.mem_cons_self)))

theorem w03_forall₂_split {α β : Type} {R : α → β → Prop} : ∀ {a1 : List α} {p : α} {a2 : List α} {es : List β},
    List.Forall₂ R (a1 ++ p :: a2) es → ∃ e1 e e2, es = e1 ++ e :: e2 ∧ List.Forall₂ R a1 e1 ∧ R p e ∧ List.Forall₂ R a2 e2
  | [], p, a2, es, h => by
    cases h with
    | cons hpe hrest => exact ⟨[], _, _, rfl, List.Forall₂.nil, hpe, hrest⟩
  | x :: a1, p, a2, es, h => by
    cases h with
    | cons hxe hrest =>
      obtain ⟨e1, e, e2, rfl, h1, h2, h3⟩ := w03_forall₂_split hrest
      exact ⟨_ :: e1, e, e2, rfl, List.Forall₂.cons hxe h1, h2, h3⟩

theorem w03_forall₂_mem_right {α β : Type} {R : α → β → Prop} {as : List α} {es : List β} (h : List.Forall₂ R as es)
    {e : β} (he : e ∈ es) : ∃ a ∈ as, R a e := by
  induction h with
  | nil => simp at he
  | cons hab _ ih =>
    rcases List.mem_cons.1 he with rfl | he
    · exact ⟨_, List.mem_cons_self, hab⟩
    · obtain ⟨a, ha, hr⟩ := ih he
      exact ⟨a, List.mem_cons_of_mem _ ha, hr⟩

/-- the last entry with a given key -/
theorem w03_last_occurrence {α : Type} (key : α → String) (k : String) : ∀ (l : List α), (∃ x ∈ l, key x = k) →
    ∃ l1 p l2, l = l1 ++ p :: l2 ∧ key p = k ∧ ∀ q ∈ l2, key q ≠ k
  | [], h => by obtain ⟨x, hx, _⟩ := h; simp at hx
  | x :: l, h => by
    by_cases hl : ∃ y ∈ l, key y = k
    · obtain ⟨l1, p, l2, rfl, hp, hq⟩ := w03_last_occurrence key k l hl
      exact ⟨x :: l1, p, l2, rfl, hp, hq⟩
    · obtain ⟨y, hy, hk⟩ := h
      rcases List.mem_cons.1 hy with rfl | hy
      · exact ⟨[], y, l, rfl, hk, fun q hq e => hl ⟨q, hq, e⟩⟩
      · exact absurd ⟨y, hy, hk⟩ hl

/-! ### membership in the source lists -/

theorem w03_mem_defsEnums {pre : List String} {mode : WalkMode} {p : String × String × List String} :
    ∀ {ds : List Def} {d : Def}, d ∈ ds → p ∈ w03_defEnums pre mode d → p ∈ w03_defsEnums pre mode ds
  | d' :: ds, d, hd, hp => by
    rw [w03_defsEnums]
    rcases List.mem_cons.1 hd with rfl | hd
    · exact List.mem_append_left _ hp
    · exact List.mem_append_right _ (w03_mem_defsEnums hd hp)

theorem w03_mem_defsEnums_inv {pre : List String} {mode : WalkMode} {p : String × String × List String} :
    ∀ {ds : List Def}, p ∈ w03_defsEnums pre mode ds → ∃ d ∈ ds, p ∈ w03_defEnums pre mode d
  | [], h => by simp [w03_defsEnums] at h
  | d :: ds, h => by
    rw [w03_defsEnums] at h
    rcases List.mem_append.1 h with h | h
    · exact ⟨d, List.mem_cons_self, h⟩
    · obtain ⟨d', hd', hp⟩ := w03_mem_defsEnums_inv h
      exact ⟨d', List.mem_cons_of_mem _ hd', hp⟩

theorem w03_mem_srcEnums {p : String × String × List String} {ms : List SrcModule} {m : SrcModule}
    (hm : m ∈ ms) (hp : p ∈ w03_modEnums m) : p ∈ w03_srcEnums ms := by
  induction ms with
  | nil => exact absurd hm List.not_mem_nil
  | cons m' ms ih =>
    rw [w03_srcEnums]
    rcases List.mem_cons.1 hm with rfl | hm
    · exact List.mem_append_left _ hp
    · exact List.mem_append_right _ (ih hm)

theorem w03_mem_srcEnums_inv {p : String × String × List String} : ∀ {ms : List SrcModule},
    p ∈ w03_srcEnums ms → ∃ m ∈ ms, p ∈ w03_modEnums m
  | [], h => by simp [w03_srcEnums] at h
  | m :: ms, h => by
    rw [w03_srcEnums] at h
    rcases List.mem_append.1 h with h | h
    · exact ⟨m, List.mem_cons_self, h⟩
    · obtain ⟨m', hm', hp⟩ := w03_mem_srcEnums_inv h
      exact ⟨m', List.mem_cons_of_mem _ hm', hp⟩

theorem w03_mem_defsInsts {pre : List String} {mode : WalkMode} {i : String} :
    ∀ {ds : List Def} {d : Def}, d ∈ ds → i ∈ w03_defInsts pre mode d → i ∈ w03_defsInsts pre mode ds
  | d' :: ds, d, hd, hp => by
    rw [w03_defsInsts]
    rcases List.mem_cons.1 hd with rfl | hd
    · exact List.mem_append_left _ hp
    · exact List.mem_append_right _ (w03_mem_defsInsts hd hp)

theorem w03_mem_srcInsts {i : String} {ms : List SrcModule} {m : SrcModule}
    (hm : m ∈ ms) (hp : i ∈ w03_modInsts m) : i ∈ w03_srcInsts ms := by
  induction ms with
  | nil => exact absurd hm List.not_mem_nil
  | cons m' ms ih =>
    rw [w03_srcInsts]
    rcases List.mem_cons.1 hm with rfl | hm
    · exact List.mem_append_left _ hp
    · exact List.mem_append_right _ (ih hm)

/-- the id of a module -/
def w03_modId (m : SrcModule) : String := replaceChar m.fullname '.' "/"

theorem w03_joinWith2 (a b : String) : joinWith "/" ([a] ++ [b]) = a ++ "/" ++ b := rfl

/-- a top-level enum class is in the source list -/
theorem w03_toplevel_enum_mem {mods : List SrcModule} {m : SrcModule} {name fullname : String}
    {bases removed : List BaseExpr} {defs : List Def} (hm : m ∈ mods)
    (hc : Def.cls name fullname bases removed defs ∈ m.defs) (he : isEnumClass bases = true) :
    (w03_modId m ++ "/" ++ name, name, w03_enumBodyNames defs) ∈ w03_srcEnums mods := by
  refine w03_mem_srcEnums hm (w03_mem_defsEnums hc ?_)
  rw [w03_defEnums_cls, he, if_pos (by decide), w03_joinWith2]
  exact List.mem_singleton.2 rfl

/-- every entry of the source list is a top-level enum class of some module -/
theorem w03_srcEnums_inv {mods : List SrcModule} {p : String × String × List String} (hp : p ∈ w03_srcEnums mods) :
    ∃ m ∈ mods, ∃ name fullname bases removed defs, Def.cls name fullname bases removed defs ∈ m.defs ∧
      isEnumClass bases = true ∧ p = (w03_modId m ++ "/" ++ name, name, w03_enumBodyNames defs) := by
  obtain ⟨m, hm, hp⟩ := w03_mem_srcEnums_inv hp
  obtain ⟨d, hd, hp⟩ := w03_mem_defsEnums_inv hp
  refine ⟨m, hm, ?_⟩
  cases d with
  | cls name fullname bases removed defs =>
    rw [w03_defEnums_cls] at hp
    split at hp
    · rename_i hc
      simp only [Bool.and_eq_true] at hc
      rw [w03_joinWith2] at hp
      exact ⟨name, fullname, bases, removed, defs, hd, hc.2, List.mem_singleton.1 hp⟩
    · simp at hp
  | _ => simp [w03_defEnums] at hp

/-- the members of an enum class nested in a top-level class are in the list of recorded instance ids -/
theorem w03_nested_enum_insts_mem {mods : List SrcModule} {m : SrcModule} {cname cfull : String}
    {cbases cremoved : List BaseExpr} {cdefs : List Def} {ename efull : String} {ebases eremoved : List BaseExpr}
    {edefs : List Def} (hm : m ∈ mods) (hc : Def.cls cname cfull cbases cremoved cdefs ∈ m.defs)
    (hce : isEnumClass cbases = false) (he : Def.cls ename efull ebases eremoved edefs ∈ cdefs)
    (hee : isEnumClass ebases = true) {n : String} (hn : n ∈ w03_enumBodyNames edefs) :
    w03_modId m ++ "/" ++ cname ++ "/" ++ ename ++ "/" ++ n ∈ w03_srcInsts mods := by
  refine w03_mem_srcInsts hm (w03_mem_defsInsts hc ?_)
  unfold w03_defInsts
  rw [if_neg (by decide), hce, if_neg (by decide)]
  refine w03_mem_defsInsts he ?_
  unfold w03_defInsts
  rw [if_neg (by decide), if_pos hee, k12_joinWith3]
  exact List.mem_map.2 ⟨n, hn, rfl⟩

/-- the members of a top-level enum class are in the list of recorded instance ids -/
theorem w03_toplevel_enum_insts_mem {mods : List SrcModule} {m : SrcModule} {name fullname : String}
    {bases removed : List BaseExpr} {defs : List Def} (hm : m ∈ mods)
    (hc : Def.cls name fullname bases removed defs ∈ m.defs) (he : isEnumClass bases = true) {n : String}
    (hn : n ∈ w03_enumBodyNames defs) : w03_modId m ++ "/" ++ name ++ "/" ++ n ∈ w03_srcInsts mods := by
  refine w03_mem_srcInsts hm (w03_mem_defsInsts hc ?_)
  unfold w03_defInsts
  rw [if_neg (by decide), if_pos he, w03_joinWith2]
  exact List.mem_map.2 ⟨n, hn, rfl⟩

/-- an enum whose source entry is the last one with its id is in the table -/
theorem w03_analyze_enum_last {env : AEnv} {root : GNode} {mods : List SrcModule} {r : AnaResult} {w : List String}
    (h : analyze env root mods = .ok (r, w)) {l1 : List (String × String × List String)} {p : String × String × List String}
    {l2 : List (String × String × List String)} (hsplit : w03_srcEnums mods = l1 ++ p :: l2)
    (hlast : ∀ q ∈ l2, q.1 ≠ p.1) : ∃ e ∈ r.enums, w03_EnumMatch p e := by
  obtain ⟨⟨es, hm, he⟩, _, _⟩ := w03_analyze_enums h
  rw [hsplit] at hm
  obtain ⟨e1, e, e2, rfl, _, hpe, h2⟩ := w03_forall₂_split hm
  refine ⟨e, ?_, hpe⟩
  rw [he]
  refine w03_mem_foldl_dictSet_last _ e1 e e2 [] ?_
  intro x hx
  obtain ⟨q, hq, hqx⟩ := w03_forall₂_mem_right h2 hx
  rw [hqx.1, hpe.1]
  exact hlast q hq

/-! ### 7. the re-export map of a whole analysis -/

theorem w03_foldl_addPkg_eq : ∀ (mods : List SrcModule) (api : AnaResult),
    mods.foldl w03_addPkg api = ((mods.filter w03_isPackageFile).map w03_moduleRecord).foldl addReexports api
  | [], _ => rfl
  | m :: ms, api => by
    rw [List.foldl_cons, w03_foldl_addPkg_eq ms]
    unfold w03_addPkg
    by_cases h : w03_isPackageFile m = true
    · rw [if_pos h, List.filter_cons_of_pos h, List.map_cons, List.foldl_cons]
    · rw [if_neg h, List.filter_cons_of_neg h]

theorem w03_mem_addToSetById {l : List ModRef} {r a : ModRef} (h : a ∈ addToSetById l r) : a ∈ l ∨ a = r := by
  rcases w03_addToSetById_cases l r with e | e <;> rw [e] at h
  · exact Or.inl h
  · rcases List.mem_append.1 h with h | h
    · exact Or.inl h
    · exact Or.inr (List.mem_singleton.1 h)

/-- every module record in the map is the `ref` of one of the added modules -/
theorem w03_refs_addReexports {P : ModRef → Prop} (api : AnaResult) (m : Module) (hm : P m.ref)
    (h : ∀ kv ∈ api.reexportMap, ∀ a ∈ kv.2, P a) : ∀ kv ∈ (addReexports api m).reexportMap, ∀ a ∈ kv.2, P a := by
  intro kv hkv a ha
  rw [w03_addReexports_eq] at hkv
  rcases List.mem_append.1 hkv with hkv | hkv
  · obtain ⟨kv0, h0, rfl⟩ := List.mem_map.1 hkv
    unfold w03_upd at ha
    split at ha
    · rcases w03_mem_addToSetById ha with ha | rfl
      · exact h kv0 h0 a ha
      · exact hm
    · exact h kv0 h0 a ha
  · obtain ⟨k, _, rfl⟩ := List.mem_map.1 hkv
    rw [List.mem_singleton.1 ha]
    exact hm

theorem w03_refs_foldl {P : ModRef → Prop} : ∀ (ms : List Module) (api : AnaResult), (∀ m ∈ ms, P m.ref) →
    (∀ kv ∈ api.reexportMap, ∀ a ∈ kv.2, P a) → ∀ kv ∈ (ms.foldl addReexports api).reexportMap, ∀ a ∈ kv.2, P a
  | [], _, _, h => h
  | m :: ms, api, hm, h =>
    w03_refs_foldl ms _ (fun x hx => hm x (List.mem_cons_of_mem _ hx))
      (w03_refs_addReexports api m (hm m List.mem_cons_self) h)

/-- for modules with pairwise different ids, a module id determines the record everywhere in the map -/
theorem w03_ids_determine (ms : List Module) (hnd : (ms.map (·.id)).Nodup) :
    ∀ kv ∈ (ms.foldl addReexports {}).reexportMap, ∀ kv' ∈ (ms.foldl addReexports {}).reexportMap,
      ∀ a ∈ kv.2, ∀ b ∈ kv'.2, a.id = b.id → a = b := by
  have key := w03_refs_foldl (P := fun a => ∃ m ∈ ms, a = m.ref) ms {} (fun m hm => ⟨m, hm, rfl⟩)
    (fun kv hkv => by simp at hkv)
  intro kv hkv kv' hkv' a ha b hb hab
  obtain ⟨m1, hm1, rfl⟩ := key kv hkv a ha
  obtain ⟨m2, hm2, rfl⟩ := key kv' hkv' b hb
  have : m1 = m2 := List.inj_on_of_nodup_map hnd hm1 hm2 hab
  rw [this]

theorem w03_importEntries_from (x : String) (names : List (String × Option String)) :
    w03_importEntries (.from_ x names) =
      names.map (fun p => (⟨if x = "" then p.1 else x ++ "." ++ p.1, p.2⟩ : QImport)) := by
  unfold w03_importEntries
  apply List.map_congr_left
  intro p _
  obtain ⟨n, a⟩ := p
  by_cases hx : x = ""
  · subst hx; simp
  · have : (x != "") = true := by simpa using hx
    simp [this, hx]

/-! ### 8. the walker as a sequence of visitor calls -/

/-- the calls the walker makes on the visitor (`enter_*` / `leave_*`), and the `None` node of an overload without
    implementation -/
inductive w03_Call where
  | enterFunc (f : FuncDef)
  | leaveFunc
  | enterClass (name fullname : String) (bases removed : List BaseExpr) (defs : List Def)
  | leaveClass
  | enterEnum (name fullname : String) (defs : List Def)
  | leaveEnum
  | enterAssign (a : Assignment)
  | leaveAssign
  | visitNone

def w03_exec (env : AEnv) : w03_Call → V Unit
  | .enterFunc f => enterFuncdef env f
  | .leaveFunc => leaveFuncdef
  | .enterClass name fullname bases removed defs => enterClassdef env name fullname bases removed defs
  | .leaveClass => leaveClassdef
  | .enterEnum name fullname defs => enterEnumdef env name fullname defs
  | .leaveEnum => leaveEnumdef
  | .enterAssign a => enterAssignment env a
  | .leaveAssign => leaveAssignment
  | .visitNone => walkNone

def w03_run (env : AEnv) : List w03_Call → V Unit
  | [] => pure ()
  | c :: cs => do w03_exec env c; w03_run env cs

def w03_assignCalls (a : Assignment) : List w03_Call := [.enterAssign a, .leaveAssign]

def w03_funcCalls (f : FuncDef) : List w03_Call :=
  .enterFunc f :: ((if f.name == "__init__" then (initAssignments f.body).flatMap w03_assignCalls else []) ++ [.leaveFunc])

mutual
def w03_defCalls (mode : WalkMode) : Def → List w03_Call
  | .func f => if mode == .enum then [] else w03_funcCalls f
  | .decorator f => if mode == .enum then [] else w03_funcCalls f
  | .overloaded impl =>
    if mode == .enum then [] else (match impl with | some f => w03_funcCalls f | none => [.visitNone])
  | .cls name fullname bases removed defs =>
    if mode == .enum then []
    else if isEnumClass bases then .enterEnum name fullname defs :: (w03_defsCalls .enum defs ++ [.leaveEnum])
    else .enterClass name fullname bases removed defs :: (w03_defsCalls .cls defs ++ [.leaveClass])
  | .assign a => if mode == .module then [] else w03_assignCalls a
  | .docExpr _ _ => []
  | .other _ => []
def w03_defsCalls (mode : WalkMode) : List Def → List w03_Call
  | [] => []
  | d :: ds => w03_defCalls mode d ++ w03_defsCalls mode ds
end

theorem w03_run_append (env : AEnv) : ∀ (a b : List w03_Call), w03_run env (a ++ b) = (do w03_run env a; w03_run env b)
  | [], b => by simp only [List.nil_append, w03_run, pure_bind]
  | c :: a, b => by
    simp only [List.cons_append, w03_run, bind_assoc, w03_run_append env a b]

theorem w03_run_cons (env : AEnv) (c : w03_Call) (cs : List w03_Call) :
    w03_run env (c :: cs) = (do w03_exec env c; w03_run env cs) := rfl

theorem w03_run_singleton (env : AEnv) (c : w03_Call) : w03_run env [c] = w03_exec env c := by
  simp only [w03_run, bind_pure_comp, id_map']

theorem w03_walkAssignment_eq (env : AEnv) (a : Assignment) : walkAssignment env a = w03_run env (w03_assignCalls a) := by
  unfold walkAssignment w03_assignCalls
  rw [w03_run_cons, w03_run_singleton]
  rfl

theorem w03_forIn_assign (env : AEnv) : ∀ l : List Assignment,
    (forIn l PUnit.unit (fun a _ => do walkAssignment env a; pure (ForInStep.yield PUnit.unit)) : V PUnit) =
      w03_run env (l.flatMap w03_assignCalls)
  | [] => rfl
  | a :: l => by
    rw [List.forIn_cons, List.flatMap_cons, w03_run_append, ← w03_walkAssignment_eq, ← w03_forIn_assign env l]
    simp only [bind_assoc, pure_bind]

theorem w03_walkFunc_eq (env : AEnv) (f : FuncDef) : walkFunc env f = w03_run env (w03_funcCalls f) := by
  unfold walkFunc w03_funcCalls
  rw [w03_run_cons, w03_run_append, w03_run_singleton]
  by_cases hc : (f.name == "__init__") = true
  · simp only [hc, if_true, ← w03_forIn_assign]
    rfl
  · simp only [hc]
    rfl

mutual
theorem w03_walkDef_eq (env : AEnv) (mode : WalkMode) : (d : Def) → walkDef env mode d = w03_run env (w03_defCalls mode d)
  | .func f | .decorator f => by
    unfold walkDef w03_defCalls
    split
    · rfl
    · exact w03_walkFunc_eq env f
  | .overloaded impl => by
    unfold walkDef w03_defCalls
    split
    · rfl
    · cases impl with
      | some f => exact w03_walkFunc_eq env f
      | none => exact (w03_run_singleton env .visitNone).symm
  | .cls name fullname bases removed defs => by
    unfold walkDef w03_defCalls
    split
    · rfl
    · split
      · rw [w03_run_cons, w03_run_append, w03_run_singleton, ← w03_walkDefs_eq env .enum defs]
        rfl
      · rw [w03_run_cons, w03_run_append, w03_run_singleton, ← w03_walkDefs_eq env .cls defs]
        rfl
  | .assign a => by
    unfold walkDef w03_defCalls
    split
    · rfl
    · exact w03_walkAssignment_eq env a
  | .docExpr _ _ | .other _ => by unfold walkDef w03_defCalls; rfl
theorem w03_walkDefs_eq (env : AEnv) (mode : WalkMode) : (ds : List Def) →
    walkDefs env mode ds = w03_run env (w03_defsCalls mode ds)
  | [] => by unfold walkDefs w03_defsCalls; rfl
  | d :: ds => by
    unfold walkDefs w03_defsCalls
    rw [w03_run_append, ← w03_walkDef_eq env mode d, ← w03_walkDefs_eq env mode ds]
end

/-! ### 9. what the walker visits, by structural recursion over the source -/

def w03_assignLabel (a : Assignment) : String × String := ("assignment", joinWith "," (a.lvalues.flatMap w03_targetNames))

/-- the label of an `enter_*` call: `(kind, name)` -/
def w03_enterLabel : w03_Call → Option (String × String)
  | .enterFunc f => some ("function", f.name)
  | .enterClass name _ _ _ _ => some ("class", name)
  | .enterEnum name _ _ => some ("enum", name)
  | .enterAssign a => some (w03_assignLabel a)
  | _ => none

/-- a function definition: the function, then — for a constructor only — the assignment statements at the top level
    of its body -/
def w03_visitedFunc (f : FuncDef) : List (String × String) :=
  ("function", f.name) :: (if f.name == "__init__" then (initAssignments f.body).map w03_assignLabel else [])

mutual
/-- `(kind, name)` of the definitions the walker enters for a definition in a given mode, in order -/
def w03_visited (mode : WalkMode) : Def → List (String × String)
  | .func f => if mode == .enum then [] else w03_visitedFunc f
  | .decorator f => if mode == .enum then [] else w03_visitedFunc f
  | .overloaded impl =>
    if mode == .enum then [] else (match impl with | some f => w03_visitedFunc f | none => [])
  | .cls name _ bases _ defs =>
    if mode == .enum then []
    else if isEnumClass bases then ("enum", name) :: w03_visitedDefs .enum defs
    else ("class", name) :: w03_visitedDefs .cls defs
  | .assign a => if mode == .module then [] else [w03_assignLabel a]
  | .docExpr _ _ => []
  | .other _ => []
def w03_visitedDefs (mode : WalkMode) : List Def → List (String × String)
  | [] => []
  | d :: ds => w03_visited mode d ++ w03_visitedDefs mode ds
end

theorem w03_visitedDefs_eq_flatMap (mode : WalkMode) : ∀ ds : List Def, w03_visitedDefs mode ds = ds.flatMap (w03_visited mode)
  | [] => by rw [w03_visitedDefs]; rfl
  | d :: ds => by rw [w03_visitedDefs, List.flatMap_cons, w03_visitedDefs_eq_flatMap mode ds]

theorem w03_labels_assigns (l : List Assignment) :
    (l.flatMap w03_assignCalls).filterMap w03_enterLabel = l.map w03_assignLabel := by
  induction l with
  | nil => rfl
  | cons a l ih =>
    rw [List.flatMap_cons, List.filterMap_append, ih]
    rfl

theorem w03_labels_func (f : FuncDef) : (w03_funcCalls f).filterMap w03_enterLabel = w03_visitedFunc f := by
  unfold w03_funcCalls w03_visitedFunc
  rw [List.filterMap_cons_some (by rfl : w03_enterLabel (.enterFunc f) = some ("function", f.name)),
    List.filterMap_append]
  split
  · rw [w03_labels_assigns]; simp [w03_enterLabel]
  · simp [w03_enterLabel]

mutual
theorem w03_labels_def (mode : WalkMode) : (d : Def) → (w03_defCalls mode d).filterMap w03_enterLabel = w03_visited mode d
  | .func f | .decorator f => by
    unfold w03_defCalls w03_visited
    split
    · rfl
    · exact w03_labels_func f
  | .overloaded impl => by
    unfold w03_defCalls w03_visited
    split
    · rfl
    · cases impl with
      | some f => exact w03_labels_func f
      | none => rfl
  | .cls name fullname bases removed defs => by
    unfold w03_defCalls w03_visited
    split
    · rfl
    · split
      · rw [List.filterMap_cons_some (by rfl : w03_enterLabel (.enterEnum name fullname defs) = some ("enum", name)),
          List.filterMap_append, w03_labels_defs .enum defs]
        simp [w03_enterLabel]
      · rw [List.filterMap_cons_some
            (by rfl : w03_enterLabel (.enterClass name fullname bases removed defs) = some ("class", name)),
          List.filterMap_append, w03_labels_defs .cls defs]
        simp [w03_enterLabel]
  | .assign a => by unfold w03_defCalls w03_visited; split; · rfl
                    · rfl
  | .docExpr _ _ | .other _ => by unfold w03_defCalls w03_visited; rfl
theorem w03_labels_defs (mode : WalkMode) : (ds : List Def) →
    (w03_defsCalls mode ds).filterMap w03_enterLabel = w03_visitedDefs mode ds
  | [] => by unfold w03_defsCalls w03_visitedDefs; rfl
  | d :: ds => by
    unfold w03_defsCalls w03_visitedDefs
    rw [List.filterMap_append, w03_labels_def mode d, w03_labels_defs mode ds]
end

/-- the names of the functions in a list of visited definitions -/
def w03_functionNames (l : List (String × String)) : List String := (l.filter (fun p => p.1 == "function")).map (·.2)

theorem w03_functionNames_append (a b : List (String × String)) :
    w03_functionNames (a ++ b) = w03_functionNames a ++ w03_functionNames b := by
  unfold w03_functionNames; rw [List.filter_append, List.map_append]

theorem w03_functionNames_func (f : FuncDef) : w03_functionNames (w03_visitedFunc f) = [f.name] := by
  unfold w03_visitedFunc w03_functionNames
  rw [List.filter_cons_of_pos (by rfl)]
  split
  · have : ∀ l : List Assignment, (l.map w03_assignLabel).filter (fun p => p.1 == "function") = [] := by
      intro l
      apply List.filter_eq_nil_iff.2
      intro p hp
      obtain ⟨a, _, rfl⟩ := List.mem_map.1 hp
      show ¬ (("assignment" : String) == "function") = true
      decide
    rw [this]; rfl
  · rfl

mutual
theorem w03_functionNames_def (pre : List String) (mode : WalkMode) : (d : Def) →
    w03_functionNames (w03_visited mode d) = (k12_defFuncs pre mode d).map (·.2.name)
  | .func f | .decorator f => by
    unfold w03_visited k12_defFuncs
    split
    · rfl
    · exact w03_functionNames_func f
  | .overloaded impl => by
    unfold w03_visited k12_defFuncs
    split
    · rfl
    · cases impl with
      | some f => exact w03_functionNames_func f
      | none => rfl
  | .cls name fullname bases removed defs => by
    unfold w03_visited k12_defFuncs
    split
    · rfl
    · split
      · rw [← w03_functionNames_defs (pre ++ [name]) .enum defs]; rfl
      · rw [← w03_functionNames_defs (pre ++ [name]) .cls defs]; rfl
  | .assign a => by unfold w03_visited k12_defFuncs; split; · rfl
                    · rfl
  | .docExpr _ _ | .other _ => by unfold w03_visited k12_defFuncs; rfl
theorem w03_functionNames_defs (pre : List String) (mode : WalkMode) : (ds : List Def) →
    w03_functionNames (w03_visitedDefs mode ds) = (k12_defsFuncs pre mode ds).map (·.2.name)
  | [] => by unfold w03_visitedDefs k12_defsFuncs; rfl
  | d :: ds => by
    unfold w03_visitedDefs k12_defsFuncs
    rw [w03_functionNames_append, List.map_append, w03_functionNames_def pre mode d, w03_functionNames_defs pre mode ds]
end

theorem w03_evs_names {src : List (String × FuncDef)} {evs : List Function} (h : List.Forall₂ k12_EvMatch src evs) :
    evs.map (·.name) = src.map (·.2.name) := by
  induction h with
  | nil => rfl
  | cons hab _ ih => rw [List.map_cons, List.map_cons, ih, hab.2.name]

/-! ### 10. the matching condition in terms of segments -/

theorem w03_fwd_iff (key : String) (path : List String) :
    (∃ i, i < path.length ∧ key = w03_fwdKey path i) ↔ ∃ a b, path = a ++ b ∧ a ≠ [] ∧ key = joinWith "." a := by
  constructor
  · rintro ⟨i, hi, rfl⟩
    refine ⟨path.take (i + 1), path.drop (i + 1), (List.take_append_drop _ _).symm, ?_, rfl⟩
    intro h
    have := congrArg List.length h
    rw [List.length_take, List.length_nil] at this
    omega
  · rintro ⟨a, b, rfl, ha, rfl⟩
    have hl : 0 < a.length := List.length_pos_iff.2 ha
    refine ⟨a.length - 1, by rw [List.length_append]; omega, ?_⟩
    unfold w03_fwdKey
    rw [show a.length - 1 + 1 = a.length by omega, List.take_left']
    rfl

theorem w03_bwd_iff (key : String) (path : List String) :
    (∃ i, i < path.length ∧ key = w03_bwdKey path i) ↔ ∃ a b, path = a ++ b ∧ b ≠ [] ∧ key = joinWith "." b := by
  constructor
  · rintro ⟨i, hi, rfl⟩
    refine ⟨path.take (path.length - (i + 1)), path.drop (path.length - (i + 1)), (List.take_append_drop _ _).symm, ?_, rfl⟩
    intro h
    have := congrArg List.length h
    rw [List.length_drop, List.length_nil] at this
    omega
  · rintro ⟨a, b, rfl, hb, rfl⟩
    have hl : 0 < b.length := List.length_pos_iff.2 hb
    refine ⟨b.length - 1, by rw [List.length_append]; omega, ?_⟩
    unfold w03_bwdKey
    rw [List.length_append, show a.length + b.length - (b.length - 1 + 1) = a.length by omega, List.drop_left']
    rfl

theorem w03_wild_iff (key : String) (path : List String) :
    (∃ i, i < path.length ∧ key = w03_wildKey path i) ↔
      ∃ a b l, path = a ++ b ++ [l] ∧ (b ≠ [] ∨ a = []) ∧ key = joinWith "." b ++ ".*" := by
  constructor
  · rintro ⟨i, hi, rfl⟩
    have hne : path ≠ [] := by intro h; rw [h] at hi; simp at hi
    have hsplit : path = path.take (path.length - 1) ++ [path.getLast hne] := by
      rw [← List.dropLast_eq_take]; exact (List.dropLast_concat_getLast hne).symm
    generalize hj : path.length - 1 - min (path.length - 1) (i + 1) = j
    refine ⟨(path.take (path.length - 1)).take j, (path.take (path.length - 1)).drop j, path.getLast hne, ?_, ?_, ?_⟩
    · rw [List.take_append_drop]; exact hsplit
    · by_cases hn : path.length - 1 = 0
      · right
        have : (path.take (path.length - 1)) = [] := by rw [hn]; rfl
        rw [this]; simp
      · left
        intro h
        have := congrArg List.length h
        rw [List.length_drop, List.length_take, List.length_nil] at this
        omega
    · unfold w03_wildKey
      rw [hj]
  · rintro ⟨a, b, l, rfl, hab, rfl⟩
    have hlen : (a ++ b ++ [l]).length = a.length + b.length + 1 := by simp [Nat.add_assoc]
    have htake : (a ++ b ++ [l]).take (a.length + b.length) = a ++ b := by
      rw [List.take_left' (by simp)]
    by_cases hb : b = []
    · have ha : a = [] := hab.resolve_left (fun h => h hb)
      subst ha hb
      exact ⟨0, by simp, rfl⟩
    · have hl : 0 < b.length := List.length_pos_iff.2 hb
      refine ⟨b.length - 1, by rw [hlen]; omega, ?_⟩
      unfold w03_wildKey
      rw [hlen, show a.length + b.length + 1 - 1 = a.length + b.length by omega, htake,
        show a.length + b.length - min (a.length + b.length) (b.length - 1 + 1) = a.length by omega, List.drop_left']
      rfl

end StubGen
