/-
Successful runs of the generator monad `G`: the `_ok` characterisations of `>>=`, `pure`, `get`, `set`, `modify`, `addTodo`,
`logEmit`, and `wp x Q st` ("every successful run of `x` from `st` ends in `Q`") with its rules.  `wp` is partial
correctness from ONE start state; `Triple.of_wp` turns a family of such facts into a Hoare triple (`Proofs/Hoare`).
-/
import StubGen.Model.Gen
import StubGen.Proofs.Hoare

namespace StubGen

/-! ### successful runs of `G` computations -/

section Monad
variable {α β : Type}

theorem bind_apply (x : G α) (f : α → G β) (st : St) :
    (x >>= f) st = match x st with
      | .ok (a, s1) => f a s1
      | .error e => .error e := by
  rw [se_bind_apply]
  cases x st <;> rfl

theorem bind_ok {x : G α} {f : α → G β} {st : St} {r : β × St} :
    (x >>= f) st = .ok r ↔ ∃ a s1, x st = .ok (a, s1) ∧ f a s1 = .ok r := by
  rw [bind_apply]
  cases h : x st with
  | error e => simp
  | ok v =>
    obtain ⟨a, s1⟩ := v
    constructor
    · intro h'
      exact ⟨a, s1, rfl, h'⟩
    · rintro ⟨a', s1', h1, h2⟩
      cases h1
      exact h2

theorem pure_ok {a : α} {st : St} {r : α × St} : (pure a : G α) st = .ok r ↔ r = (a, st) := by
  show Except.ok (a, st) = Except.ok r ↔ _
  constructor
  · intro h; cases h; rfl
  · intro h; rw [h]

theorem throwG_ok {e : PyErr} {st : St} {r : α × St} : (throwG e : G α) st = .ok r ↔ False := by
  simp [throwG]

theorem get_ok {st : St} {r : St × St} : (get : G St) st = .ok r ↔ r = (st, st) := by
  show Except.ok (st, st) = Except.ok r ↔ _
  constructor
  · intro h; cases h; rfl
  · intro h; rw [h]

theorem set_ok {s st : St} {r : PUnit × St} : (set s : G PUnit) st = .ok r ↔ r = (⟨⟩, s) := by
  show Except.ok (PUnit.unit, s) = Except.ok r ↔ _
  constructor
  · intro h; cases h; rfl
  · intro h; rw [h]

theorem modify_ok {f : St → St} {st : St} {r : PUnit × St} :
    (modify f : G PUnit) st = .ok r ↔ r = (⟨⟩, f st) := by
  show Except.ok (PUnit.unit, f st) = Except.ok r ↔ _
  constructor
  · intro h; cases h; rfl
  · intro h; rw [h]

theorem addTodo_ok {k : String} {st : St} {r : Unit × St} :
    addTodo k st = .ok r ↔ r = ((), { st with todos := insertSet k st.todos }) := by
  unfold addTodo
  exact modify_ok

theorem logEmit_ok {kind id : String} {st : St} {r : Unit × St} :
    logEmit kind id st = .ok r ↔ r = ((), { st with log := st.log ++ [(kind, id)] }) := by
  unfold logEmit
  exact modify_ok

theorem ite_run {c : Prop} [Decidable c] (x y : G α) (st : St) :
    (if c then x else y) st = if c then x st else y st := by
  split <;> rfl

end Monad

/-! ### weakest preconditions for successful runs -/

section WP
variable {α β : Type}

/-- every successful run of `x` from `st` ends in a result and state satisfying `Q` -/
def wp (x : G α) (Q : α → St → Prop) (st : St) : Prop := ∀ a st', x st = .ok (a, st') → Q a st'

theorem wp_bind {x : G α} {f : α → G β} {Q : β → St → Prop} {st : St} :
    wp (x >>= f) Q st ↔ wp x (fun a s1 => wp (f a) Q s1) st := by
  unfold wp
  simp only [bind_ok]
  constructor
  · intro h a s1 h1 b s2 h2
    exact h b s2 ⟨a, s1, h1, h2⟩
  · rintro h b s2 ⟨a, s1, h1, h2⟩
    exact h a s1 h1 b s2 h2

theorem wp_pure {a : α} {Q : α → St → Prop} {st : St} : wp (pure a : G α) Q st ↔ Q a st := by
  unfold wp
  simp only [pure_ok]
  constructor
  · intro h; exact h a st rfl
  · intro h a' st' h'; cases h'; exact h

theorem wp_throwG {e : PyErr} {Q : α → St → Prop} {st : St} : wp (throwG e : G α) Q st ↔ True := by
  unfold wp
  simp [throwG_ok]

theorem wp_get {Q : St → St → Prop} {st : St} : wp (get : G St) Q st ↔ Q st st := by
  unfold wp
  simp only [get_ok]
  constructor
  · intro h; exact h st st rfl
  · intro h a' st' h'; cases h'; exact h

theorem wp_set {s : St} {Q : PUnit → St → Prop} {st : St} : wp (set s : G PUnit) Q st ↔ Q ⟨⟩ s := by
  unfold wp
  simp only [set_ok]
  constructor
  · intro h; exact h _ _ rfl
  · intro h a' st' h'; cases h'; exact h

theorem wp_modify {f : St → St} {Q : PUnit → St → Prop} {st : St} :
    wp (modify f : G PUnit) Q st ↔ Q ⟨⟩ (f st) := by
  unfold wp
  simp only [modify_ok]
  constructor
  · intro h; exact h _ _ rfl
  · intro h a' st' h'; cases h'; exact h

theorem wp_addTodo {k : String} {Q : Unit → St → Prop} {st : St} :
    wp (addTodo k) Q st ↔ Q () { st with todos := insertSet k st.todos } := by
  unfold addTodo
  exact wp_modify

theorem wp_logEmit {kind id : String} {Q : Unit → St → Prop} {st : St} :
    wp (logEmit kind id) Q st ↔ Q () { st with log := st.log ++ [(kind, id)] } := by
  unfold logEmit
  exact wp_modify

theorem wp_ite {c : Prop} [Decidable c] {x y : G α} {Q : α → St → Prop} {st : St} :
    wp (if c then x else y) Q st ↔ (c → wp x Q st) ∧ (¬c → wp y Q st) := by
  split <;> simp [*]

theorem wp_conseq {x : G α} {Q R : α → St → Prop} {st : St} (h : wp x Q st)
    (hQR : ∀ a s, Q a s → R a s) : wp x R st :=
  fun a s' hx => hQR a s' (h a s' hx)

theorem wp_of_ok {x : G α} {Q : α → St → Prop} {st : St} {a : α} {st' : St}
    (h : wp x Q st) (hx : x st = .ok (a, st')) : Q a st' := h a st' hx

end WP

/-- partial correctness, as `wp` states it -/
theorem Triple.of_wp {α : Type} {x : G α} {P : St → Prop} {Q : α → St → Prop}
    (h : ∀ st, P st → wp x Q st) : Triple P x Q (fun _ => True) := by
  refine ⟨fun s hs => ?_⟩
  cases hx : x s with
  | error e => trivial
  | ok v => exact h s hs v.1 v.2 hx

end StubGen
