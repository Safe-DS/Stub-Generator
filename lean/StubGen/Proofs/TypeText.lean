/-
Helper lemmas for `StubGen.Theorems.C05`: the relation `GPost` ("a successful run returns such a value and the
state only grew") with its rules, the string-level union normalisation (`finishUnion` = `Spec.unionText`), and
the mutual inductions over `AType` relating `typeStr` to `Spec.typeText`.

`typeStr` renders exactly `tt_typeText` (`tt_typeStr_gpost`, unconditional); `tt_typeText = Spec.typeText` on
`tt_litOk` types (`tt_typeText_eq`); `typeStr` never raises (`typeStr_noRaise`, an invariant in the sense of
`Proofs/Hoare.lean`) on renderable types that are `tt_seqImportable` (no generic class with arguments and an
empty qualified name).
-/
import StubGen.Model.Gen
import StubGen.Spec.TypeSpec
import StubGen.Proofs.PyLemmas
import StubGen.Proofs.AddToImports
import Mathlib.Data.List.Sort
import Mathlib.Data.String.Basic
import Mathlib.Data.List.Perm.Basic

namespace StubGen

open List

/-- `m` does not raise from `st` -/
def Tot {α : Type} (m : G α) (st : St) : Prop := ∃ a st', m st = .ok (a, st')

/-! ### the part of the state a type rendering may touch -/

/-- `b` is `a` with possibly more TODO keys, imports and outside-package classes; nothing else differs -/
structure St.Grows (a b : St) : Prop where
  todos : a.todos ⊆ b.todos
  imports : a.imports ⊆ b.imports
  outside : a.outside ⊆ b.outside
  log : b.log = a.log
  reexports : b.reexports = a.reexports
  classGenerics : b.classGenerics = a.classGenerics
  moduleId : b.moduleId = a.moduleId
  reexportModuleId : b.reexportModuleId = a.reexportModuleId
  creatingReexport : b.creatingReexport = a.creatingReexport

theorem St.Grows.refl (a : St) : St.Grows a a :=
  ⟨fun _ h => h, fun _ h => h, fun _ h => h, rfl, rfl, rfl, rfl, rfl, rfl⟩

theorem St.Grows.trans {a b c : St} (h : St.Grows a b) (h' : St.Grows b c) : St.Grows a c :=
  ⟨fun _ x => h'.todos (h.todos x), fun _ x => h'.imports (h.imports x),
   fun _ x => h'.outside (h.outside x), h'.log.trans h.log, h'.reexports.trans h.reexports,
   h'.classGenerics.trans h.classGenerics, h'.moduleId.trans h.moduleId,
   h'.reexportModuleId.trans h.reexportModuleId, h'.creatingReexport.trans h.creatingReexport⟩

theorem q11_effect_grows (env : Env) (q : String) (st : St) : St.Grows st (q11_effect env q st) := by
  obtain ⟨h1, h2, h3, h4, h5, h6, h7⟩ := q11_effect_onlyIO env q st
  by_cases h : q11_exempt q = true ∨ q11_sameModule st q = true
  · rw [q11_effect_skip h]; exact St.Grows.refl st
  · rw [not_or, Bool.not_eq_true, Bool.not_eq_true] at h
    refine ⟨by rw [h2]; exact fun _ h => h, ?_, ?_, h1, h3, h4, h5, h6, h7⟩
    · rw [q11_effect_imports h.1 h.2]
      split
      · exact fun _ h => h
      · exact subset_insertSet _ _
    · rw [q11_effect_outside h.1 h.2]
      split
      · exact subset_insertSet _ _
      · exact fun _ h => h

/-! ### the model's helper predicates are the specification's -/

theorem builtinName_eq (n : String) : builtinName n = Spec.builtin n := by
  simp only [builtinName, Generated.builtinTypeNames, assocGet?, Spec.builtin, BEq.comm (a := n)]

theorem Lit.render_eq' : Lit.render = Spec.litText := by
  funext l
  cases l with
  | bool b => cases b <;> rfl
  | _ => rfl

theorem isLiteral_eq : isLiteral = Spec.isLit := by funext t; cases t <;> rfl
theorem literalsOf_eq : literalsOf = Spec.litsOf := by funext t; cases t <;> rfl
theorem isNoneNamed_eq : isNoneNamed = Spec.isNoneType := by funext t; cases t <;> rfl
theorem countsAsNamed_eq : countsAsNamed = Spec.nullableKind := by funext t; cases t <;> rfl
theorem namedNone_eq : namedNone = Spec.isNamedNone := by funext t; cases t <;> rfl
theorem dedupStrings_eq : dedupStrings = Spec.dedup := rfl

/-! ### sorting and deduplication -/

section DedupFoldl
variable {α : Type} [BEq α] [LawfulBEq α]

theorem tt_dedupFoldl_nodup (l acc : List α) (h : acc.Nodup) :
    (l.foldl (fun acc a => if acc.contains a then acc else acc ++ [a]) acc).Nodup := by
  induction l generalizing acc with
  | nil => exact h
  | cons a as ih =>
    simp only [List.foldl_cons]
    apply ih
    split
    · exact h
    · rename_i hc
      simp only [List.contains_iff_mem] at hc
      exact List.nodup_append.2 ⟨h, List.nodup_singleton a, by
        intro x hx y hy; simp only [List.mem_singleton] at hy; subst hy; rintro rfl; exact hc hx⟩

theorem tt_dedupFoldl_mem (l acc : List α) (x : α) :
    x ∈ l.foldl (fun acc a => if acc.contains a then acc else acc ++ [a]) acc ↔ x ∈ acc ∨ x ∈ l := by
  induction l generalizing acc with
  | nil => simp
  | cons a as ih =>
    simp only [List.foldl_cons, ih, List.mem_cons]
    split
    · rename_i hc
      simp only [List.contains_iff_mem] at hc
      constructor
      · rintro (h | h)
        · exact Or.inl h
        · exact Or.inr (Or.inr h)
      · rintro (h | rfl | h)
        · exact Or.inl h
        · exact Or.inl hc
        · exact Or.inr h
    · simp only [List.mem_append, List.mem_singleton]
      tauto

theorem tt_dedupFoldl_sublist (l acc : List α) :
    ∃ l', l'.Sublist l ∧ l.foldl (fun acc a => if acc.contains a then acc else acc ++ [a]) acc = acc ++ l' := by
  induction l generalizing acc with
  | nil => exact ⟨[], List.Sublist.refl _, by simp⟩
  | cons a as ih =>
    simp only [List.foldl_cons]
    split
    · obtain ⟨l', h1, h2⟩ := ih acc
      exact ⟨l', h1.cons a, h2⟩
    · obtain ⟨l', h1, h2⟩ := ih (acc ++ [a])
      exact ⟨a :: l', h1.cons_cons a, by rw [h2]; simp⟩

theorem tt_dedupFoldl_of_nodup (l acc : List α) (h : (acc ++ l).Nodup) :
    l.foldl (fun acc a => if acc.contains a then acc else acc ++ [a]) acc = acc ++ l := by
  induction l generalizing acc with
  | nil => simp
  | cons a as ih =>
    simp only [List.foldl_cons]
    have ha : a ∉ acc := by
      intro hm
      have := (List.nodup_middle.1 h)
      rw [List.nodup_cons] at this
      exact this.1 (List.mem_append_left _ hm)
    rw [if_neg (by simpa [List.contains_iff_mem] using ha), ih (acc ++ [a]) (by simpa using h)]
    simp

end DedupFoldl

theorem dedup_nodup (l : List String) : (Spec.dedup l).Nodup := tt_dedupFoldl_nodup l [] List.nodup_nil

theorem mem_dedup (l : List String) (x : String) : x ∈ Spec.dedup l ↔ x ∈ l := by
  unfold Spec.dedup
  rw [tt_dedupFoldl_mem]
  simp

theorem sorted_dedup_nodup (l : List String) : (sortStrings (Spec.dedup l)).Nodup :=
  (sortStrings_perm _).nodup_iff.2 (dedup_nodup l)

theorem mem_sorted_dedup (l : List String) (x : String) : x ∈ sortStrings (Spec.dedup l) ↔ x ∈ l :=
  ((sortStrings_perm _).mem_iff).trans (mem_dedup l x)

/-- a duplicate-free list that ends in `x` is "everything but `x`, then `x`" -/
theorem filter_ne_append_of_last {x : String} :
    ∀ (l : List String), l.Nodup → x ∈ l → lastD "" l = x → l.filter (· != x) ++ [x] = l
  | [], _, h, _ => by simp at h
  | [a], _, _, h3 => by
    simp only [lastD] at h3
    subst h3
    simp
  | a :: b :: rest, h1, h2, h3 => by
    simp only [lastD] at h3
    rw [List.nodup_cons] at h1
    have hb : x ∈ b :: rest := by
      rcases List.mem_cons.1 h2 with rfl | h
      · exact absurd (h3 ▸ lastD_mem "" (b :: rest) (List.cons_ne_nil _ _)) h1.1
      · exact h
    have hax : a ≠ x := by rintro rfl; exact h1.1 hb
    have ih := filter_ne_append_of_last (b :: rest) h1.2 hb h3
    rw [List.filter_cons_of_pos (by simpa using hax), List.cons_append, ih]

theorem noneLast_eq (ms : List String) (hnd : ms.Nodup) (n : String) :
    (if (ms.contains n && lastD "" ms != n) = true then ms.filter (· != n) ++ [n] else ms)
      = (if ms.contains n = true then ms.filter (· != n) ++ [n] else ms) := by
  by_cases hc : ms.contains n = true
  · by_cases hl : lastD "" ms = n
    · have := filter_ne_append_of_last ms hnd (by simpa using hc) hl
      rw [if_pos hc, this]
      simp [hl]
    · rw [if_pos hc, if_pos (by rw [hc]; simpa using hl)]
  · rw [if_neg hc, if_neg (by rw [Bool.not_eq_true] at hc; rw [hc]; simp)]

theorem finishUnion_eq (r : List String) (b : Bool) : finishUnion r b = Spec.unionText r b := by
  unfold finishUnion Spec.unionText
  rw [dedupStrings_eq]
  have hnd := sorted_dedup_nodup r
  generalize sortStrings (Spec.dedup r) = ms at hnd
  have hN : noneTypeName = "Nothing?" := rfl
  match ms, hnd with
  | [], _ => rfl
  | [m], _ => rfl
  | [x, y], hnd =>
    dsimp only
    rw [noneLast_eq _ hnd]
    simp only [hN]
    by_cases hb : b = true
    · by_cases hx : x = "Nothing?"
      · subst hx
        by_cases hy : y = "Nothing?"
        · subst hy; simp [hb]
        · simp [hb, hy]
      · by_cases hy : y = "Nothing?"
        · subst hy; simp [hb, hx]
        · simp [hb, hx, hy, Ne.symm hx, Ne.symm hy]
    · simp [hb]
  | x :: y :: z :: rest, hnd =>
    dsimp only
    rw [noneLast_eq _ hnd]
    simp [hN]

/-! ### union normalisation (`Spec.unionText`) -/

theorem sortStrings_pairwise_le (l : List String) : (sortStrings l).Pairwise (· ≤ ·) :=
  (sortBy_pairwise strLe (fun a b => by simp only [strLe_iff]; exact le_total a b)
    (fun a b c => by simp only [strLe_iff]; exact le_trans) l).imp (strLe_iff _ _).1

theorem sorted_dedup_pairwise_lt (l : List String) : (sortStrings (Spec.dedup l)).Pairwise (· < ·) :=
  ((sortStrings_pairwise_le _).and (sorted_dedup_nodup l)).imp (fun h => lt_of_le_of_ne h.1 h.2)

/-- the sorted duplicate-free member list depends on the *set* of members only -/
theorem sorted_dedup_congr {l l' : List String} (h : ∀ a, a ∈ l ↔ a ∈ l') :
    sortStrings (Spec.dedup l) = sortStrings (Spec.dedup l') :=
  (sorted_dedup_pairwise_lt l).eq_of_mem_iff (sorted_dedup_pairwise_lt l')
    (fun a => by rw [mem_sorted_dedup, mem_sorted_dedup, h])

theorem unionText_congr {l l' : List String} (h : ∀ a, a ∈ l ↔ a ∈ l') (b : Bool) :
    Spec.unionText l b = Spec.unionText l' b := by
  unfold Spec.unionText
  rw [sorted_dedup_congr h]

/-- the member list printed inside `union<…>`: duplicate-free, sorted, `Nothing?` moved to the end -/
def unionMembers (members : List String) : List String :=
  let ms := sortStrings (Spec.dedup members)
  if ms.contains "Nothing?" then ms.filter (· != "Nothing?") ++ ["Nothing?"] else ms

theorem filter_ne_append_perm {x : String} (l : List String) (h1 : l.Nodup) (h2 : x ∈ l) :
    l.filter (· != x) ++ [x] ~ l := by
  rw [← h1.erase_eq_filter]
  exact perm_append_comm.trans (perm_cons_erase h2).symm

theorem unionMembers_perm (members : List String) :
    unionMembers members ~ sortStrings (Spec.dedup members) := by
  unfold unionMembers
  dsimp only
  split
  · rename_i h
    exact filter_ne_append_perm _ (sorted_dedup_nodup _) (by simpa using h)
  · exact Perm.refl _

theorem unionMembers_nodup (members : List String) : (unionMembers members).Nodup :=
  (unionMembers_perm members).nodup_iff.2 (sorted_dedup_nodup members)

theorem mem_unionMembers (members : List String) (m : String) : m ∈ unionMembers members ↔ m ∈ members :=
  ((unionMembers_perm members).mem_iff).trans (mem_sorted_dedup members m)

theorem unionMembers_congr {l l' : List String} (h : ∀ a, a ∈ l ↔ a ∈ l') :
    unionMembers l = unionMembers l' := by
  unfold unionMembers
  rw [sorted_dedup_congr h]

/-- complete case analysis of `Spec.unionText` in terms of the *set* of members -/
theorem unionText_cases (members : List String) (b : Bool) :
    (members = [] ∧ Spec.unionText members b = "") ∨
    (∃ m, members ≠ [] ∧ (∀ x ∈ members, x = m) ∧ Spec.unionText members b = m) ∨
    (∃ x, x ≠ "Nothing?" ∧ (∀ m, m ∈ members ↔ m = x ∨ m = "Nothing?") ∧ b = true ∧
      Spec.unionText members b = x ++ "?") ∨
    (2 ≤ (unionMembers members).length ∧
      ¬ (∃ x, x ≠ "Nothing?" ∧ (∀ m, m ∈ members ↔ m = x ∨ m = "Nothing?") ∧ b = true) ∧
      Spec.unionText members b = "union<" ++ joinWith ", " (unionMembers members) ++ ">") := by
  have hnd := sorted_dedup_nodup members
  have hmem := mem_sorted_dedup members
  have hlen := (unionMembers_perm members).length_eq
  have hU : unionMembers members =
      if (sortStrings (Spec.dedup members)).contains "Nothing?" then
        (sortStrings (Spec.dedup members)).filter (· != "Nothing?") ++ ["Nothing?"]
      else sortStrings (Spec.dedup members) := rfl
  unfold Spec.unionText
  generalize sortStrings (Spec.dedup members) = ms at *
  match ms, hnd, hmem with
  | [], _, hmem =>
    left
    refine ⟨List.eq_nil_iff_forall_not_mem.2 (fun a ha => ?_), rfl⟩
    simpa using (hmem a).2 ha
  | [m], _, hmem =>
    right; left
    refine ⟨m, ?_, fun x hx => by simpa using (hmem x).2 hx, rfl⟩
    intro h
    have := (hmem m).1 (by simp)
    simp [h] at this
  | [x, y], hnd, hmem =>
    have hxy : x ≠ y := by simpa using hnd
    dsimp only
    by_cases hc : (([x, y].length == 2 && [x, y].contains "Nothing?" && b) = true)
    · right; right; left
      rw [if_pos hc]
      simp only [List.length_cons, List.length_nil, Nat.reduceAdd, beq_self_eq_true, Bool.true_and,
        Bool.and_eq_true, List.contains_iff_mem, List.mem_cons, List.not_mem_nil, or_false] at hc
      obtain ⟨hN, hb⟩ := hc
      rcases hN with rfl | rfl
      · refine ⟨y, Ne.symm hxy, fun m => ?_, hb, ?_⟩
        · rw [← hmem m]; simp [or_comm]
        · simp [Ne.symm hxy]
      · refine ⟨x, hxy, fun m => ?_, hb, ?_⟩
        · rw [← hmem m]; simp
        · simp [hxy]
    · right; right; right
      rw [if_neg hc]
      refine ⟨by rw [hlen]; simp, ?_, by rw [hU]⟩
      rintro ⟨z, _, hz, hb⟩
      apply hc
      have : "Nothing?" ∈ [x, y] := (hmem _).2 ((hz _).2 (Or.inr rfl))
      simp only [List.length_cons, List.length_nil, Nat.reduceAdd, beq_self_eq_true, Bool.true_and,
        Bool.and_eq_true, List.contains_iff_mem]
      exact ⟨this, hb⟩
  | x :: y :: z :: rest, hnd, hmem =>
    right; right; right
    dsimp only
    have h3 : ((x :: y :: z :: rest).length == 2) = false := by simp
    rw [h3]
    simp only [Bool.false_and, Bool.false_eq_true, if_false]
    refine ⟨by rw [hlen]; simp, ?_, by rw [hU]⟩
    rintro ⟨w, _, hw, _⟩
    have hx := (hw x).1 ((hmem x).1 (by simp))
    have hy := (hw y).1 ((hmem y).1 (by simp))
    have hz := (hw z).1 ((hmem z).1 (by simp))
    simp only [List.nodup_cons, List.mem_cons, not_or] at hnd
    obtain ⟨⟨hxy, hxz, _⟩, ⟨hyz, _⟩, _⟩ := hnd
    rcases hx with rfl | rfl <;> rcases hy with rfl | rfl <;> rcases hz with rfl | rfl <;>
      first | exact hxy rfl | exact hxz rfl | exact hyz rfl

theorem unionText_singleton (m : String) (b : Bool) : Spec.unionText [m] b = m := by
  simp [Spec.unionText, Spec.dedup, sortStrings, sortBy, insertBy]

theorem unionText_pair (x : String) (hx : x ≠ "Nothing?") : Spec.unionText [x, "Nothing?"] true = x ++ "?" := by
  have hd : Spec.dedup [x, "Nothing?"] = [x, "Nothing?"] := by
    simp [Spec.dedup, Ne.symm hx]
  have hs : sortStrings [x, "Nothing?"] = [x, "Nothing?"] ∨ sortStrings [x, "Nothing?"] = ["Nothing?", x] := by
    simp only [sortStrings, sortBy, insertBy]
    split <;> simp
  unfold Spec.unionText
  rw [hd]
  rcases hs with hs | hs <;> rw [hs] <;> simp [hx]

/-! ### the specification's union case, in the shape of the generator's control flow -/

theorem length_filter_isLit_add (ts : List AType) :
    (ts.filter Spec.isLit).length + (ts.filter (fun t => !Spec.isLit t)).length = ts.length := by
  induction ts with
  | nil => rfl
  | cons t ts ih =>
    by_cases h : Spec.isLit t = true
    · simp only [List.filter_cons, h, Bool.not_true, ite_true, List.length_cons]
      simp only [Bool.false_eq_true, ite_false]
      omega
    · simp only [Bool.not_eq_true] at h
      simp only [List.filter_cons, h, Bool.not_false, ite_true, List.length_cons]
      simp only [Bool.false_eq_true, ite_false]
      omega

theorem any_isNoneType_filter (ts : List AType) :
    (ts.filter (fun t => !Spec.isLit t)).any Spec.isNoneType = ts.any Spec.isNoneType := by
  rw [List.any_filter]
  congr 1
  funext a
  cases a <;> rfl

theorem typeText_union (safe : Bool) (ts : List AType) :
    Spec.typeText safe (.union ts) =
      if (ts.filter Spec.isLit).length ≥ 2 then
        if ((ts.filter (fun t => !Spec.isLit t)).length == 1
            && (ts.filter (fun t => !Spec.isLit t)).any Spec.isNoneType) = true then
          "literal<" ++ joinWith ", "
            ((Spec.dedupLit ((ts.filter Spec.isLit).flatMap Spec.litsOf) ++ [Lit.none]).map Spec.litText) ++ ">"
        else
          Spec.unionText (Spec.nonLitTexts safe ts ++
            ["literal<" ++ joinWith ", "
              ((Spec.dedupLit ((ts.filter Spec.isLit).flatMap Spec.litsOf)).map Spec.litText) ++ ">"])
            (ts.any Spec.nullableKind)
      else if (ts.length == 2 && (ts.filter Spec.isLit).length == 1 && ts.any Spec.isNoneType) = true then
        "literal<" ++ joinWith ", "
          ((Spec.dedupLit ((ts.filter Spec.isLit).flatMap Spec.litsOf) ++ [Lit.none]).map Spec.litText) ++ ">"
      else Spec.unionText (Spec.typeTexts safe ts) (ts.any Spec.nullableKind) := by
  rw [Spec.typeText]
  rw [any_isNoneType_filter]
  have hlen := length_filter_isLit_add ts
  generalize (ts.filter Spec.isLit).length = a at *
  generalize (ts.filter (fun t => !Spec.isLit t)).length = b at *
  generalize ts.any Spec.isNoneType = c
  generalize ts.length = n at *
  split_ifs <;> simp_all
  omega

/-- the callable case of the specification as one equation -/
theorem typeText_callable (safe : Bool) (ps : List AType) (r : AType) :
    Spec.typeText safe (.callable ps r) =
      "(" ++ joinWith ", " (Spec.namedTexts safe "param_" 1 ps) ++ ") -> " ++
      (match r with
       | .tuple ts => "(" ++ joinWith ", " (Spec.namedTexts safe "result_" 1 ts) ++ ")"
       | other => if Spec.isNamedNone other then "()"
                  else convertName "result_1" safe ++ ": " ++ Spec.typeText safe other) := by
  cases r with
  | tuple ts => rw [Spec.typeText]
  | _ => rw [Spec.typeText.eq_13 _ _ _ (by intro ts h; cases h)]

theorem typeTexts_eq_map (safe : Bool) (ts : List AType) :
    Spec.typeTexts safe ts = ts.map (Spec.typeText safe) := by
  induction ts with
  | nil => rfl
  | cons t ts ih => rw [Spec.typeTexts, ih]; rfl

/-- a union without literal members is the normalised union of its members' texts -/
theorem typeText_union_noLit (safe : Bool) (ts : List AType) (h : ∀ t ∈ ts, Spec.isLit t = false) :
    Spec.typeText safe (.union ts) = Spec.unionText (Spec.typeTexts safe ts) (ts.any Spec.nullableKind) := by
  have h1 : ts.filter Spec.isLit = [] := by
    rw [List.filter_eq_nil_iff]
    intro t ht
    simp [h t ht]
  rw [typeText_union, h1]
  simp

theorem optional_text (safe : Bool) (T : AType) (hl : Spec.isLit T = false) (hk : Spec.nullableKind T = true)
    (hx : Spec.typeText safe T ≠ "Nothing?") :
    Spec.typeText safe (.union [T, .named "None" "builtins.None"]) = Spec.typeText safe T ++ "?" := by
  rw [typeText_union_noLit safe _ (by
    intro t ht
    rcases List.mem_cons.1 ht with rfl | ht
    · exact hl
    · rw [List.mem_singleton.1 ht]; rfl)]
  have h2 : Spec.typeTexts safe [T, .named "None" "builtins.None"] = [Spec.typeText safe T, "Nothing?"] := rfl
  have h3 : List.any [T, .named "None" "builtins.None"] Spec.nullableKind = true := by
    simp [hk]
  rw [h2, h3, unionText_pair _ hx]

/-! ### `typeStr` computes `Spec.typeText` and only adds to `todos` / `imports` / `outside` -/

/-- every successful run of `m` from `st` returns a value satisfying `P`, in a state that only grew -/
def GPost {α : Type} (m : G α) (st : St) (P : α → Prop) : Prop :=
  ∀ a st', m st = .ok (a, st') → P a ∧ St.Grows st st'

section
variable {α β : Type}

theorem GPost.bind {m : G α} {f : α → G β} {st : St} {Q : α → Prop} {P : β → Prop}
    (h1 : GPost m st Q) (h2 : ∀ a st1, Q a → GPost (f a) st1 P) : GPost (m >>= f) st P := by
  intro b st' h
  obtain ⟨a, st1, hm, hf⟩ := se_bind_ok h
  obtain ⟨hq, g1⟩ := h1 a st1 hm
  obtain ⟨hp, g2⟩ := h2 a st1 hq b st' hf
  exact ⟨hp, g1.trans g2⟩

theorem GPost.pure {a : α} {st : St} {P : α → Prop} (h : P a) : GPost (pure a) st P := by
  intro b st' h'
  obtain ⟨rfl, rfl⟩ := se_pure_ok h'
  exact ⟨h, .refl _⟩

theorem GPost.throw {e : PyErr} {st : St} {P : α → Prop} : GPost (throwG e) st P :=
  fun _ _ h => nomatch h

theorem GPost.get {st : St} : GPost (get : G St) st (fun _ => True) := by
  intro b st' h'
  obtain ⟨rfl, rfl⟩ := se_get_ok h'
  exact ⟨trivial, .refl _⟩

theorem GPost.addTodo {k : String} {st : St} : GPost (addTodo k) st (fun _ => True) := by
  intro _ st' h
  rw [se_modify_ok h]
  exact ⟨trivial, subset_insertSet _ _, fun _ h => h, fun _ h => h, rfl, rfl, rfl, rfl, rfl, rfl⟩

theorem GPost.addToImports {env : Env} {q : String} {st : St} :
    GPost (addToImports env q) st (fun _ => True) := by
  intro _ st' h
  rw [(q11_addToImports_ok h).2]
  exact ⟨trivial, q11_effect_grows env q st⟩

theorem GPost.mono {m : G α} {st : St} {P Q : α → Prop} (h : GPost m st P) (hpq : ∀ a, P a → Q a) :
    GPost m st Q :=
  fun a st' e => ⟨hpq a (h a st' e).1, (h a st' e).2⟩

end

theorem length_typeTexts (safe : Bool) (ts : List AType) : (Spec.typeTexts safe ts).length = ts.length := by
  induction ts with
  | nil => rfl
  | cons t ts ih => simp [Spec.typeTexts, ih]

theorem typeTexts_isEmpty (safe : Bool) (ts : List AType) : (Spec.typeTexts safe ts).isEmpty = ts.isEmpty := by
  cases ts <;> rfl

theorem tt_dedupLits_eq : dedupLits = Spec.dedupLit := rfl

/-! ### the text the generator writes (`tt_typeText`) and where it is `Spec.typeText` (`tt_litOk`)

Since literal members are deduplicated, generator and `Spec.typeText` differ in exactly one place: a
union of exactly one `Literal[…]` and `None` (`ts.length == 2`, one literal member).  The generator
prints the literal's values as they are (`literal<1, 1, null>`), `Spec.typeText` deduplicates them
(`literal<1, null>`).  `tt_typeText` is `Spec.typeText` with the generator's behaviour at that place;
`typeStr` renders exactly `tt_typeText` (unconditionally), and `tt_typeText = Spec.typeText` on all
types without such a union (`tt_litOk`). -/

mutual
def tt_typeText (safe : Bool) : AType → String
  | .named n _ => (Spec.builtin n).getD (escapeKeyword n)
  | .final t => tt_typeText safe t
  | .list ts => if ts.isEmpty then "List<Any>" else "List<" ++ joinWith ", " (tt_typeTexts safe ts) ++ ">"
  | .set ts => if ts.isEmpty then "Set<Any>" else "Set<" ++ joinWith ", " (tt_typeTexts safe ts) ++ ">"
  | .namedSeq n _ ts =>
    if ts.isEmpty then escapeKeyword n ++ "<Any>" else escapeKeyword n ++ "<" ++ joinWith ", " (tt_typeTexts safe ts) ++ ">"
  | .tuple ts => "Tuple<" ++ joinWith ", " (tt_typeTexts safe ts) ++ ">"
  | .dict k v => "Map<" ++ tt_typeText safe k ++ ", " ++ tt_typeText safe v ++ ">"
  | .literal ls => "literal<" ++ joinWith ", " (ls.map Spec.litText) ++ ">"
  | .typeVar n => escapeKeyword (convertName n safe)
  | .typeVarB n _ => escapeKeyword (convertName n safe)
  | .unknown => "unknown"
  | .callable ps r =>
    "(" ++ joinWith ", " (tt_namedTexts safe "param_" 1 ps) ++ ") -> " ++
    (match r with
     | .tuple ts => "(" ++ joinWith ", " (tt_namedTexts safe "result_" 1 ts) ++ ")"
     | other => if Spec.isNamedNone other then "()" else convertName "result_1" safe ++ ": " ++ tt_typeText safe other)
  | .union ts =>
    if (ts.filter Spec.isLit).length ≥ 2 then
      if ((ts.filter (fun t => !Spec.isLit t)).length == 1
          && (ts.filter (fun t => !Spec.isLit t)).any Spec.isNoneType) = true then
        "literal<" ++ joinWith ", "
          ((Spec.dedupLit ((ts.filter Spec.isLit).flatMap Spec.litsOf) ++ [Lit.none]).map Spec.litText) ++ ">"
      else
        Spec.unionText (tt_nonLitTexts safe ts ++
          ["literal<" ++ joinWith ", "
            ((Spec.dedupLit ((ts.filter Spec.isLit).flatMap Spec.litsOf)).map Spec.litText) ++ ">"])
          (ts.any Spec.nullableKind)
    else if (ts.length == 2 && (ts.filter Spec.isLit).length == 1 && ts.any Spec.isNoneType) = true then
      -- the values of the one literal member as they are, not deduplicated
      "literal<" ++ joinWith ", " ((((ts.filter Spec.isLit).flatMap Spec.litsOf) ++ [Lit.none]).map Spec.litText) ++ ">"
    else Spec.unionText (tt_typeTexts safe ts) (ts.any Spec.nullableKind)
  | .enum _ => ""
  | .boundary .. => ""
def tt_typeTexts (safe : Bool) : List AType → List String
  | [] => []
  | t :: ts => tt_typeText safe t :: tt_typeTexts safe ts
def tt_nonLitTexts (safe : Bool) : List AType → List String
  | [] => []
  | t :: ts => if Spec.isLit t then tt_nonLitTexts safe ts else tt_typeText safe t :: tt_nonLitTexts safe ts
def tt_namedTexts (safe : Bool) (pre : String) (i : Nat) : List AType → List String
  | [] => []
  | t :: ts => (convertName (pre ++ toString i) safe ++ ": " ++ tt_typeText safe t) :: tt_namedTexts safe pre (i + 1) ts
end

mutual
/-- no union of exactly one `Literal[…]` with repeated values and `None` occurs in the type -/
def tt_litOk : AType → Bool
  | .union ts =>
    (!(ts.length == 2 && (ts.filter Spec.isLit).length == 1 && ts.any Spec.isNoneType)
      || decide (Spec.dedupLit ((ts.filter Spec.isLit).flatMap Spec.litsOf) = (ts.filter Spec.isLit).flatMap Spec.litsOf))
    && tt_litOkL ts
  | .namedSeq _ _ ts => tt_litOkL ts
  | .list ts => tt_litOkL ts
  | .set ts => tt_litOkL ts
  | .tuple ts => tt_litOkL ts
  | .dict k v => tt_litOk k && tt_litOk v
  | .callable ps r => tt_litOkL ps && tt_litOk r
  | .final t => tt_litOk t
  | _ => true
def tt_litOkL : List AType → Bool
  | [] => true
  | t :: ts => tt_litOk t && tt_litOkL ts
end

theorem tt_typeTexts_isEmpty (safe : Bool) (ts : List AType) : (tt_typeTexts safe ts).isEmpty = ts.isEmpty := by
  cases ts <;> rfl

/-- the callable case of `tt_typeText` as one equation -/
theorem tt_typeText_callable (safe : Bool) (ps : List AType) (r : AType) :
    tt_typeText safe (.callable ps r) =
      "(" ++ joinWith ", " (tt_namedTexts safe "param_" 1 ps) ++ ") -> " ++
      (match r with
       | .tuple ts => "(" ++ joinWith ", " (tt_namedTexts safe "result_" 1 ts) ++ ")"
       | other => if Spec.isNamedNone other then "()"
                  else convertName "result_1" safe ++ ": " ++ tt_typeText safe other) := by
  cases r <;> rw [tt_typeText] <;> (intro ts h; cases h)

mutual
theorem tt_typeText_eq (safe : Bool) : (t : AType) → tt_litOk t = true →
    tt_typeText safe t = Spec.typeText safe t
  | .named _ _, _ | .literal _, _ | .typeVar _, _ | .typeVarB _ _, _ | .unknown, _ | .enum _, _ | .boundary .., _ => by
    rw [tt_typeText, Spec.typeText]
  | .final t, h => by
    rw [tt_litOk] at h
    rw [tt_typeText, Spec.typeText]
    exact tt_typeText_eq safe t h
  | .list ts, h | .set ts, h | .namedSeq _ _ ts, h | .tuple ts, h => by
    rw [tt_litOk] at h
    rw [tt_typeText, Spec.typeText, tt_typeTexts_eq safe ts h]
  | .dict k v, h => by
    rw [tt_litOk, Bool.and_eq_true] at h
    rw [tt_typeText, Spec.typeText, tt_typeText_eq safe k h.1, tt_typeText_eq safe v h.2]
  | .callable ps r, h => by
    rw [tt_litOk, Bool.and_eq_true] at h
    have ihR := tt_typeText_eq safe r h.2
    rw [tt_typeText_callable, typeText_callable, tt_namedTexts_eq safe ps h.1]
    cases r with
    | tuple ts =>
      dsimp only
      rw [tt_namedTexts_eq safe ts (by simpa only [tt_litOk] using h.2)]
    | _ =>
      dsimp only
      rw [ihR]
  | .union ts, h => by
    rw [tt_litOk] at h
    simp only [Bool.and_eq_true, Bool.or_eq_true, Bool.not_eq_true', decide_eq_true_eq] at h
    obtain ⟨h1, h2⟩ := h
    rw [tt_typeText, typeText_union, tt_typeTexts_eq safe ts h2, tt_nonLitTexts_eq safe ts h2]
    -- the two texts differ in the branch "one literal and `None`" only
    refine ite_congr rfl (fun _ => rfl) fun _ => ite_congr rfl (fun c => ?_) fun _ => rfl
    rcases h1 with h1 | h1
    · rw [h1] at c; cases c
    · rw [h1]
theorem tt_typeTexts_eq (safe : Bool) : (ts : List AType) → tt_litOkL ts = true →
    tt_typeTexts safe ts = Spec.typeTexts safe ts
  | [], _ => by rw [tt_typeTexts, Spec.typeTexts]
  | t :: ts, h => by
    rw [tt_litOkL, Bool.and_eq_true] at h
    rw [tt_typeTexts, Spec.typeTexts, tt_typeText_eq safe t h.1, tt_typeTexts_eq safe ts h.2]
theorem tt_nonLitTexts_eq (safe : Bool) : (ts : List AType) → tt_litOkL ts = true →
    tt_nonLitTexts safe ts = Spec.nonLitTexts safe ts
  | [], _ => by rw [tt_nonLitTexts, Spec.nonLitTexts]
  | t :: ts, h => by
    rw [tt_litOkL, Bool.and_eq_true] at h
    rw [tt_nonLitTexts, Spec.nonLitTexts, tt_typeText_eq safe t h.1, tt_nonLitTexts_eq safe ts h.2]
theorem tt_namedTexts_eq (safe : Bool) : (ts : List AType) → tt_litOkL ts = true → ∀ pre i,
    tt_namedTexts safe pre i ts = Spec.namedTexts safe pre i ts
  | [], _, _, _ => by rw [tt_namedTexts, Spec.namedTexts]
  | t :: ts, h, _, _ => by
    rw [tt_litOkL, Bool.and_eq_true] at h
    rw [tt_namedTexts, Spec.namedTexts, tt_typeText_eq safe t h.1, tt_namedTexts_eq safe ts h.2]
end

/-! ### deduplication of literal values -/


theorem tt_dedupLit_nodup (l : List Lit) : (Spec.dedupLit l).Nodup :=
  tt_dedupFoldl_nodup l [] List.nodup_nil

theorem tt_mem_dedupLit (l : List Lit) (x : Lit) : x ∈ Spec.dedupLit l ↔ x ∈ l := by
  unfold Spec.dedupLit
  rw [tt_dedupFoldl_mem]
  simp

theorem tt_dedupLit_sublist (l : List Lit) : (Spec.dedupLit l).Sublist l := by
  obtain ⟨l', h1, h2⟩ := tt_dedupFoldl_sublist l []
  unfold Spec.dedupLit
  rw [h2]
  exact h1

theorem tt_dedupLit_of_nodup (l : List Lit) (h : l.Nodup) : Spec.dedupLit l = l := by
  unfold Spec.dedupLit
  rw [tt_dedupFoldl_of_nodup l [] (by simpa using h)]
  rfl

theorem tt_escapeKeyword_ne_nothing (n : String) (hn : n ≠ "Nothing?") : escapeKeyword n ≠ "Nothing?" := by
  unfold escapeKeyword
  split
  · intro h
    have := congrArg String.toList h
    simp [Generated.keywordWrap, String.toList_append] at this
  · exact hn

mutual
/-- every `Literal[…]` in the type lists pairwise distinct values -/
def tt_litNodup : AType → Bool
  | .literal ls => decide ls.Nodup
  | .union ts => tt_litNodupL ts
  | .namedSeq _ _ ts => tt_litNodupL ts
  | .list ts => tt_litNodupL ts
  | .set ts => tt_litNodupL ts
  | .tuple ts => tt_litNodupL ts
  | .dict k v => tt_litNodup k && tt_litNodup v
  | .callable ps r => tt_litNodupL ps && tt_litNodup r
  | .final t => tt_litNodup t
  | _ => true
def tt_litNodupL : List AType → Bool
  | [] => true
  | t :: ts => tt_litNodup t && tt_litNodupL ts
end

theorem tt_litNodupL_mem {ts : List AType} (h : tt_litNodupL ts = true) {x : AType} (hx : x ∈ ts) :
    tt_litNodup x = true := by
  induction ts with
  | nil => cases hx
  | cons t ts ih =>
    rw [tt_litNodupL] at h
    simp only [Bool.and_eq_true] at h
    rcases List.mem_cons.1 hx with rfl | hx
    · exact h.1
    · exact ih h.2 hx

theorem tt_flatMap_lits_nodup (ts : List AType) (h : tt_litNodupL ts = true)
    (h1 : (ts.filter Spec.isLit).length = 1) : ((ts.filter Spec.isLit).flatMap Spec.litsOf).Nodup := by
  match hf : ts.filter Spec.isLit, h1 with
  | [x], _ =>
    have hx : x ∈ ts.filter Spec.isLit := by rw [hf]; simp
    rw [List.mem_filter] at hx
    have hn := tt_litNodupL_mem h hx.1
    have hl := hx.2
    cases x <;> simp [Spec.isLit] at hl
    rw [tt_litNodup] at hn
    simpa [Spec.litsOf] using hn

mutual
theorem tt_litOk_of_litNodup : (t : AType) → tt_litNodup t = true → tt_litOk t = true
  | .union ts, h => by
    rw [tt_litNodup] at h
    rw [tt_litOk]
    simp only [Bool.and_eq_true, Bool.or_eq_true, Bool.not_eq_true', decide_eq_true_eq]
    refine ⟨?_, tt_litOkL_of_litNodup ts h⟩
    by_cases hc : (ts.length == 2 && (ts.filter Spec.isLit).length == 1 && ts.any Spec.isNoneType) = true
    · right
      simp only [Bool.and_eq_true, beq_iff_eq] at hc
      exact tt_dedupLit_of_nodup _ (tt_flatMap_lits_nodup ts h hc.1.2)
    · left
      simpa using hc
  | .namedSeq _ _ ts, h | .list ts, h | .set ts, h | .tuple ts, h => by
    rw [tt_litNodup] at h; rw [tt_litOk]; exact tt_litOkL_of_litNodup ts h
  | .dict k v, h => by
    rw [tt_litNodup, Bool.and_eq_true] at h
    rw [tt_litOk, tt_litOk_of_litNodup k h.1, tt_litOk_of_litNodup v h.2]
    rfl
  | .callable ps r, h => by
    rw [tt_litNodup, Bool.and_eq_true] at h
    rw [tt_litOk, tt_litOkL_of_litNodup ps h.1, tt_litOk_of_litNodup r h.2]
    rfl
  | .final t, h => by
    rw [tt_litNodup] at h; rw [tt_litOk]; exact tt_litOk_of_litNodup t h
  | .literal _, _ | .named .., _ | .unknown, _ | .typeVar _, _ | .typeVarB .., _ | .enum _, _ | .boundary .., _ => rfl
theorem tt_litOkL_of_litNodup : (ts : List AType) → tt_litNodupL ts = true → tt_litOkL ts = true
  | [], _ => rfl
  | t :: ts, h => by
    rw [tt_litNodupL, Bool.and_eq_true] at h
    rw [tt_litOkL, tt_litOk_of_litNodup t h.1, tt_litOkL_of_litNodup ts h.2]
    rfl
end

/-- `if c then addTodo k; pure x` -/
macro "todo_then_pure" : tactic => `(tactic|
  ((try dsimp only); split <;>
    first | exact GPost.bind GPost.addTodo (fun _ _ _ => GPost.pure rfl) | exact GPost.pure rfl))

mutual
theorem tt_typeStr_gpost (env : Env) : (t : AType) → ∀ st,
    GPost (typeStr env t) st (fun s => s = tt_typeText env.safe t)
  | .named name qname => by
    intro st
    rw [typeStr, builtinName_eq, tt_typeText]
    cases Spec.builtin name with
    | some b => exact GPost.pure rfl
    | none =>
      dsimp only
      refine GPost.bind GPost.addToImports (fun _ _ _ => ?_)
      split
      · exact GPost.throw
      · refine GPost.bind GPost.get (fun s _ _ => ?_)
        todo_then_pure
  | .final t => by
    intro st
    rw [typeStr, tt_typeText]
    exact tt_typeStr_gpost env t st
  | .callable params ret => by
    intro st
    have ihR := tt_typeStr_gpost env ret
    rw [typeStr, tt_typeText_callable]
    refine GPost.bind (tt_typeStrsNamed_gpost env params "param_" 1 _) (fun ps st1 hps => ?_)
    subst hps
    cases ret with
    | tuple ts =>
      dsimp only
      refine GPost.bind (tt_typeStrsNamed_gpost env ts "result_" 1 _) (fun rs _ hrs => ?_)
      subst hrs
      have e1 : ") -> (" = ") -> " ++ "(" := by decide
      exact GPost.pure (by rw [e1]; simp only [String.append_assoc])
    | _ =>
      dsimp only
      rw [namedNone_eq]
      split
      · have e2 : ") -> ()" = ") -> " ++ "()" := by decide
        exact GPost.pure (by rw [e2]; simp only [String.append_assoc])
      · refine GPost.bind (ihR _) (fun r _ hr => ?_)
        subst hr
        exact GPost.pure (by simp only [String.append_assoc])
  | .set ts => by
    intro st
    rw [typeStr, tt_typeText]
    refine GPost.bind (tt_typeStrs_gpost env ts st) (fun types st1 ht => ?_)
    subst ht
    refine GPost.bind GPost.addTodo (fun _ _ _ => ?_)
    rw [tt_typeTexts_isEmpty]
    split
    · exact GPost.pure rfl
    · todo_then_pure
  | .list ts => by
    intro st
    rw [typeStr, tt_typeText]
    refine GPost.bind (tt_typeStrs_gpost env ts st) (fun types st1 ht => ?_)
    subst ht
    rw [tt_typeTexts_isEmpty]
    split
    · exact GPost.pure rfl
    · todo_then_pure
  | .namedSeq name _ ts => by
    intro st
    rw [typeStr, tt_typeText]
    refine GPost.bind (tt_typeStrs_gpost env ts st) (fun types st1 ht => ?_)
    subst ht
    refine GPost.bind GPost.addToImports (fun _ _ _ => ?_)
    rw [tt_typeTexts_isEmpty]
    split
    · exact GPost.pure rfl
    · todo_then_pure
  | .unknown => by
    intro st
    rw [typeStr, tt_typeText]
    exact GPost.bind GPost.addTodo (fun _ _ _ => GPost.pure rfl)
  | .union ts => by
    intro st
    rw [typeStr, tt_typeText, isLiteral_eq, literalsOf_eq, isNoneNamed_eq, countsAsNamed_eq,
      Lit.render_eq', tt_dedupLits_eq]
    dsimp only
    by_cases h2 : (ts.filter Spec.isLit).length ≥ 2
    · simp only [if_pos h2]
      split
      · exact GPost.pure rfl
      · refine GPost.bind (tt_typeStrsSkipLit_gpost env ts _) (fun rs _ hrs => ?_)
        subst hrs
        exact GPost.pure (finishUnion_eq _ _)
    · simp only [if_neg h2]
      split
      · exact GPost.pure rfl
      · refine GPost.bind (tt_typeStrs_gpost env ts _) (fun rs _ hrs => ?_)
        subst hrs
        exact GPost.pure (finishUnion_eq _ _)
  | .tuple ts => by
    intro st
    rw [typeStr, tt_typeText]
    refine GPost.bind GPost.addTodo (fun _ _ _ => ?_)
    refine GPost.bind (tt_typeStrs_gpost env ts _) (fun types st1 ht => ?_)
    subst ht
    exact GPost.pure rfl
  | .dict k v => by
    intro st
    rw [typeStr, tt_typeText]
    refine GPost.bind (tt_typeStr_gpost env k _) (fun ks _ hk => ?_)
    refine GPost.bind (tt_typeStr_gpost env v _) (fun vs _ hv => ?_)
    subst hk hv
    exact GPost.pure rfl
  | .literal ls => by
    intro st
    rw [typeStr, tt_typeText, Lit.render_eq']
    exact GPost.pure rfl
  | .typeVar _ | .typeVarB _ _ => by
    intro st
    rw [typeStr, tt_typeText]
    exact GPost.pure rfl
  | .enum _ | .boundary .. => by
    intro st
    rw [typeStr]
    exact GPost.throw
theorem tt_typeStrs_gpost (env : Env) : (ts : List AType) → ∀ st,
    GPost (typeStrs env ts) st (fun r => r = tt_typeTexts env.safe ts)
  | [] => by
    intro st
    rw [typeStrs, tt_typeTexts]
    exact GPost.pure rfl
  | t :: ts => by
    intro st
    rw [typeStrs, tt_typeTexts]
    refine GPost.bind (tt_typeStr_gpost env t _) (fun a _ ha => ?_)
    refine GPost.bind (tt_typeStrs_gpost env ts _) (fun as _ has => ?_)
    subst ha has
    exact GPost.pure rfl
theorem tt_typeStrsSkipLit_gpost (env : Env) : (ts : List AType) → ∀ st,
    GPost (typeStrsSkipLit env ts) st (fun r => r = tt_nonLitTexts env.safe ts)
  | [] => by
    intro st
    rw [typeStrsSkipLit, tt_nonLitTexts]
    exact GPost.pure rfl
  | t :: ts => by
    intro st
    rw [typeStrsSkipLit, tt_nonLitTexts, isLiteral_eq]
    split
    · exact tt_typeStrsSkipLit_gpost env ts st
    · refine GPost.bind (tt_typeStr_gpost env t _) (fun a _ ha => ?_)
      refine GPost.bind (tt_typeStrsSkipLit_gpost env ts _) (fun as _ has => ?_)
      subst ha has
      exact GPost.pure rfl
theorem tt_typeStrsNamed_gpost (env : Env) : (ts : List AType) → ∀ pre i st,
    GPost (typeStrsNamed env pre i ts) st (fun r => r = tt_namedTexts env.safe pre i ts)
  | [] => by
    intro pre i st
    rw [typeStrsNamed, tt_namedTexts]
    exact GPost.pure rfl
  | t :: ts => by
    intro pre i st
    rw [typeStrsNamed, tt_namedTexts]
    refine GPost.bind (tt_typeStr_gpost env t _) (fun a _ ha => ?_)
    refine GPost.bind (tt_typeStrsNamed_gpost env ts _ _ _) (fun as _ has => ?_)
    subst ha has
    exact GPost.pure rfl
end

/-! ### `typeStr` does not raise on renderable types -/

theorem toList_ne_nil_of_ne_empty {s : String} (h : s ≠ "") : s.toList ≠ [] := by
  intro h'
  apply h
  simpa using h'

mutual
/-- every generic class with type arguments (`Sequence[…]`, `Collection[…]`, `C[…]`) has a qualified
    name, i.e. an import source (`Spec.renderable` does not ask for it) -/
def tt_seqImportable : AType → Bool
  | .namedSeq _ q ts => q != "" && tt_seqImportableL ts
  | .union ts => tt_seqImportableL ts
  | .list ts => tt_seqImportableL ts
  | .set ts => tt_seqImportableL ts
  | .tuple ts => tt_seqImportableL ts
  | .dict k v => tt_seqImportable k && tt_seqImportable v
  | .callable ps r => tt_seqImportableL ps && tt_seqImportable r
  | .final t => tt_seqImportable t
  | _ => true
def tt_seqImportableL : List AType → Bool
  | [] => true
  | t :: ts => tt_seqImportable t && tt_seqImportableL ts
end

/-- `m` raises from no state -/
abbrev NoRaise {α : Type} (m : G α) : Prop := Inv (fun _ : St => True) (fun _ => False) m

theorem Tot.of_noRaise {α : Type} {m : G α} (h : NoRaise m) (st : St) : Tot m st := by
  have := h.run st trivial
  cases hm : m st with
  | ok r => exact ⟨r.1, r.2, hm⟩
  | error e => rw [hm] at this; exact this.elim

theorem addTodo_noRaise (k : String) : NoRaise (addTodo k) := Triple.modify fun _ _ => trivial

theorem addToImports_noRaise (env : Env) {q : String} (hq : q ≠ "") : NoRaise (addToImports env q) :=
  ⟨fun st _ => by rw [q11_addToImports_eq, if_neg hq]; trivial⟩

mutual
theorem typeStr_noRaise (env : Env) : (t : AType) → Spec.renderable t = true → tt_seqImportable t = true →
    NoRaise (typeStr env t)
  | .named name qname, hr, _ => by
    rw [Spec.renderable, Bool.and_eq_true, bne_iff_ne, bne_iff_ne] at hr
    rw [typeStr]
    cases hl : name.toList with
    | nil => exact absurd hl (toList_ne_nil_of_ne_empty hr.1)
    | cons c cs => hoare [addToImports_noRaise env hr.2, addTodo_noRaise]
  | .final t, hr, hq => by
    rw [Spec.renderable] at hr
    rw [tt_seqImportable] at hq
    rw [typeStr]
    exact typeStr_noRaise env t hr hq
  | .callable params ret, hr, hq => by
    rw [Spec.renderable, Bool.and_eq_true] at hr
    rw [tt_seqImportable, Bool.and_eq_true] at hq
    have ihR := typeStr_noRaise env ret hr.2 hq.2
    rw [typeStr]
    cases ret with
    | tuple ts =>
      rw [Spec.renderable] at hr
      rw [tt_seqImportable] at hq
      hoare [typeStrsNamed_noRaise env params hr.1 hq.1, typeStrsNamed_noRaise env ts hr.2 hq.2]
    | _ => hoare [typeStrsNamed_noRaise env params hr.1 hq.1, ihR]
  | .set ts, hr, hq | .list ts, hr, hq | .union ts, hr, hq | .tuple ts, hr, hq => by
    rw [Spec.renderable] at hr
    rw [tt_seqImportable] at hq
    rw [typeStr]
    hoare [typeStrs_noRaise env ts hr hq, typeStrsSkipLit_noRaise env ts hr hq, addTodo_noRaise]
  | .namedSeq name qname ts, hr, hq => by
    rw [Spec.renderable] at hr
    rw [tt_seqImportable, Bool.and_eq_true, bne_iff_ne] at hq
    rw [typeStr]
    hoare [typeStrs_noRaise env ts hr hq.2, addToImports_noRaise env hq.1, addTodo_noRaise]
  | .dict k v, hr, hq => by
    rw [Spec.renderable, Bool.and_eq_true] at hr
    rw [tt_seqImportable, Bool.and_eq_true] at hq
    rw [typeStr]
    hoare [typeStr_noRaise env k hr.1 hq.1, typeStr_noRaise env v hr.2 hq.2]
  | .unknown, _, _ | .literal _, _, _ | .typeVar _, _, _ | .typeVarB _ _, _, _ => by
    rw [typeStr]
    hoare [addTodo_noRaise]
  | .enum _, hr, _ | .boundary .., hr, _ => by
    rw [Spec.renderable] at hr
    cases hr
theorem typeStrs_noRaise (env : Env) : (ts : List AType) → Spec.renderableL ts = true →
    tt_seqImportableL ts = true → NoRaise (typeStrs env ts)
  | [], _, _ => by rw [typeStrs]; exact Inv.pure _
  | t :: ts, hr, hq => by
    rw [Spec.renderableL, Bool.and_eq_true] at hr
    rw [tt_seqImportableL, Bool.and_eq_true] at hq
    rw [typeStrs]
    hoare [typeStr_noRaise env t hr.1 hq.1, typeStrs_noRaise env ts hr.2 hq.2]
theorem typeStrsSkipLit_noRaise (env : Env) : (ts : List AType) → Spec.renderableL ts = true →
    tt_seqImportableL ts = true → NoRaise (typeStrsSkipLit env ts)
  | [], _, _ => by rw [typeStrsSkipLit]; exact Inv.pure _
  | t :: ts, hr, hq => by
    rw [Spec.renderableL, Bool.and_eq_true] at hr
    rw [tt_seqImportableL, Bool.and_eq_true] at hq
    rw [typeStrsSkipLit]
    hoare [typeStr_noRaise env t hr.1 hq.1, typeStrsSkipLit_noRaise env ts hr.2 hq.2]
theorem typeStrsNamed_noRaise (env : Env) : (ts : List AType) → Spec.renderableL ts = true →
    tt_seqImportableL ts = true → ∀ pre i, NoRaise (typeStrsNamed env pre i ts)
  | [], _, _, _, _ => by rw [typeStrsNamed]; exact Inv.pure _
  | t :: ts, hr, hq, _, _ => by
    rw [Spec.renderableL, Bool.and_eq_true] at hr
    rw [tt_seqImportableL, Bool.and_eq_true] at hq
    rw [typeStrsNamed]
    hoare [typeStr_noRaise env t hr.1 hq.1, typeStrsNamed_noRaise env ts hr.2 hq.2 _ _]
end

theorem typeStrs_tot (env : Env) : (ts : List AType) → Spec.renderableL ts = true →
    tt_seqImportableL ts = true → ∀ st, Tot (typeStrs env ts) st :=
  fun ts hr hq => .of_noRaise (typeStrs_noRaise env ts hr hq)

theorem typeStrsSkipLit_tot (env : Env) : (ts : List AType) → Spec.renderableL ts = true →
    tt_seqImportableL ts = true → ∀ st, Tot (typeStrsSkipLit env ts) st :=
  fun ts hr hq => .of_noRaise (typeStrsSkipLit_noRaise env ts hr hq)

theorem typeStrsNamed_tot (env : Env) : (ts : List AType) → Spec.renderableL ts = true →
    tt_seqImportableL ts = true → ∀ pre i st, Tot (typeStrsNamed env pre i ts) st :=
  fun ts hr hq pre i => .of_noRaise (typeStrsNamed_noRaise env ts hr hq pre i)

end StubGen
