/-
Proof machinery for C13a / C14: the docstring-annotation → API-type mapping (`annToType`) against a
readable specification, the griffe node lookup as an iterated child lookup, and readable
characterisations of the documentation queries.  All names carry the prefix `v13_`.
-/
import StubGen.Proofs.Doc

namespace StubGen

/-! ## Part 1 — `annToType` -/

/-- the names with a fixed meaning (compared with the CANONICAL PATH of the name) -/
def v13_nameTable : List (String × AType) :=
  [("typing.Any", .named "Any" "typing.Any"), ("int", .named "int" "builtins.int"), ("bool", .named "bool" "builtins.bool"),
   ("float", .named "float" "builtins.float"), ("str", .named "str" "builtins.str"),
   ("list", .list []), ("tuple", .tuple []), ("set", .set [])]

/-- the type of `p[types]` (`p` the canonical path, `n` the canonical name of the subscripted name) -/
def v13_subscriptType (p n : String) (types : List AType) : AType :=
  if p ∈ ["list", "collections.abc.Sequence", "collections.abc.Iterator"] then .list types
  else if p = "tuple" then .tuple types
  else if p = "set" then .set types
  else if p ∈ ["collections.abc.Callable", "typing.Callable"] then
    match types with
    | [] => .unknown
    | .list ps :: rest => .callable ps (rest.headD anyType)
    | t :: rest => .callable [t] (rest.headD anyType)
  else if p ∈ ["dict", "collections.abc.Mapping", "typing.Mapping"] then
    .dict (types.headD anyType) (types.getD 1 anyType)
  else if p = "typing.Optional" then .union (types ++ [noneType])
  else .namedSeq n p types

/-- **the specification** of `_griffe_annotation_to_api_type`: a docstring annotation's API type;
    `none` = "no type".  Elements without a type are dropped from every container. -/
def v13_docType : GExpr → Option AType
  | .name p n => some ((v13_nameTable.lookup p).getD (.named n p))
  | .subscript p n (.tuple es) => some (v13_subscriptType p n (es.filterMap v13_docType))
  | .subscript p n slice => some (v13_subscriptType p n (v13_docType slice).toList)
  | .list es => some (.list (es.filterMap v13_docType))
  | .boolOp vs => some (.union (vs.filterMap v13_docType))
  | .binOp ops => some (.union (ops.filterMap v13_docType))
  | .tuple es =>
    let elems := (es.filter (fun e => !isOptionalMarker e)).filterMap v13_docType
    some (if es.any isOptionalMarker then .union (elems ++ [noneType]) else .tuple elems)
  | .str _ cut none => if cut = "None" then some noneType else none
  | .str _ _ (some e) => v13_docType e
  | .other => some .unknown

/-- the element types of a subscript's slice, in terms of the model function -/
def v13_sliceTypes : GExpr → List AType
  | .tuple es => annsToTypes es
  | s => (annToType s).toList

/-- a table entry read as one test of the dispatch -/
theorem v13_lookup_getD_cons {α : Type} (p k : String) (v d : α) (es : List (String × α)) :
    (((k, v) :: es).lookup p).getD d = if (p == k) = true then v else (es.lookup p).getD d := by
  rw [List.lookup_cons]; cases p == k <;> rfl

theorem v13_annToType_name (p n : String) :
    annToType (.name p n) = some ((v13_nameTable.lookup p).getD (.named n p)) := by
  rw [annToType]
  simp only [v13_nameTable, v13_lookup_getD_cons, List.lookup_nil, Option.getD_none, apply_ite some, anyType]

theorem v13_optList (o : Option AType) : (match o with | some t => [t] | none => []) = o.toList := by
  cases o <;> rfl

theorem v13_chain (p n : String) (types : List AType) :
    (if (p == "list" || p == "collections.abc.Sequence" || p == "collections.abc.Iterator") = true then
      some (AType.list types)
    else if (p == "tuple") = true then some (AType.tuple types)
    else if (p == "set") = true then some (AType.set types)
    else if (p == "collections.abc.Callable" || p == "typing.Callable") = true then
      have paramType := types.headD anyType;
      if types.isEmpty = true then some AType.unknown
      else
        have params := match paramType with
          | AType.list ts => ts
          | t => [t];
        some (AType.callable params (types.getD 1 anyType))
    else if (p == "dict" || p == "collections.abc.Mapping" || p == "typing.Mapping") = true then
      some ((types.headD anyType).dict (types.getD 1 anyType))
    else if (p == "typing.Optional") = true then some (AType.union (types ++ [noneType]))
    else some (AType.namedSeq n p types)) = some (v13_subscriptType p n types) := by
  unfold v13_subscriptType
  simp only [apply_ite some, Bool.or_eq_true, beq_iff_eq, List.mem_cons, List.not_mem_nil, or_false, or_assoc]
  -- the two chains now differ in the `Callable` branch only
  refine ite_congr rfl (fun _ => rfl) fun _ => ite_congr rfl (fun _ => rfl) fun _ => ite_congr rfl (fun _ => rfl) fun _ =>
    ite_congr rfl (fun _ => ?_) fun _ => rfl
  cases types with
  | nil => rfl
  | cons t ts => cases t <;> cases ts <;> rfl

theorem v13_annToType_subscript (p n : String) (slice : GExpr) :
    annToType (.subscript p n slice) = some (v13_subscriptType p n (v13_sliceTypes slice)) := by
  cases slice with
  | tuple es => rw [annToType.eq_2]; exact v13_chain p n _
  | _ =>
    rw [annToType.eq_3 _ _ _ (by intro es h; cases h)]
    simp only [v13_sliceTypes]
    generalize annToType _ = o
    cases o <;> exact v13_chain p n _


theorem v13_annsToTypes_eq (es : List GExpr) : annsToTypes es = es.filterMap annToType := by
  induction es with
  | nil => rfl
  | cons e es ih => rw [annsToTypes, ih, List.filterMap_cons]; cases annToType e <;> rfl

theorem v13_annsToTypesSkipOptional_eq (es : List GExpr) :
    annsToTypesSkipOptional es = (es.filter (fun e => !isOptionalMarker e)).filterMap annToType := by
  induction es with
  | nil => rfl
  | cons e es ih =>
    rw [annsToTypesSkipOptional, ih, List.filter_cons]
    cases hm : isOptionalMarker e
    · simp only [Bool.false_eq_true, if_false, Bool.not_false, if_true, List.filterMap_cons]
      cases annToType e <;> rfl
    · simp only [if_true, Bool.not_true, Bool.false_eq_true, if_false]

theorem v13_annToType_tuple (es : List GExpr) :
    annToType (.tuple es) =
      some (if es.any isOptionalMarker
        then .union ((es.filter (fun e => !isOptionalMarker e)).filterMap annToType ++ [noneType])
        else .tuple ((es.filter (fun e => !isOptionalMarker e)).filterMap annToType)) := by
  rw [annToType, v13_annsToTypesSkipOptional_eq]
  split <;> rfl

theorem v13_filterMap_congr {α β : Type} {f g : α → Option β} {l : List α} (h : ∀ x ∈ l, f x = g x) :
    l.filterMap f = l.filterMap g := by
  induction l with
  | nil => rfl
  | cons a l ih =>
    rw [List.filterMap_cons, List.filterMap_cons, h a (by simp), ih (fun x hx => h x (by simp [hx]))]

theorem v13_docType_eq_lt (k : Nat) : ∀ e : GExpr, sizeOf e < k → annToType e = v13_docType e := by
  induction k with
  | zero => intro e h; exact absurd h (Nat.not_lt_zero _)
  | succ k ih =>
    intro e h
    have hm : ∀ es l : List GExpr, sizeOf es < k → l ⊆ es → l.filterMap annToType = l.filterMap v13_docType :=
      fun es l hes hsub => v13_filterMap_congr fun x hx =>
        ih x (Nat.lt_trans (List.sizeOf_lt_of_mem (hsub hx)) hes)
    have hl : ∀ es : List GExpr, sizeOf es < k → es.filterMap annToType = es.filterMap v13_docType :=
      fun es hes => hm es es hes (List.Subset.refl _)
    cases e with
    | name p n => rw [v13_annToType_name, v13_docType]
    | subscript p n slice =>
      rw [v13_annToType_subscript]
      cases slice with
      | tuple es =>
        rw [v13_docType, v13_sliceTypes, v13_annsToTypes_eq, hl es (by simp at h; omega)]
      | _ =>
        rw [v13_docType, v13_sliceTypes, ih _ (by simp at h ⊢; omega)]
        all_goals (intro es he; cases he)
    | tuple es =>
      rw [v13_annToType_tuple, v13_docType, hm es _ (by simp at h; omega) (List.filter_subset_self _)]
    | list es | boolOp es | binOp es =>
      rw [annToType, v13_docType, v13_annsToTypes_eq, hl es (by simp at h; omega)]
    | str raw cut parsed =>
      cases parsed with
      | none => rw [annToType, v13_docType]; simp only [beq_iff_eq]
      | some e' => rw [annToType, v13_docType]; exact ih e' (by simp at h ⊢; omega)
    | other => rw [annToType, v13_docType]

theorem v13_docType_eq (e : GExpr) : annToType e = v13_docType e :=
  v13_docType_eq_lt (sizeOf e + 1) e (Nat.lt_succ_self _)


/-! ## Part 2 — which annotations have no type -/

/-- towers of string annotations that end in a string griffe could not parse and that is not `None` -/
inductive v13_NoType : GExpr → Prop
  | unparsable (raw cut : String) : cut ≠ "None" → v13_NoType (.str raw cut none)
  | wrapped (raw cut : String) (e : GExpr) : v13_NoType e → v13_NoType (.str raw cut (some e))

theorem v13_none_of_noType {e : GExpr} (h : v13_NoType e) : annToType e = none := by
  induction h with
  | unparsable raw cut hc =>
    rw [annToType]
    have : (cut == "None") = false := by simpa using hc
    simp only [this, Bool.false_eq_true, if_false]
  | wrapped raw cut e _ ih => rw [annToType]; exact ih

theorem v13_noType_of_none_lt (k : Nat) : ∀ e : GExpr, sizeOf e < k → annToType e = none → v13_NoType e := by
  induction k with
  | zero => intro e h; exact absurd h (Nat.not_lt_zero _)
  | succ k ih =>
    intro e h hn
    cases e with
    | name p n => rw [v13_annToType_name] at hn; cases hn
    | subscript p n slice => rw [v13_annToType_subscript] at hn; cases hn
    | tuple es => rw [v13_annToType_tuple] at hn; cases hn
    | list es | boolOp es | binOp es | other => rw [annToType] at hn; cases hn
    | str raw cut parsed =>
      cases parsed with
      | none =>
        rw [annToType] at hn
        refine .unparsable raw cut ?_
        intro hc
        simp [hc] at hn
      | some e' =>
        rw [annToType] at hn
        exact .wrapped raw cut e' (ih e' (by simp at h ⊢; omega) hn)

/-! ## Part 3 — node lookup -/

theorem v13_findChild_eq (name : String) (l : List GNode) :
    findChild name l = l.find? (fun c => c.name == name) := by
  induction l with
  | nil => rfl
  | cons n ns ih =>
    rw [findChild, List.find?_cons, ih]
    cases n.name == name <;> rfl

/-- the members of a node in the order `_get_griffe_node` searches them -/
def v13_members (node : GNode) : List GNode :=
  node.modules ++ node.classes ++ node.functions ++ node.attributes

/-- the member a name denotes: the first one of that name among modules, classes, functions, attributes -/
def v13_child (node : GNode) (part : String) : Option GNode :=
  (v13_members node).find? (fun c => c.name == part)

/-- the same as a relation with the priority spelled out -/
inductive v13_Child (node : GNode) (part : String) (c : GNode) : Prop
  | inModules (h : findChild part node.modules = some c)
  | inClasses (h0 : findChild part node.modules = none) (h : findChild part node.classes = some c)
  | inFunctions (h0 : findChild part node.modules = none) (h1 : findChild part node.classes = none)
      (h : findChild part node.functions = some c)
  | inAttributes (h0 : findChild part node.modules = none) (h1 : findChild part node.classes = none)
      (h2 : findChild part node.functions = none) (h : findChild part node.attributes = some c)

theorem v13_child_eq (node : GNode) (part : String) :
    v13_child node part =
      match findChild part node.modules with
      | some c => some c
      | none => match findChild part node.classes with
        | some c => some c
        | none => match findChild part node.functions with
          | some c => some c
          | none => findChild part node.attributes := by
  simp only [v13_child, v13_members, v13_findChild_eq, List.find?_append]
  cases List.find? (fun c => c.name == part) node.modules <;>
    cases List.find? (fun c => c.name == part) node.classes <;>
    cases List.find? (fun c => c.name == part) node.functions <;> rfl

theorem v13_Child_iff (node : GNode) (part : String) (c : GNode) :
    v13_Child node part c ↔ v13_child node part = some c := by
  rw [v13_child_eq]
  constructor
  · intro h
    cases h with
    | inModules h => simp only [h]
    | inClasses h0 h => simp only [h0, h]
    | inFunctions h0 h1 h => simp only [h0, h1, h]
    | inAttributes h0 h1 h2 h => simp only [h0, h1, h2, h]
  · intro h
    cases h0 : findChild part node.modules with
    | some c0 => rw [h0] at h; cases h; exact .inModules h0
    | none =>
      cases h1 : findChild part node.classes with
      | some c1 => rw [h0, h1] at h; cases h; exact .inClasses h0 h1
      | none =>
        cases h2 : findChild part node.functions with
        | some c2 => rw [h0, h1, h2] at h; cases h; exact .inFunctions h0 h1 h2
        | none => rw [h0, h1, h2] at h; exact .inAttributes h0 h1 h2 h

/-- one non-first loop iteration of `_get_griffe_node` -/
def v13_step (node : GNode) (part : String) : Except PyErr (Option GNode) :=
  match v13_child node part with
  | some c => .ok (some c)
  | none => if part = "__init__" ∧ node.isClass = true then .ok none else .error .valueError

theorem v13_griffeStep_false (node : GNode) (part : String) :
    griffeStep node part false = v13_step node part := by
  unfold griffeStep v13_step
  rw [v13_child_eq]
  simp only [Bool.false_and, Bool.false_eq_true, if_false]
  cases findChild part node.modules with
  | some c => rfl
  | none =>
    cases findChild part node.classes with
    | some c => rfl
    | none =>
      cases findChild part node.functions with
      | some c => rfl
      | none =>
        cases findChild part node.attributes with
        | some c => rfl
        | none =>
          simp only [Bool.and_eq_true, beq_iff_eq]

theorem v13_griffeStep_true (node : GNode) (part : String) :
    griffeStep node part true = if node.name = part then .ok (some node) else v13_step node part := by
  rw [← v13_griffeStep_false]
  unfold griffeStep
  simp only [Bool.true_and, beq_iff_eq, Bool.false_and, Bool.false_eq_true, if_false]

/-- the iterated child lookup: every part is one step down -/
def v13_walk : GNode → List String → Except PyErr (Option GNode)
  | node, [] => .ok (some node)
  | node, p :: ps =>
    match v13_step node p with
    | .error e => .error e
    | .ok none => .ok none
    | .ok (some c) => v13_walk c ps

theorem v13_griffeWalk_eq (node : GNode) (ps : List String) : griffeWalk node ps = v13_walk node ps := by
  induction ps generalizing node with
  | nil => rfl
  | cons p ps ih =>
    rw [griffeWalk, v13_walk, v13_griffeStep_false]
    cases v13_step node p with
    | error e => rfl
    | ok r => cases r with
      | none => rfl
      | some c => exact ih c

/-- the parts of the qualified name that are walked: the first one is dropped when it is the root's name -/
def v13_parts (root : GNode) (qname : String) : List String :=
  match splitDot qname with
  | [] => []
  | p :: ps => if root.name = p then ps else p :: ps

/-- `m` is reached from `n` along the names `ps`, one child step per name -/
inductive v13_Path : GNode → List String → GNode → Prop
  | nil (n : GNode) : v13_Path n [] n
  | cons {n c m : GNode} {p : String} {ps : List String} :
      v13_Child n p c → v13_Path c ps m → v13_Path n (p :: ps) m

theorem v13_walk_append {n m : GNode} {pre : List String} (h : v13_Path n pre m) (qs : List String) :
    v13_walk n (pre ++ qs) = v13_walk m qs := by
  induction h with
  | nil n => rfl
  | cons hc _ ih =>
    rw [List.cons_append, v13_walk]
    unfold v13_step
    rw [(v13_Child_iff _ _ _).1 hc]
    exact ih

theorem v13_walk_stuck {m : GNode} {p : String} (h : v13_child m p = none) (post : List String) :
    v13_walk m (p :: post) = if p = "__init__" ∧ m.isClass = true then .ok none else .error .valueError := by
  rw [v13_walk]
  unfold v13_step
  rw [h]
  dsimp only
  by_cases hi : p = "__init__" ∧ m.isClass = true
  · rw [if_pos hi]
  · rw [if_neg hi]

/-- a walk either follows a path to its end, or stops at the first part that names no member: with the early
    `return None` at `__init__` below a class, with `ValueError` otherwise -/
theorem v13_walk_spec (n : GNode) (ps : List String) :
    (∃ m, v13_Path n ps m ∧ v13_walk n ps = .ok (some m)) ∨
    ∃ pre p post m, ps = pre ++ p :: post ∧ v13_Path n pre m ∧ v13_child m p = none ∧
      v13_walk n ps = if p = "__init__" ∧ m.isClass = true then .ok none else .error .valueError := by
  induction ps generalizing n with
  | nil => exact .inl ⟨n, .nil n, rfl⟩
  | cons p ps ih =>
    cases hc : v13_child n p with
    | none => exact .inr ⟨[], p, ps, n, rfl, .nil n, hc, v13_walk_stuck hc ps⟩
    | some c =>
      have hC := (v13_Child_iff n p c).2 hc
      have hw : v13_walk n (p :: ps) = v13_walk c ps := v13_walk_append (.cons hC (.nil c)) ps
      rw [hw]
      rcases ih c with ⟨m, hm, hw⟩ | ⟨pre, q, post, m, he, hm, hq, hw⟩
      · exact .inl ⟨m, .cons hC hm, hw⟩
      · exact .inr ⟨p :: pre, q, post, m, by rw [he]; rfl, .cons hC hm, hq, hw⟩

theorem v13_walk_some_iff (n : GNode) (ps : List String) (m : GNode) :
    v13_walk n ps = .ok (some m) ↔ v13_Path n ps m := by
  constructor
  · intro h
    rcases v13_walk_spec n ps with ⟨m', hm, hw⟩ | ⟨pre, p, post, m', _, _, _, hw⟩ <;> rw [hw] at h
    · cases h; exact hm
    · split at h <;> cases h
  · intro h
    have := v13_walk_append h []
    rwa [List.append_nil] at this

theorem v13_Path_append {n c m : GNode} {ps qs : List String} (h1 : v13_Path n ps c) (h2 : v13_Path c qs m) :
    v13_Path n (ps ++ qs) m := by
  induction h1 with
  | nil n => exact h2
  | cons hc _ ih => exact .cons hc (ih h2)

/-- the early `return None`: the walk reaches a class through a prefix of the parts, the next part is
    `__init__`, and the class has no member of that name -/
theorem v13_walk_none_iff (n : GNode) (ps : List String) :
    v13_walk n ps = .ok none ↔
      ∃ pre post cls, ps = pre ++ "__init__" :: post ∧ v13_Path n pre cls ∧ cls.isClass = true
        ∧ v13_child cls "__init__" = none := by
  constructor
  · intro h
    rcases v13_walk_spec n ps with ⟨m, _, hw⟩ | ⟨pre, p, post, m, he, hm, hp, hw⟩ <;> rw [hw] at h
    · cases h
    · split at h
      · rename_i hi
        obtain ⟨rfl, hcl⟩ := hi
        exact ⟨pre, post, m, he, hm, hcl, hp⟩
      · cases h
  · rintro ⟨pre, post, cls, rfl, hp, hcl, hno⟩
    rw [v13_walk_append hp, v13_walk_stuck hno, if_pos ⟨rfl, hcl⟩]

/-- the `ValueError`: some part names no member (and it is not `__init__` on a class) -/
theorem v13_walk_error_iff (n : GNode) (ps : List String) (e : PyErr) :
    v13_walk n ps = .error e ↔
      e = .valueError ∧ ∃ pre p post m, ps = pre ++ p :: post ∧ v13_Path n pre m
        ∧ v13_child m p = none ∧ ¬ (p = "__init__" ∧ m.isClass = true) := by
  constructor
  · intro h
    rcases v13_walk_spec n ps with ⟨m, _, hw⟩ | ⟨pre, p, post, m, he, hm, hp, hw⟩ <;> rw [hw] at h
    · cases h
    · split at h
      · cases h
      · rename_i hi
        cases h
        exact ⟨rfl, pre, p, post, m, he, hm, hp, hi⟩
  · rintro ⟨rfl, pre, p, post, m, rfl, hp, hno, hi⟩
    rw [v13_walk_append hp, v13_walk_stuck hno, if_neg hi]

/-- a step goes strictly down the tree -/
theorem v13_child_sizeOf {node c : GNode} {part : String} (h : v13_child node part = some c) :
    sizeOf c < sizeOf node := by
  have hm : c ∈ v13_members node := List.mem_of_find?_eq_some h
  obtain ⟨name, isClass, doc, ms, cs, fs, as⟩ := node
  simp only [v13_members, List.mem_append] at hm
  simp only [GNode.mk.sizeOf_spec]
  rcases hm with ((hm | hm) | hm) | hm <;> have := List.sizeOf_lt_of_mem hm <;> omega


/-! ## Part 4 — the queries, readable -/

theorem v13_firstSection_eq {α : Type} (p : DocSection → Option α) (l : List DocSection) :
    firstSection? p l = l.findSome? p := by
  induction l with
  | nil => rfl
  | cons s ss ih =>
    rw [firstSection?, List.findSome?_cons, ih]
    cases p s <;> rfl

def v13_paramsOf : DocSection → Option (List DocParam)
  | .parameters ps => some ps
  | _ => none

def v13_attrsOf : DocSection → Option (List DocParam)
  | .attributes ps => some ps
  | _ => none

def v13_returnsOf : DocSection → Option (List DocReturn)
  | .returns rs => some rs
  | _ => none

def v13_textOf : DocSection → Option String
  | .text v => some v
  | _ => none

def v13_examplesOf : DocSection → List String
  | .examples ts => ts
  | _ => []

theorem v13_findSome_congr {α β : Type} {f g : α → Option β} {l : List α} (h : ∀ x, f x = g x) :
    l.findSome? f = l.findSome? g := by
  rw [show f = g from funext h]

/-- the entries of the FIRST parameters section (`attrs = false`) resp. the first attributes section
    of a docstring; `[]` when there is none -/
def v13_entrySection (attrs : Bool) (d : GDoc) : List DocParam :=
  (d.parsed.findSome? (if attrs then v13_attrsOf else v13_paramsOf)).getD []

/-- names are compared after stripping leading `*` on both sides -/
def v13_sameName (a b : String) : Bool := pyLstrip a "*" == pyLstrip b "*"

theorem v13_matching_eq (d : GDoc) (name : String) (attrs : Bool) :
    matching d name attrs = (v13_entrySection attrs d).filter (fun p => v13_sameName p.name name) := by
  unfold matching v13_entrySection
  rw [v13_firstSection_eq]
  rw [v13_findSome_congr (g := if attrs then v13_attrsOf else v13_paramsOf) (l := d.parsed)
    (by intro s; cases attrs <;> cases s <;> rfl)]
  dsimp only
  cases List.findSome? (if attrs = true then v13_attrsOf else v13_paramsOf) d.parsed with
  | none => rfl
  | some ps =>
    cases ps with
    | nil => rfl
    | cons p ps => rfl

/-- the returns entries of the first returns section -/
def v13_returns (d : GDoc) : List DocReturn := (d.parsed.findSome? v13_returnsOf).getD []

theorem v13_lastText_fold (l : List DocSection) (acc : String) :
    l.foldl (fun acc s => match s with | .text v => pyStrip v "\n" | _ => acc) acc
      = match (l.filterMap v13_textOf).getLast? with
        | some v => pyStrip v "\n"
        | none => acc := by
  induction l generalizing acc with
  | nil => rfl
  | cons s ss ih =>
    rw [List.foldl_cons, ih]
    cases s with
    | text v =>
      simp only [v13_textOf, List.filterMap_cons, List.getLast?_cons]
      cases (List.filterMap v13_textOf ss).getLast? <;> rfl
    | _ => rfl

/-- the LAST text section, stripped of surrounding newlines; `""` without a text section -/
def v13_description (d : GDoc) : String :=
  match (d.parsed.filterMap v13_textOf).getLast? with
  | some v => pyStrip v "\n"
  | none => ""

/-- the examples of ALL examples sections, in order, each stripped of surrounding newlines -/
def v13_examples (d : GDoc) : List String :=
  (d.parsed.flatMap v13_examplesOf).map (pyStrip · "\n")

theorem v13_lastText_eq (d : GDoc) : lastText d = v13_description d :=
  v13_lastText_fold d.parsed ""

theorem v13_allExamples_eq (d : GDoc) : allExamples d = v13_examples d := by
  unfold allExamples v13_examples
  rw [List.map_flatMap]
  congr 1
  funext s
  cases s <;> rfl

/-- the record made of one docstring entry -/
def v13_paramOf (e : DocParam) : ParamDoc :=
  { type := e.annotation.bind annToType, defaultValue := e.default.getD "",
    description := pyStrip e.description "\n" }

def v13_attrOf (e : DocParam) : AttrDoc :=
  { type := e.annotation.bind annToType, description := pyStrip e.description "\n" }

theorem v13_paramRecord_eq (m : List DocParam) :
    paramRecord m = match m.getLast? with
      | none => {}
      | some e => v13_paramOf e := by
  unfold paramRecord v13_paramOf
  cases m.getLast? with
  | none => rfl
  | some e => obtain ⟨n, ann, desc, dflt⟩ := e; cases ann <;> rfl

theorem v13_attrRecord_eq (m : List DocParam) :
    attrRecord m = match m.getLast? with
      | none => {}
      | some e => v13_attrOf e := by
  unfold attrRecord v13_attrOf
  cases m.getLast? with
  | none => rfl
  | some e => obtain ⟨n, ann, desc, dflt⟩ := e; cases ann <;> rfl

/-- is the function a constructor (`function_qname.split(".")[-1] == "__init__"`) -/
def v13_isCtorName (f : String) : Bool := lastD "" (splitDot f) == "__init__"

/-- the element whose docstring is consulted first for a parameter: the parent class (with `/`
    replaced by `.`) for a constructor with a given parent, else the function -/
def v13_paramDocQname (f c : String) : String :=
  if v13_isCtorName f = true ∧ c ≠ "" then replaceChar c '/' "." else f

/-- the entries of a docstring (none when there is no docstring) matching a name -/
def v13_entries (d : Option GDoc) (name : String) (attrs : Bool) : List DocParam :=
  match d with
  | some d => matching d name attrs
  | none => []

theorem v13_entries_none (name : String) (attrs : Bool) : v13_entries none name attrs = [] := rfl
theorem v13_entries_some (d : GDoc) (name : String) (attrs : Bool) :
    v13_entries (some d) name attrs = matching d name attrs := rfl

/-- the matching entries the parameter query selects from -/
def v13_paramEntries (root : GNode) (style : DocStyle) (f p c : String) : Except PyErr (List DocParam) :=
  match lookupDoc root (v13_paramDocQname f c) with
  | .error e => .error e
  | .ok d =>
    if style = .numpy ∧ v13_entries d p false = [] ∧ v13_isCtorName f = true then
      match lookupDoc root f with
      | .error e => .error e
      | .ok d2 => .ok (v13_entries d2 p false)
    else .ok (v13_entries d p false)

theorem v13_paramDocQname_eq (f c : String) :
    (if (lastD "" (splitDot f) == "__init__" && c != "") = true then replaceChar c '/' "." else f)
      = v13_paramDocQname f c := by
  unfold v13_paramDocQname v13_isCtorName
  simp only [Bool.and_eq_true, bne_iff_ne, ne_eq]

/-- the second lookup of the parameter and the attribute query (`again`: the parameter query repeats it for
    constructors only), with the record `mk` made of the entries taken out of it -/
theorem v13_secondLookup_eq {α : Type} (mk : List DocParam → α) (root : GNode) (style : DocStyle) (q2 name : String)
    (attrs again : Bool) (m : List DocParam) :
    (if (style == DocStyle.numpy && m.isEmpty && again) = true then
      match lookupDoc root q2 with
      | Except.error e => Except.error e
      | Except.ok (some d2) => Except.ok (mk (matching d2 name attrs))
      | Except.ok none => Except.ok (mk m)
    else Except.ok (mk m)) =
    Except.map mk
      (if style = DocStyle.numpy ∧ m = [] ∧ again = true then
        match lookupDoc root q2 with
        | Except.error e => Except.error e
        | Except.ok d2 => Except.ok (v13_entries d2 name attrs)
      else Except.ok m) := by
  simp only [Bool.and_eq_true, beq_iff_eq, List.isEmpty_iff, and_assoc]
  split
  · rename_i hc
    cases lookupDoc root q2 with
    | error e => rfl
    | ok d2 =>
      cases d2 with
      | none => rw [hc.2.1]; rfl
      | some d2 => rfl
  · rfl

theorem v13_parameterDocSpec_eq (root : GNode) (style : DocStyle) (f p c : String) :
    parameterDocSpec root style f p c = (v13_paramEntries root style f p c).map paramRecord := by
  unfold parameterDocSpec v13_paramEntries
  dsimp only
  rw [v13_paramDocQname_eq]
  cases lookupDoc root (v13_paramDocQname f c) with
  | error e => rfl
  | ok d => exact v13_secondLookup_eq paramRecord root style f p false _ (v13_entries d p false)


/-- the matching entries the attribute query selects from -/
def v13_attrEntries (root : GNode) (style : DocStyle) (c a : String) : Except PyErr (List DocParam) :=
  match lookupDoc root (replaceChar c '/' ".") with
  | .error e => .error e
  | .ok d =>
    if style = .numpy ∧ v13_entries d a true = [] then
      match lookupDoc root (replaceChar c '/' "." ++ ".__init__") with
      | .error e => .error e
      | .ok d2 => .ok (v13_entries d2 a true)
    else .ok (v13_entries d a true)

theorem v13_attributeDocSpec_eq (root : GNode) (style : DocStyle) (c a : String) :
    attributeDocSpec root style c a = (v13_attrEntries root style c a).map attrRecord := by
  unfold attributeDocSpec v13_attrEntries
  dsimp only
  generalize replaceChar c '/' "." ++ ".__init__" = q2
  generalize replaceChar c '/' "." = q1
  cases lookupDoc root q1 with
  | error e => rfl
  | ok d =>
    have := v13_secondLookup_eq attrRecord root style q2 a true true (v13_entries d a true)
    simp only [Bool.and_true, and_true] at this
    exact this

/-- numpy: the record of one returns entry -/
def v13_numpyResultOf (r : DocReturn) : ResultDoc :=
  { type := r.annotation.bind annToType, description := pyStrip r.description "\n", name := r.name }

/-- google / rest: the record of the first returns entry; google with an entry without annotation
    takes the entry's NAME as the annotation -/
def v13_singleResultOf (style : DocStyle) (r : DocReturn) : ResultDoc :=
  { type := (if style = .google ∧ r.annotationIsNone = true then r.nameAsAnnotation else r.annotation).bind annToType,
    description := pyStrip r.description "\n", name := "" }

theorem v13_resultRecords_eq (style : DocStyle) (d : GDoc) :
    resultRecords style (some d) =
      if style = .numpy then (v13_returns d).map v13_numpyResultOf
      else match (v13_returns d).head? with
        | none => []
        | some r => [v13_singleResultOf style r] := by
  unfold resultRecords v13_returns
  dsimp only
  rw [v13_firstSection_eq]
  rw [v13_findSome_congr (g := v13_returnsOf) (l := d.parsed) (by intro s; cases s <;> rfl)]
  cases List.findSome? v13_returnsOf d.parsed with
  | none => dsimp only [Option.getD]; split <;> rfl
  | some rs =>
    cases rs with
    | nil => simp only [Option.getD, List.isEmpty_nil, List.map_nil, List.head?_nil, ite_self]
    | cons r rs =>
      simp only [Option.getD, List.isEmpty_cons, Bool.false_eq_true, if_false, beq_iff_eq, List.head?_cons,
        Bool.and_eq_true]
      by_cases hn : style = DocStyle.numpy
      · rw [if_pos hn, if_pos hn]
        apply List.map_congr_left
        intro r' _
        unfold v13_numpyResultOf
        cases r'.annotation <;> rfl
      · rw [if_neg hn, if_neg hn]
        unfold v13_singleResultOf
        generalize (if style = DocStyle.google ∧ r.annotationIsNone = true then r.nameAsAnnotation else r.annotation) = ann
        cases ann <;> rfl


/-! ## Part 5 — data for the kernel-checked examples of `Theorems/C13a.lean` -/

def v13_exInt : GExpr := .name "int" "int"
def v13_exStr : GExpr := .name "str" "str"
def v13_tInt : AType := .named "int" "builtins.int"
def v13_tStr : AType := .named "str" "builtins.str"
def v13_tBool : AType := .named "bool" "builtins.bool"
/-- a string annotation griffe could not parse -/
def v13_exBad : GExpr := .str "array like" "array like" none

/-- structural comparison of an optional type with an expected type -/
def v13_isType (o : Option AType) (t : AType) : Bool :=
  match o with
  | some t' => t'.beq t
  | none => false

def v13_exFn : GNode := { name := "m", docstring := some ⟨"function m", []⟩ }
def v13_exCls : GNode :=
  { name := "C", isClass := true, docstring := some ⟨"class C", []⟩,
    attributes := [{ name := "a", docstring := some ⟨"attribute a", []⟩ }] }
def v13_exMod : GNode :=
  { name := "m", docstring := some ⟨"module m", []⟩, functions := [v13_exFn], classes := [v13_exCls] }
/-- package `pkg` with module `m` that contains a function `m` and a class `C` (no `__init__`), and a
    name `x` that is both a module and a class of the package -/
def v13_exRoot : GNode :=
  { name := "pkg",
    modules := [v13_exMod, { name := "x", docstring := some ⟨"module x", []⟩ }],
    classes := [{ name := "x", isClass := true, docstring := some ⟨"class x", []⟩ }] }

/-- the docstring text of a lookup result -/
def v13_docValue (r : Except PyErr (Option GNode)) : Except PyErr (Option (Option String)) :=
  r.map fun o => o.map fun n => n.docstring.map (·.value)

def v13_exClassDoc : GDoc :=
  { value := "\nClass D.\n",
    parsed := [.text "\nClass D.\n",
      .parameters [⟨"p", some v13_exInt, "first p\n", some "1"⟩, ⟨"*args", some v13_exStr, "the args", none⟩,
                   ⟨"p", some v13_exStr, "\nsecond p", some "2"⟩],
      .attributes [⟨"a", some v13_exStr, "attribute a\n", none⟩],
      .parameters [⟨"late", none, "in a second parameters section", none⟩]] }

def v13_exCtorDoc : GDoc :=
  { value := "ctor", parsed := [.parameters [⟨"q", some v13_exBad, "ctor q", none⟩],
                                .attributes [⟨"b", some v13_exInt, "attribute b", none⟩]] }

def v13_exFunDoc : GDoc :=
  { value := "\nF.\n\nmore\n",
    parsed := [.text "\nF.\n", .examples [">>> f()\n", "\n>>> g()"],
      .returns [⟨"first", false, some v13_exInt, none, "the first\n"⟩, ⟨"second", false, some v13_exStr, none, "the second"⟩],
      .text "more\n", .examples ["... h()"],
      .returns [⟨"late", false, none, none, "in a second returns section"⟩]] }

/-- google: a returns entry without annotation; its name is read as the annotation -/
def v13_exGoogleDoc : GDoc :=
  { value := "G.", parsed := [.returns [⟨"int", true, none, some v13_exInt, "an int"⟩, ⟨"x", false, some v13_exStr, none, "dropped"⟩]] }

def v13_exDocRoot : GNode :=
  { name := "pkg",
    classes := [{ name := "D", isClass := true, docstring := some v13_exClassDoc,
                  functions := [{ name := "__init__", docstring := some v13_exCtorDoc },
                                { name := "f", docstring := some v13_exFunDoc },
                                { name := "g", docstring := some v13_exGoogleDoc },
                                { name := "h" }] }] }

def v13_exState (style : DocStyle) : ParserState := { root := v13_exDocRoot, style := style }

end StubGen
