/-
Look-ups in a dict kept as an association list in insertion order (`assocGet?`) after the two updates
the Python code makes (`d[k] = f(d[k])` for a present key, a new entry at the end for an absent one),
sets kept as duplicate-free lists, and with them the alias collection (`Model/Aliases.lean`).
-/
import StubGen.Model.Aliases
import StubGen.Proofs.PyLemmas

namespace StubGen

/-- the candidate set of a short name (`aliases[name]`, or the empty set) -/
def lookupA (t : AliasTable) (n : String) : List String := (assocGet? t n).getD []

section Assoc
variable {β : Type}

theorem assocGet?_cons (a : String) (b : β) (t : List (String × β)) (k : String) :
    assocGet? ((a, b) :: t) k = if a = k then some b else assocGet? t k := by
  simp only [assocGet?, beq_iff_eq]

theorem assocGet?_append (t u : List (String × β)) (k : String) :
    assocGet? (t ++ u) k = (assocGet? t k).or (assocGet? u k) := by
  induction t with
  | nil => rfl
  | cons kv t ih =>
    rw [List.cons_append, assocGet?_cons, assocGet?_cons, ih]
    split <;> rfl

theorem assocGet?_isSome (t : List (String × β)) (k : String) :
    (assocGet? t k).isSome = t.any (·.1 == k) := by
  induction t with
  | nil => rfl
  | cons kv t ih =>
    rw [assocGet?_cons, List.any_cons, ← ih]
    by_cases h : kv.1 = k <;> simp [h]

theorem assocGet?_map_update (f : β → β) (t : List (String × β)) (n k : String) :
    assocGet? (t.map fun kv => if kv.1 == n then (kv.1, f kv.2) else kv) k =
      if n = k then (assocGet? t k).map f else assocGet? t k := by
  induction t with
  | nil => simp only [List.map_nil, assocGet?, Option.map_none, ite_self]
  | cons kv t ih =>
    obtain ⟨a, b⟩ := kv
    rw [List.map_cons, assocGet?_cons a b]
    by_cases han : a = n
    · subst han
      rw [if_pos (beq_self_eq_true a), assocGet?_cons, ih]
      by_cases hk : a = k
      · simp only [if_pos hk, Option.map_some]
      · simp only [if_neg hk]
    · rw [if_neg (by simpa using han), assocGet?_cons, ih]
      by_cases hk : a = k
      · simp only [if_pos hk, if_neg (fun e : n = k => han (hk.trans e.symm))]
      · simp only [if_neg hk]

/-- `d[n] = f(d[n]) if n in d else v` on a dict in insertion order -/
theorem assocGet?_upsert (f : β → β) (v : β) (t : List (String × β)) (n k : String) :
    assocGet? (if t.any (·.1 == n) then t.map (fun kv => if kv.1 == n then (kv.1, f kv.2) else kv)
        else t ++ [(n, v)]) k =
      if n = k then some ((assocGet? t k).elim v f) else assocGet? t k := by
  by_cases h : t.any (·.1 == n) = true
  · rw [if_pos h, assocGet?_map_update]
    by_cases hk : n = k
    · subst hk
      rw [← assocGet?_isSome, Option.isSome_iff_exists] at h
      obtain ⟨x, hx⟩ := h
      simp only [if_true, hx, Option.map_some, Option.elim_some]
    · simp only [if_neg hk]
  · rw [if_neg h, assocGet?_append, assocGet?_cons]
    by_cases hk : n = k
    · subst hk
      rw [← assocGet?_isSome, Bool.not_eq_true, Option.isSome_eq_false_iff, Option.isNone_iff_eq_none] at h
      simp only [if_true, h, Option.none_or, Option.elim_none]
    · simp only [if_neg hk, assocGet?, Option.or_none]

theorem assocGet?_forall₂ {R : β → β → Prop} {t t' : List (String × β)}
    (h : List.Forall₂ (fun kv kv' => kv.1 = kv'.1 ∧ R kv.2 kv'.2) t t') (k : String) :
    (assocGet? t k = none ∧ assocGet? t' k = none) ∨
      ∃ v v', assocGet? t k = some v ∧ assocGet? t' k = some v' ∧ R v v' := by
  induction h with
  | nil => exact Or.inl ⟨rfl, rfl⟩
  | @cons kv kv' _ _ hab _ ih =>
    obtain ⟨a, b⟩ := kv
    obtain ⟨a', b'⟩ := kv'
    obtain ⟨rfl, hr⟩ := hab
    rw [assocGet?_cons, assocGet?_cons]
    split
    · exact Or.inr ⟨b, b', rfl, rfl, hr⟩
    · exact ih
end Assoc

theorem mem_lookupA_aliasAdd (t : AliasTable) (n fn n' fn' : String) :
    fn' ∈ lookupA (aliasAdd t n fn) n' ↔ fn' ∈ lookupA t n' ∨ (n' = n ∧ fn' = fn) := by
  unfold aliasAdd lookupA
  rw [assocGet?_upsert]
  by_cases hk : n = n'
  · subst hk
    cases assocGet? t n <;> simp [mem_insertSet]
  · simp [hk, Ne.symm hk]

theorem mem_getAliasesFrom (pkg : String) (fs : List AliasFact) (t : AliasTable) (n fn : String) :
    fn ∈ lookupA (getAliasesFrom pkg t fs) n ↔ fn ∈ lookupA t n ∨ ∃ f ∈ fs, aliasStep pkg f = .add n fn := by
  induction fs generalizing t with
  | nil => simp [getAliasesFrom]
  | cons f rest ih =>
    unfold getAliasesFrom
    cases hs : aliasStep pkg f with
    | skip =>
      simp only
      rw [ih]
      simp [hs]
    | add n1 fn1 =>
      simp only
      rw [ih, mem_lookupA_aliasAdd]
      simp only [List.mem_cons, exists_eq_or_imp, hs, AliasStep.add.injEq]
      constructor
      · rintro ((h | ⟨h1, h2⟩) | h)
        · exact Or.inl h
        · exact Or.inr (Or.inl ⟨h1.symm, h2.symm⟩)
        · exact Or.inr (Or.inr h)
      · rintro (h | ⟨h1, h2⟩ | h)
        · exact Or.inl (Or.inl h)
        · exact Or.inl (Or.inr ⟨h1.symm, h2.symm⟩)
        · exact Or.inr h

end StubGen
