/-
`convertPath` (repair 8e9a214): a dotted path is converted segment by segment.
-/
import StubGen.Proofs.Lexical

namespace StubGen

theorem pc_convertName_noDot (s : String) (safe cls : Bool) (h : '.' ∉ s.toList) :
    '.' ∉ (convertName s safe cls).toList := by
  cases safe with
  | false => rw [C09.convert_off]; exact h
  | true =>
    by_cases hs : s = "_"
    · subst hs; cases cls <;> decide
    · intro hm
      have hl := C09.convert_on_letters s cls hs
      have h1 : Char.toLower '.' ∈ (convertName s true cls).toList.map Char.toLower := List.mem_map_of_mem hm
      rw [hl] at h1
      obtain ⟨x, hx, he⟩ := List.mem_map.mp h1
      have hx' : x ∈ s.toList := (List.mem_filter.mp hx).1
      have : x = '.' := (lx_toLower_eq_dot x).mp (by rw [he]; decide)
      subst this
      exact h hx'

/-- the segments of the converted path ARE the converted segments -/
theorem pc_split_convertPath (p : String) (safe : Bool) :
    pySplit (convertPath p safe) '.' = (pySplit p '.').map (fun s => convertName s safe) := by
  unfold convertPath
  apply lx_pySplit_joinDot
  · intro e
    exact pySplit_ne_nil '.' p (List.map_eq_nil_iff.mp e)
  · intro x hx
    obtain ⟨s, hs, rfl⟩ := List.mem_map.mp hx
    exact pc_convertName_noDot s safe false (sep_not_mem_pySplit '.' p s hs)

theorem pc_convertPath_off (p : String) : convertPath p false = p := by
  unfold convertPath
  rw [(List.map_congr_left fun s _ => C09.convert_off s false).trans (List.map_id' _)]
  exact joinWith_pySplit p '.' "." rfl

/-- a path without a dot is a single name -/
theorem pc_convertPath_single (s : String) (safe : Bool) (h : '.' ∉ s.toList) : convertPath s safe = convertName s safe := by
  unfold convertPath
  rw [lx_pySplit_of_not_mem '.' s h]
  rfl

end StubGen
