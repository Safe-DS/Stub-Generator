/-
C18, analyser half: the walk of a module does not read the API TABLES that other modules filled.

A two-run simulation (the instance "tables only" of `obl_Sim` in `Proofs/Reconcile`): every function of the analyser is run
from a state `s` and from `t18_setT s u` — the same state with ALL tables of the API object (`modules`, `classes`,
`functions`, `results`, `enums`, `enumInstances`, `attributes`, `parameters`) replaced by those of an arbitrary `u`, the
re-export map kept.  The two runs return the same value and end in states that again differ in those tables only, or raise
the same error.  Hence the declaration stack — in particular the `Module` record being built — the docstring cache, the
type-variable set and the warning log evolve identically: the only channels through which one module can influence the
analysis of another are the alias table, the re-export map the package `__init__` files built, and the docstring tree.
-/
import StubGen.Proofs.Reconcile

namespace StubGen

/-- `s` with the tables of its API object replaced by those of `u` (the re-export map is kept) -/
@[reducible] def t18_setT (s : VSt) (u : AnaResult) : VSt := { s with api := { u with reexportMap := s.api.reexportMap } }

@[simp] theorem t18_setT_stack (s : VSt) (u : AnaResult) : (t18_setT s u).stack = s.stack := rfl
@[simp] theorem t18_setT_typeVars (s : VSt) (u : AnaResult) : (t18_setT s u).typeVars = s.typeVars := rfl
@[simp] theorem t18_setT_doc (s : VSt) (u : AnaResult) : (t18_setT s u).doc = s.doc := rfl
@[simp] theorem t18_setT_warnings (s : VSt) (u : AnaResult) : (t18_setT s u).warnings = s.warnings := rfl
@[simp] theorem t18_setT_fileFullname (s : VSt) (u : AnaResult) : (t18_setT s u).fileFullname = s.fileFullname := rfl
@[simp] theorem t18_setT_fileName (s : VSt) (u : AnaResult) : (t18_setT s u).fileName = s.fileName := rfl
@[simp] theorem t18_setT_seenNone (s : VSt) (u : AnaResult) : (t18_setT s u).seenNone = s.seenNone := rfl
@[simp] theorem t18_setT_reexportMap (s : VSt) (u : AnaResult) : (t18_setT s u).api.reexportMap = s.api.reexportMap := rfl
theorem t18_setT_self (s : VSt) : t18_setT s s.api = s := rfl

/-- two outcomes agree up to the API tables: the same value and `t' = t` with the tables of `t'`, or the same error -/
def t18_Rel {α : Type} : Except PyErr (α × VSt) → Except PyErr (α × VSt) → Prop
  | .ok (a, t), .ok (a', t') => a = a' ∧ t' = t18_setT t t'.api
  | .error e, .error e' => e = e'
  | _, _ => False

/-- `x` and `x'`, run from states that differ in the API tables only, agree up to the API tables -/
structure t18_Sim {α : Type} (x x' : V α) : Prop where
  run : ∀ (s : VSt) (u : AnaResult), t18_Rel (x s) (x' (t18_setT s u))

theorem obl_Rel.t18 {α : Type} {r r' : Except PyErr (α × VSt)} (h : obl_Rel false true r r') : t18_Rel r r' := by
  cases r <;> cases r' <;> try exact h
  obtain ⟨ha, _, _, ht⟩ := h
  exact ⟨ha, by rw [ht]; rfl⟩

/-- the instance "tables only" of the simulation of `Proofs/Reconcile` (the environment is the same in both runs) -/
theorem obl_Sim.t18 {α : Type} {x x' : V α} (h : obl_Sim false true x x') : t18_Sim x x' :=
  ⟨fun s u => (h.run s s.warnings u).t18⟩

/-! #### functions that read the state, but none of the tables -/

@[simp] theorem t18_createId_t (s : VSt) (u : AnaResult) (n : String) : createId (t18_setT s u) n = createId s n := rfl
@[simp] theorem t18_bottomModule_t (s : VSt) (u : AnaResult) : bottomModule (t18_setT s u) = bottomModule s := rfl
@[simp] theorem t18_findAlias_t (env : AEnv) (s : VSt) (u : AnaResult) (n k : String) :
    findAlias env (t18_setT s u) n k = findAlias env s n k := rfl
@[simp] theorem t18_isPublicV_t (s : VSt) (u : AnaResult) (n q : String) :
    isPublicV (t18_setT s u) n q = isPublicV s n q := rfl
@[simp] theorem t18_getReexportedBy_t (s : VSt) (u : AnaResult) (q : String) :
    getReexportedBy (t18_setT s u) q = getReexportedBy s q := rfl
@[simp] theorem t18_attributeAlreadyDefined_t (s : VSt) (u : AnaResult) (n : String) :
    attributeAlreadyDefined (t18_setT s u) n = attributeAlreadyDefined s n := rfl

open Lean in
macro "t18_sim" "[" ls:term,* "]" : tactic => do
  let alts ← ls.getElems.mapM fun l => `(tacticSeq| apply $l)
  `(tactic| repeat' (first
      | with_reducible exact t18_Sim.pure _
      | with_reducible exact t18_Sim.throw _
      | with_reducible exact t18_Sim.warn _
      | with_reducible exact t18_Sim.withDoc _
      | with_reducible assumption
      | ((with_reducible apply t18_Sim.modify); intro _ _; rfl)
      | ((with_reducible apply t18_Sim.set); rfl)
      | ((with_reducible apply t18_Sim.get_bind); intro _ _)
      $[| with_reducible $alts:tacticSeq]*
      | with_reducible apply t18_Sim.bind
      | with_reducible apply t18_Sim.ite
      | intro _
      | (dsimp only [t18_setT_stack, t18_setT_typeVars, t18_setT_doc, t18_setT_warnings, t18_setT_fileFullname,
          t18_setT_fileName, t18_setT_seenNone, t18_setT_reexportMap, t18_createId_t, t18_bottomModule_t, t18_findAlias_t,
          t18_isPublicV_t, t18_getReexportedBy_t, t18_attributeAlreadyDefined_t])
      | split))

/-! #### the walk -/

theorem t18_walkDef_sim (env : AEnv) (mode : WalkMode) :
    (d : Def) → t18_Sim (walkDef env mode d) (walkDef env mode d) :=
  fun d => (obl_walkDef_sim false true env env.opts.warn mode d).t18

section
variable (env : AEnv)

theorem t18_walkModule_sim (m : SrcModule) : t18_Sim (walkModule env m) (walkModule env m) :=
  (obl_walkModule_sim false true env env.opts.warn m).t18

theorem t18_walkModules_sim (ms : List SrcModule) : t18_Sim (walkModules env ms) (walkModules env ms) :=
  (obl_walkModules_sim false true env env.opts.warn ms).t18

end

end StubGen
