/-
Helper lemmas for `StubGen.Theorems.C02` (lexical half: identifiers, string literals, comments).
Every lemma name starts with `lx_`.
-/
import StubGen.Model.Gen
import StubGen.Spec.Tokens
import StubGen.Proofs.Naming
import StubGen.Theorems.Tables
import StubGen.Theorems.C09

namespace StubGen

open Spec

/-! ### keywords and back-quotes -/

theorem lx_backquote_ne (n : String) : "`" ++ n ++ "`" ≠ n := by
  intro h
  have := congrArg String.length h
  have h1 : ("`" : String).length = 1 := by decide
  simp only [String.length_append, h1] at this
  omega

/-- the generated escape table and the specification's keyword list have the same members
    (`Tables.escape_table_exact` one way, `Tables.keywords_escaped` the other) -/
theorem lx_table_contains (n : String) : Generated.keywords.contains n = isKeyword n := by
  unfold isKeyword
  rw [Bool.eq_iff_iff]
  simp only [List.contains_iff_mem]
  constructor
  · exact Tables.escape_table_exact.2 n
  · intro h
    have h1 := Tables.keywords_escaped n h
    unfold escapeKeyword at h1
    split at h1
    · rename_i hc; simpa using hc
    · exact absurd h1.symm (lx_backquote_ne n)

theorem lx_escapeKeyword_eq (n : String) :
    escapeKeyword n = if isKeyword n then "`" ++ n ++ "`" else n := by
  unfold escapeKeyword
  rw [lx_table_contains]
  rfl

theorem lx_escapeKeyword_of_keyword {n : String} (h : isKeyword n = true) :
    escapeKeyword n = "`" ++ n ++ "`" := by
  rw [lx_escapeKeyword_eq, if_pos h]

theorem lx_escapeKeyword_of_not_keyword {n : String} (h : isKeyword n = false) : escapeKeyword n = n := by
  rw [lx_escapeKeyword_eq]; simp [h]

/-- every keyword is itself a legal identifier (so the back-quoted form is a token) -/
theorem lx_keywords_ident : ∀ k ∈ keywords33, isIdent k.toList = true := by decide +kernel

theorem lx_quoted_toList (k : String) : ("`" ++ k ++ "`").toList = '`' :: (k.toList ++ ['`']) := by
  simp [String.toList_append]

theorem lx_quoted_token {k : String} (h : isIdent k.toList = true) : isIdentToken ("`" ++ k ++ "`") = true := by
  unfold isIdentToken
  rw [lx_quoted_toList]
  simp [isQuotedIdentL, h]

theorem lx_escapeKeyword_token {n : String} (h : isIdent n.toList = true) :
    isIdentToken (escapeKeyword n) = true := by
  rw [lx_escapeKeyword_eq]
  split
  · exact lx_quoted_token h
  · rename_i hk
    simp [isIdentToken, h, hk]

/-- unquoted, a keyword that is a legal identifier is no name token: it does not begin with a back-quote -/
theorem lx_keyword_not_token {k : String} (hk : isKeyword k = true) (h : isIdent k.toList = true) :
    isIdentToken k = false := by
  rw [isIdentToken, hk, Bool.not_true, Bool.and_false, Bool.false_or]
  cases hl : k.toList with
  | nil => rfl
  | cons c cs =>
    rw [hl, isIdent, Bool.and_eq_true] at h
    have hc : c ≠ '`' := fun e => by rw [e] at h; exact absurd h.1 (by decide)
    unfold isQuotedIdentL
    split
    · rename_i e; exact absurd (List.cons.inj e).1 hc
    · rfl

/-! ### identifier characters -/

theorem lx_convertible_isIdent {cs : List Char} (h : Convertible cs = true) : isIdent cs = true := by
  unfold Convertible at h
  simp only [Bool.and_eq_true] at h
  obtain ⟨hall, hhead⟩ := h
  cases cs with
  | nil => simp [lstripChar] at hhead
  | cons c t =>
    simp only [List.all_cons, Bool.and_eq_true] at hall
    simp only [isIdent, Bool.and_eq_true]
    refine ⟨?_, hall.2⟩
    by_cases hc : c = '_'
    · subst hc; decide
    · simp only [lstripChar, hc, if_false] at hhead
      simp [isIdentStart, hhead]

theorem lx_identChar_plain {c : Char} (h : isIdentChar c = true) : isPlainStringChar c = true := by
  unfold isPlainStringChar
  simp only [Bool.and_eq_true, bne_iff_ne, ne_eq]
  refine ⟨⟨⟨?_, ?_⟩, ?_⟩, ?_⟩ <;> (intro e; subst e; revert h; decide)

theorem lx_identStart_identChar {c : Char} (h : isIdentStart c = true) : isIdentChar c = true := by
  unfold isIdentStart at h
  unfold isIdentChar
  simp only [Bool.or_eq_true] at h ⊢
  rcases h with h | h
  · left; simp [Char.isAlphanum, h]
  · right; exact h

theorem lx_isIdent_all {cs : List Char} (h : isIdent cs = true) : cs.all isIdentChar = true := by
  cases cs with
  | nil => simp [isIdent] at h
  | cons c t =>
    simp only [isIdent, Bool.and_eq_true] at h
    simp only [List.all_cons, Bool.and_eq_true]
    exact ⟨lx_identStart_identChar h.1, h.2⟩

theorem lx_all_identChar_safe {cs : List Char} (h : cs.all isIdentChar = true) : stringBodySafe cs = true := by
  unfold stringBodySafe
  rw [List.all_eq_true] at h ⊢
  intro c hc
  exact lx_identChar_plain (h c hc)

/-- identifier characters contain no quote, backslash or newline -/
theorem lx_isIdent_safe {cs : List Char} (h : isIdent cs = true) : stringBodySafe cs = true :=
  lx_all_identChar_safe (lx_isIdent_all h)

theorem lx_convertible_safe {cs : List Char} (h : Convertible cs = true) : stringBodySafe cs = true :=
  lx_isIdent_safe (lx_convertible_isIdent h)

/-! ### string literals -/

theorem lx_stringRest_plain {c : Char} (h : isPlainStringChar c = true) (rest : List Char) :
    stringRest false (c :: rest) = stringRest false rest := by
  unfold isPlainStringChar at h
  simp only [Bool.and_eq_true, bne_iff_ne, ne_eq] at h
  obtain ⟨⟨⟨h1, h2⟩, h3⟩, h4⟩ := h
  rw [stringRest, if_neg h1, if_neg h2]
  simp [h3, h4]

theorem lx_stringRest_safe {cs : List Char} (h : stringBodySafe cs = true) : stringRest false (cs ++ ['"']) = true := by
  induction cs with
  | nil => rfl
  | cons c t ih =>
    unfold stringBodySafe at h ih
    rw [List.all_cons, Bool.and_eq_true] at h
    rw [List.cons_append, lx_stringRest_plain h.1]
    exact ih h.2

/-- a character is written as an escape sequence, or it is plain and written as it is -/
theorem lx_escapeStringChar_cases (c : Char) :
    (∃ x, isEscapeChar x = true ∧ escapeStringChar c = ['\\', x]) ∨
    (isPlainStringChar c = true ∧ escapeStringChar c = [c]) := by
  unfold escapeStringChar
  by_cases h1 : c = '\\'
  · exact .inl ⟨'\\', by decide, if_pos h1⟩
  by_cases h2 : c = '"'
  · exact .inl ⟨'"', by decide, by rw [if_neg h1, if_pos h2]⟩
  by_cases h3 : c = '\n'
  · exact .inl ⟨'n', by decide, by rw [if_neg h1, if_neg h2, if_pos h3]⟩
  by_cases h4 : c = '\r'
  · exact .inl ⟨'r', by decide, by rw [if_neg h1, if_neg h2, if_neg h3, if_pos h4]⟩
  · exact .inr ⟨by simp [isPlainStringChar, h1, h2, h3, h4], by rw [if_neg h1, if_neg h2, if_neg h3, if_neg h4]⟩

/-- the escaped body of any Python string, then the closing quote -/
theorem lx_stringRest_escaped (cs : List Char) : stringRest false (cs.flatMap escapeStringChar ++ ['"']) = true := by
  induction cs with
  | nil => rfl
  | cons c t ih =>
    rw [List.flatMap_cons, List.append_assoc]
    rcases lx_escapeStringChar_cases c with ⟨x, hx, h⟩ | ⟨hc, h⟩
    · rw [h]
      show stringRest false ('\\' :: x :: _) = true
      rw [stringRest, if_neg (by decide), if_pos rfl, stringRest, hx]
      exact ih
    · rw [h]
      exact (lx_stringRest_plain hc _).trans ih

/-- EVERY Python string is written as exactly one closed `STRING` token (repair d913d69) -/
theorem lx_escape_closed (s : String) : isStringToken (escapeStringLiteral s) = true := by
  unfold isStringToken escapeStringLiteral
  rw [String.toList_ofList]
  exact lx_stringRest_escaped s.toList

theorem lx_string_closed {s : String} (h : stringBodySafe s.toList = true) :
    isStringToken ("\"" ++ s ++ "\"") = true := by
  unfold isStringToken
  have : ("\"" ++ s ++ "\"").toList = '"' :: (s.toList ++ ['"']) := by simp [String.toList_append]
  rw [this]
  exact lx_stringRest_safe h

/-! ### `splitOnChar` / `joinWith` -/

theorem lx_splitOnChar_cons (sep c : Char) (cs : List Char) :
    splitOnChar sep (c :: cs) = match splitOnChar sep cs with
      | [] => [[]]
      | p :: ps => if c = sep then [] :: p :: ps else (c :: p) :: ps := by
  rw [splitOnChar]; rfl

theorem lx_pySplit_of_not_mem (sep : Char) (x : String) (h : sep ∉ x.toList) : pySplit x sep = [x] := by
  simp [pySplit, splitOnChar_of_not_mem sep _ h]

theorem lx_pySplit_joinDot (xs : List String) (hne : xs ≠ []) (h : ∀ x ∈ xs, '.' ∉ x.toList) :
    pySplit (joinWith "." xs) '.' = xs :=
  pySplit_joinWith '.' "." rfl xs hne h

/-! ### dotted paths -/

theorem lx_dot_not_identChar {c : Char} (h : isIdentChar c = true) : c ≠ '.' := by
  intro e; subst e; revert h; decide

theorem lx_escapeKeyword_no_dot {n : String} (h : isIdent n.toList = true) : '.' ∉ (escapeKeyword n).toList := by
  have hall := List.all_eq_true.mp (lx_isIdent_all h)
  have hn : '.' ∉ n.toList := fun hm => lx_dot_not_identChar (hall _ hm) rfl
  rw [lx_escapeKeyword_eq]
  split
  · rw [lx_quoted_toList]
    simp only [List.mem_cons, List.mem_append, List.not_mem_nil, or_false, not_or]
    exact ⟨by decide, hn, by decide⟩
  · exact hn

theorem lx_escapePath_segments (p : String) (h : ∀ s ∈ pySplit p '.', isIdent s.toList = true) :
    pySplit (escapePath p) '.' = (pySplit p '.').map escapeKeyword := by
  unfold escapePath
  apply lx_pySplit_joinDot
  · intro e; exact pySplit_ne_nil '.' p (List.map_eq_nil_iff.mp e)
  · intro x hx
    obtain ⟨n, hn, rfl⟩ := List.mem_map.mp hx
    exact lx_escapeKeyword_no_dot (h n hn)

/-! ### the camel-case conversion applied to a whole dotted path -/

theorem lx_toLower_eq_dot (c : Char) : c.toLower = '.' ↔ c = '.' := by
  by_cases hu : c.isUpper
  · constructor
    · intro he
      have h1 : c.toLower.isLower = c.isAlpha := Char.isLower_toLower_eq_isAlpha c
      have h2 : c.isAlpha = true := by simp [Char.isAlpha, hu]
      rw [he, h2] at h1; exact absurd h1 (by decide)
    · intro e; subst e; exact absurd hu (by decide)
  · rw [Char.toLower_eq_of_not_isUpper hu]

theorem lx_splitOnChar_map (sep : Char) (f : Char → Char) (hf : ∀ c, f c = sep ↔ c = sep) (cs : List Char) :
    splitOnChar sep (cs.map f) = (splitOnChar sep cs).map (List.map f) := by
  induction cs with
  | nil => simp [splitOnChar]
  | cons c cs ih =>
    rw [List.map_cons, lx_splitOnChar_cons, lx_splitOnChar_cons, ih]
    cases hs : splitOnChar sep cs with
    | nil => exact absurd hs (splitOnChar_ne_nil sep cs)
    | cons q qs =>
      by_cases hc : c = sep
      · subst hc
        have : f c = c := (hf c).mpr rfl
        simp [this]
      · have : ¬ f c = sep := fun e => hc ((hf c).mp e)
        simp [hc, this]

theorem lx_splitOnChar_filter (sep u : Char) (hu : u ≠ sep) (cs : List Char) :
    splitOnChar sep (cs.filter (· ≠ u)) = (splitOnChar sep cs).map (List.filter (· ≠ u)) := by
  induction cs with
  | nil => simp [splitOnChar]
  | cons c cs ih =>
    rw [lx_splitOnChar_cons]
    cases hs : splitOnChar sep cs with
    | nil => exact absurd hs (splitOnChar_ne_nil sep cs)
    | cons q qs =>
      rw [hs] at ih
      by_cases hc : c = u
      · have h1 : ¬ c = sep := fun e => hu (hc.symm.trans e)
        have h2 : (c :: cs).filter (· ≠ u) = cs.filter (· ≠ u) := by simp [hc]
        rw [h2, ih]
        subst hc
        simp [h1]
      · have : (c :: cs).filter (· ≠ u) = c :: cs.filter (· ≠ u) := by simp [hc]
        rw [this, lx_splitOnChar_cons, ih]
        by_cases h2 : c = sep
        · simp [h2]
        · simp [h2, hc]

/-- a word that agrees, up to ASCII case, with the non-underscore characters of a convertible name
    is a legal identifier -/
theorem lx_ident_of_lower {seg r : List Char} (h : Convertible seg = true)
    (hL : r.map Char.toLower = (seg.filter (· ≠ '_')).map Char.toLower) : isIdent r = true := by
  unfold Convertible at h
  simp only [Bool.and_eq_true] at h
  obtain ⟨hall, hhead⟩ := h
  split at hhead
  · simp at hhead
  · rename_i a t hstrip
    have ha : a ≠ '_' := by intro e; rw [e] at hhead; exact absurd hhead (by decide)
    have hF : seg.filter (· ≠ '_') = a :: t.filter (· ≠ '_') := by
      rw [← filter_lstrip, hstrip]; simp [ha]
    have hchars : ∀ y ∈ r, isIdentChar y = true := by
      intro y hy
      have : y.toLower ∈ r.map Char.toLower := List.mem_map_of_mem hy
      rw [hL] at this
      obtain ⟨c, hc, hcy⟩ := List.mem_map.mp this
      simp only [List.mem_filter, ne_eq, decide_not, Bool.not_eq_eq_eq_not, Bool.not_true,
        decide_eq_false_iff_not] at hc
      have hci : isIdentChar c = true := List.all_eq_true.mp hall c hc.1
      have hca : c.isAlphanum = true := by
        simp only [isIdentChar, Bool.or_eq_true, beq_iff_eq] at hci
        rcases hci with h1 | h1
        · exact h1
        · exact absurd h1 hc.2
      have : y.isAlphanum = true := by
        rw [← isAlphanum_toLower y, ← hcy, isAlphanum_toLower c]; exact hca
      simp [isIdentChar, this]
    rw [hF] at hL
    cases r with
    | nil => simp at hL
    | cons x xs =>
      simp only [List.map_cons, List.cons.injEq] at hL
      have hx : x.isAlpha = true := by
        rw [← Char.isAlpha_toLower_eq_isAlpha x, hL.1, Char.isAlpha_toLower_eq_isAlpha a]; exact hhead
      simp only [isIdent, isIdentStart, hx, Bool.true_or, Bool.true_and, List.all_eq_true]
      intro y hy
      exact hchars y (by simp [hy])

/-- segment by segment, the converted path consists, up to ASCII case, of the non-underscore
    characters of the original path -/
theorem lx_convertedPath_segments_lower (p : String) (hp : p ≠ "_") :
    (splitOnChar '.' (convertName p true).toList).map (List.map Char.toLower)
      = (splitOnChar '.' p.toList).map (fun seg => (seg.filter (· ≠ '_')).map Char.toLower) := by
  have hL := C09.convert_on_letters p false hp
  have := congrArg (splitOnChar '.') hL
  rw [lx_splitOnChar_map '.' Char.toLower lx_toLower_eq_dot, lx_splitOnChar_map '.' Char.toLower lx_toLower_eq_dot,
    lx_splitOnChar_filter '.' '_' (by decide)] at this
  rw [this, List.map_map]
  rfl

theorem lx_convertedPath_segments_ident (p : String) (h : ∀ s ∈ pySplit p '.', Convertible s.toList = true) :
    ∀ s ∈ pySplit (convertName p true) '.', isIdent s.toList = true := by
  have hp : p ≠ "_" := by
    intro e; subst e; revert h; decide
  have hseg := lx_convertedPath_segments_lower p hp
  intro s hs
  unfold pySplit at hs h
  obtain ⟨q, hq, rfl⟩ := List.mem_map.mp hs
  have : q.map Char.toLower ∈ (splitOnChar '.' (convertName p true).toList).map (List.map Char.toLower) :=
    List.mem_map_of_mem hq
  rw [hseg] at this
  obtain ⟨seg, hseg', he⟩ := List.mem_map.mp this
  have hc : Convertible seg = true := by
    have := h (String.ofList seg) (List.mem_map_of_mem hseg')
    simpa using this
  rw [String.toList_ofList]
  exact lx_ident_of_lower hc he.symm

/-! ### block comments: scanning for `*/`

`lx_scan b l`: run over `l`, `b` = "the previous character was `*`"; `none` as soon as `*/` is
complete, otherwise the final state. -/

def lx_scan : Bool → List Char → Option Bool
  | b, [] => some b
  | b, c :: cs => if b && c = '/' then none else lx_scan (c = '*') cs

theorem lx_scan_append (b : Bool) (x y : List Char) :
    lx_scan b (x ++ y) = (lx_scan b x).bind (fun b' => lx_scan b' y) := by
  induction x generalizing b with
  | nil => simp [lx_scan]
  | cons c x ih =>
    simp only [List.cons_append, lx_scan]
    split
    · rfl
    · exact ih _

theorem lx_scan_mono (l : List Char) (h : (lx_scan true l).isSome = true) : (lx_scan false l).isSome = true := by
  cases l with
  | nil => simp [lx_scan]
  | cons c cs =>
    simp only [lx_scan, Bool.true_and, Bool.false_and, Bool.false_eq_true, if_false] at h ⊢
    split at h
    · simp at h
    · exact h

theorem lx_scan_prefix (b : Bool) (x y : List Char) (h : (lx_scan b (x ++ y)).isSome = true) :
    (lx_scan b x).isSome = true := by
  rw [lx_scan_append] at h
  cases hx : lx_scan b x with
  | none => rw [hx] at h; simp at h
  | some _ => rfl

theorem lx_scan_suffix (b : Bool) (x y : List Char) (h : (lx_scan b (x ++ y)).isSome = true) :
    (lx_scan false y).isSome = true := by
  rw [lx_scan_append] at h
  cases hx : lx_scan b x with
  | none => rw [hx] at h; simp at h
  | some b1 =>
    rw [hx] at h
    simp only [Option.bind_some] at h
    cases b1 with
    | false => exact h
    | true => exact lx_scan_mono y h

theorem lx_scan_infix {p l : List Char} (hi : p <:+: l) (h : (lx_scan false l).isSome = true) :
    (lx_scan false p).isSome = true := by
  obtain ⟨s, t, rfl⟩ := hi
  exact lx_scan_suffix false s p (lx_scan_prefix false (s ++ p) t h)

/-- `lx_scan` finds exactly the occurrences `isInfixOfL` finds -/
theorem lx_scan_none_iff (b : Bool) (l : List Char) :
    lx_scan b l = none ↔ (b = true ∧ l.head? = some '/') ∨ isInfixOfL ['*', '/'] l = true := by
  induction l generalizing b with
  | nil => simp [lx_scan, isInfixOfL]
  | cons c cs ih =>
    have hpre : isPrefixOfL ['*', '/'] (c :: cs) = true ↔ (c = '*' ∧ cs.head? = some '/') := by
      cases cs with
      | nil => simp [isPrefixOfL]
      | cons d ds =>
        simp only [isPrefixOfL, Bool.and_true, Bool.and_eq_true, beq_iff_eq, List.head?_cons, Option.some.injEq]
        constructor
        · rintro ⟨h1, h2⟩; exact ⟨h1.symm, h2.symm⟩
        · rintro ⟨h1, h2⟩; exact ⟨h1.symm, h2.symm⟩
    simp only [lx_scan, isInfixOfL, Bool.or_eq_true, List.head?_cons, Option.some.injEq]
    by_cases hb : (b && decide (c = '/')) = true
    · simp only [hb, if_true, true_iff]
      simp only [Bool.and_eq_true, decide_eq_true_eq] at hb
      exact Or.inl hb
    · rw [if_neg hb, ih, hpre]
      simp only [Bool.and_eq_true, decide_eq_true_eq] at hb ⊢
      constructor
      · rintro (h | h)
        · exact Or.inr (Or.inl h)
        · exact Or.inr (Or.inr h)
      · rintro (h | h | h)
        · exact absurd h hb
        · exact Or.inl h
        · exact Or.inr h

theorem lx_safe_iff (s : String) : commentBodySafe s = true ↔ (lx_scan false s.toList).isSome = true := by
  unfold commentBodySafe pyIn
  have h2 : ("*/" : String).toList = ['*', '/'] := by decide
  rw [h2]
  have := lx_scan_none_iff false s.toList
  simp only [Bool.false_eq_true, false_and, false_or] at this
  rw [Bool.not_eq_true', ← Bool.not_eq_true, ← this]
  cases lx_scan false s.toList <;> simp

/-- the comment recogniser accepts `mid ++ "*/"` when `mid ++ "*"` has no terminator -/
theorem lx_commentRest_of_scan (b : Bool) (mid : List Char) (h : (lx_scan b (mid ++ ['*'])).isSome = true) :
    commentRest b (mid ++ ['*', '/']) = true := by
  induction mid generalizing b with
  | nil => simp [commentRest]
  | cons c m ih =>
    simp only [List.cons_append, lx_scan, commentRest] at h ⊢
    split
    · rename_i hc; rw [if_pos hc] at h; simp at h
    · rename_i hc; rw [if_neg hc] at h; exact ih _ h

theorem lx_scan_nl (b : Bool) (t : List Char) : lx_scan b ('\n' :: t) = lx_scan false t := by
  cases b <;> rfl

theorem lx_scan_sp (b : Bool) (t : List Char) : lx_scan b (' ' :: t) = lx_scan false t := by
  cases b <;> rfl

theorem lx_scan_star (b : Bool) (t : List Char) : lx_scan b ('*' :: t) = lx_scan true t := by
  cases b <;> rfl

/-! ### stripping and splitting give infixes -/

theorem lx_lstripSet_suffix (set l : List Char) : lstripSet set l <:+ l := by
  induction l with
  | nil => simp [lstripSet]
  | cons c cs ih =>
    unfold lstripSet
    split
    · exact ih.trans (List.suffix_cons c cs)
    · exact List.suffix_refl _

theorem lx_pyLstrip_infix (s chars : String) : (pyLstrip s chars).toList <:+: s.toList := by
  simp only [pyLstrip, String.toList_ofList]
  exact (lx_lstripSet_suffix _ _).isInfix

theorem lx_pyRstrip_infix (s chars : String) : (pyRstrip s chars).toList <:+: s.toList := by
  simp only [pyRstrip, String.toList_ofList]
  have := lx_lstripSet_suffix chars.toList s.toList.reverse
  rw [← List.reverse_prefix, List.reverse_reverse] at this
  exact this.isInfix

theorem lx_splitOnChar_infix (sep : Char) (cs : List Char) : ∀ p ∈ splitOnChar sep cs, p <:+: cs := by
  induction cs with
  | nil => simp [splitOnChar]
  | cons c cs ih =>
    rw [lx_splitOnChar_cons]
    cases hs : splitOnChar sep cs with
    | nil => exact absurd hs (splitOnChar_ne_nil sep cs)
    | cons q qs =>
      rw [hs] at ih
      have hq : q <+: cs := by
        -- the first part is a prefix
        clear ih
        induction cs generalizing q qs with
        | nil => simp [splitOnChar] at hs; rw [hs.1]; exact List.prefix_refl _
        | cons d ds ihd =>
          rw [lx_splitOnChar_cons] at hs
          cases hs' : splitOnChar sep ds with
          | nil => exact absurd hs' (splitOnChar_ne_nil sep ds)
          | cons r rs =>
            rw [hs'] at hs
            by_cases hd : d = sep
            · simp [hd] at hs; rw [hs.1]; exact List.nil_prefix
            · simp [hd] at hs
              rw [← hs.1]
              exact List.prefix_cons_inj d |>.mpr (ihd r rs hs')
      have hrest : ∀ p ∈ qs, p <:+: c :: cs := fun p hp =>
        (ih p (by simp [hp])).trans (List.suffix_cons c cs).isInfix
      show ∀ p ∈ (if c = sep then [] :: q :: qs else (c :: q) :: qs), p <:+: c :: cs
      by_cases hcs : c = sep
      · rw [if_pos hcs]
        intro p hp
        simp only [List.mem_cons] at hp
        rcases hp with rfl | rfl | hp
        · exact List.nil_infix
        · exact (ih p (by simp)).trans (List.suffix_cons c cs).isInfix
        · exact hrest p hp
      · rw [if_neg hcs]
        intro p hp
        simp only [List.mem_cons] at hp
        rcases hp with rfl | hp
        · exact ((List.prefix_cons_inj c).mpr hq).isInfix
        · exact hrest p hp

/-! ### documentation comments -/

theorem lx_descriptionLines_scan (indent : String) (bi : Bool) (hi : lx_scan false indent.toList = some bi)
    (rest : List String) (hr : ∀ part ∈ rest, (lx_scan false part.toList).isSome = true) (b : Bool) :
    lx_scan b ((String.join (rest.map fun part =>
      if part != "" then "\n" ++ indent ++ " * " ++ part else "\n" ++ indent ++ " *")).toList ++ ['\n']) = some false := by
  induction rest generalizing b with
  | nil => simp [lx_scan_nl, lx_scan]
  | cons part rest ih =>
    have ih' := ih (fun q hq => hr q (by simp [hq]))
    obtain ⟨bp, hbp⟩ := Option.isSome_iff_exists.mp (hr part (by simp))
    simp only [List.map_cons, String.join_cons, String.toList_append, List.append_assoc]
    split
    · have : ("\n" ++ indent ++ " * " ++ part).toList = '\n' :: (indent.toList ++ ' ' :: '*' :: ' ' :: part.toList) := by
        simp [String.toList_append]
      rw [this, List.cons_append, lx_scan_nl, List.append_assoc, lx_scan_append, hi]
      simp only [Option.bind_some, List.cons_append, lx_scan_sp, lx_scan_star]
      rw [lx_scan_append, hbp]
      exact ih' bp
    · have : ("\n" ++ indent ++ " *").toList = '\n' :: (indent.toList ++ [' ', '*']) := by
        simp [String.toList_append]
      rw [this, List.cons_append, lx_scan_nl, List.append_assoc, lx_scan_append, hi]
      simp only [Option.bind_some, List.cons_append, lx_scan_sp, lx_scan_star, List.nil_append]
      exact ih' true

theorem lx_descriptionPart_scan (d indent : String) (hd : commentBodySafe d = true)
    (hi : commentBodySafe indent = true) :
    lx_scan false (descriptionPart d indent).toList = some false := by
  obtain ⟨bi, hbi⟩ := Option.isSome_iff_exists.mp ((lx_safe_iff indent).mp hi)
  have hd' := (lx_safe_iff d).mp hd
  have hparts : ∀ part ∈ splitLines (pyLstrip (pyRstrip d "\n") "\n"), (lx_scan false part.toList).isSome = true := by
    intro part hp
    unfold splitLines pySplit at hp
    obtain ⟨q, hq, rfl⟩ := List.mem_map.mp hp
    rw [String.toList_ofList]
    have h1 := lx_splitOnChar_infix '\n' _ q hq
    exact lx_scan_infix ((h1.trans (lx_pyLstrip_infix _ _)).trans (lx_pyRstrip_infix _ _)) hd'
  unfold descriptionPart
  simp only []
  cases hs : splitLines (pyLstrip (pyRstrip d "\n") "\n") with
  | nil => exact absurd hs (pySplit_ne_nil '\n' _)
  | cons first rest =>
    rw [hs] at hparts
    obtain ⟨bf, hbf⟩ := Option.isSome_iff_exists.mp (hparts first (by simp))
    have : ("\n" : String).toList = ['\n'] := by decide
    simp only [String.toList_append, this, List.append_assoc]
    rw [lx_scan_append, hbf]
    exact lx_descriptionLines_scan indent bi hbi rest (fun q hq => hparts q (by simp [hq])) bf

theorem lx_sdsDocstringDescription_form (d indent : String) (hne : d ≠ "") :
    sdsDocstringDescription d indent
      = indent ++ ("/**\n" ++ (indent ++ " * " ++ descriptionPart d indent) ++ indent ++ " */") ++ "\n" := by
  unfold sdsDocstringDescription
  have : (d == "") = false := by simpa using hne
  simp only [this, Bool.false_eq_true, if_false, String.append_assoc]
  rfl

/-- the documentation comment is one closed block comment: the first `*/` after the opener is the
    final one -/
theorem lx_docComment_token (d indent : String) (hd : commentBodySafe d = true)
    (hi : commentBodySafe indent = true) :
    isCommentToken ("/**\n" ++ (indent ++ " * " ++ descriptionPart d indent) ++ indent ++ " */") = true := by
  obtain ⟨bi, hbi⟩ := Option.isSome_iff_exists.mp ((lx_safe_iff indent).mp hi)
  have hdp := lx_descriptionPart_scan d indent hd hi
  unfold isCommentToken
  have : ("/**\n" ++ (indent ++ " * " ++ descriptionPart d indent) ++ indent ++ " */").toList
      = '/' :: '*' :: (('*' :: '\n' :: (indent.toList ++ ' ' :: '*' :: ' ' :: ((descriptionPart d indent).toList
          ++ (indent.toList ++ [' '])))) ++ ['*', '/']) := by
    simp [String.toList_append]
  rw [this]
  show commentRest false _ = true
  apply lx_commentRest_of_scan
  simp only [List.cons_append, lx_scan_star, lx_scan_nl, List.append_assoc]
  rw [lx_scan_append, hbi]
  simp only [Option.bind_some, lx_scan_sp, lx_scan_star]
  rw [lx_scan_append, hdp]
  simp only [Option.bind_some]
  rw [lx_scan_append, hbi]
  simp [lx_scan]

theorem lx_spaces_safe (indent : String) (h : indent.toList.all (· = ' ') = true) :
    commentBodySafe indent = true := by
  rw [lx_safe_iff]
  rw [List.all_eq_true] at h
  generalize indent.toList = l at h
  induction l with
  | nil => rfl
  | cons c cs ih =>
    have hc : c = ' ' := by simpa using h c (by simp)
    subst hc
    rw [lx_scan_sp]
    exact ih (fun x hx => h x (by simp [hx]))

/-- a dotted path whose segments have safe string bodies has a safe string body -/
theorem lx_path_safe (p : String) (h : ∀ s ∈ pySplit p '.', stringBodySafe s.toList = true) :
    stringBodySafe p.toList = true := by
  unfold stringBodySafe
  rw [List.all_eq_true]
  intro c hc
  by_cases hd : c = '.'
  · subst hd; decide
  · have : c ∈ (splitOnChar '.' p.toList).flatten := by
      rw [flatten_splitOnChar]; simp [hc, hd]
    obtain ⟨seg, hseg, hcs⟩ := List.mem_flatten.mp this
    have := h (String.ofList seg) (List.mem_map_of_mem hseg)
    rw [String.toList_ofList] at this
    exact List.all_eq_true.mp this c hcs

/-! ### import lines: `dropLast'` / `lastD` of the split path -/

theorem lx_dropLast'_ne_nil {α : Type} (l : List α) (h : 2 ≤ l.length) : dropLast' l ≠ [] := by
  match l, h with
  | a :: b :: t, _ => simp [dropLast']

/-- the module part of an import: splitting it again gives the same segments -/
theorem lx_pySplit_module_part (imp : String) (h : 2 ≤ (pySplit imp '.').length) :
    pySplit (joinWith "." (dropLast' (pySplit imp '.'))) '.' = dropLast' (pySplit imp '.') := by
  exact lx_pySplit_joinDot _ (lx_dropLast'_ne_nil _ h)
    (fun x hx => sep_not_mem_pySplit '.' imp x (mem_dropLast' x _ hx))

/-! ### the conversion as a one-pass automaton -/

/-- `up` = "the next character starts a new word" -/
def lx_walk : Bool → List Char → List Char
  | _, [] => []
  | up, c :: cs => if c = '_' then lx_walk true cs else (if up then c.toUpper else c) :: lx_walk false cs

theorem lx_capJoin_walk (l : List Char) :
    capJoin (splitOnChar '_' l) = lx_walk true l ∧
    ∀ p ps, splitOnChar '_' l = p :: ps → p ++ capJoin ps = lx_walk false l := by
  induction l with
  | nil => simp [splitOnChar, capJoin, lx_walk]
  | cons c cs ih =>
    rw [lx_splitOnChar_cons]
    cases hs : splitOnChar '_' cs with
    | nil => exact absurd hs (splitOnChar_ne_nil _ cs)
    | cons q qs =>
      rw [hs] at ih
      have ih2 := ih.2 q qs rfl
      by_cases hc : c = '_'
      · subst hc
        simp only [if_true, lx_walk]
        refine ⟨by simpa [capJoin] using ih.1, ?_⟩
        intro p ps he
        simp only [List.cons.injEq] at he
        rw [← he.1, ← he.2]
        simpa using ih.1
      · simp only [hc, if_false, lx_walk]
        refine ⟨by simp [capJoin, capitalize, ih2], ?_⟩
        intro p ps he
        simp only [List.cons.injEq] at he
        rw [← he.1, ← he.2]
        simp [ih2]

theorem lx_walk_underscores (b : Bool) (u : List Char) (h : ∀ x ∈ u, x = '_') : lx_walk b u = [] := by
  induction u generalizing b with
  | nil => rfl
  | cons c cs ih =>
    have hc : c = '_' := h c (by simp)
    simp only [lx_walk, hc, if_true]
    exact ih _ (fun x hx => h x (by simp [hx]))

theorem lx_walk_append_underscores (b : Bool) (x u : List Char) (h : ∀ y ∈ u, y = '_') :
    lx_walk b (x ++ u) = lx_walk b x := by
  induction x generalizing b with
  | nil => simpa [lx_walk] using lx_walk_underscores b u h
  | cons c cs ih =>
    simp only [List.cons_append, lx_walk]
    split
    · exact ih _
    · rw [ih]

theorem lx_walk_dot (b : Bool) (seg rest : List Char) :
    lx_walk b (seg ++ '.' :: rest) = lx_walk b seg ++ '.' :: lx_walk false rest := by
  induction seg generalizing b with
  | nil =>
    have : ('.' : Char).toUpper = '.' := by decide
    cases b <;> simp [lx_walk, this]
  | cons c cs ih =>
    simp only [List.cons_append, lx_walk]
    split
    · exact ih _
    · rw [ih]; rfl

theorem lx_drop_leading (cs : List Char) : cs.drop (leadingUnderscores cs) = lstripChar '_' cs := by
  induction cs with
  | nil => rfl
  | cons c cs ih =>
    unfold leadingUnderscores lstripChar
    split
    · simpa using ih
    · rfl

/-- the slice `name[start:-end]` is the left-stripped name minus some trailing underscores -/
theorem lx_cleaned (cs : List Char) : ∃ u, (∀ x ∈ u, x = '_') ∧
    lstripChar '_' cs = (cs.take (cs.length - leadingUnderscores cs.reverse)).drop (leadingUnderscores cs) ++ u := by
  refine ⟨(cs.drop (cs.length - leadingUnderscores cs.reverse)).drop
    (leadingUnderscores cs - (cs.take (cs.length - leadingUnderscores cs.reverse)).length), ?_, ?_⟩
  · intro x hx
    have hx' : x ∈ cs.drop (cs.length - leadingUnderscores cs.reverse) := List.mem_of_mem_drop hx
    have : x ∈ cs.reverse.take (leadingUnderscores cs.reverse) := by
      rw [List.take_reverse]; simpa using hx'
    exact leadingUnderscores_take cs.reverse x this
  · rw [← lx_drop_leading, ← List.drop_append, List.take_append_drop]

theorem lx_convertChars_walk (cs : List Char) (h : cs ≠ ['_']) :
    convertChars cs false = lx_walk false (lstripChar '_' cs) := by
  obtain ⟨u, hu, he⟩ := lx_cleaned cs
  rw [he, lx_walk_append_underscores _ _ _ hu]
  unfold convertChars
  simp only [h, if_false, Bool.false_eq_true]
  cases hs : splitOnChar '_' ((cs.take (cs.length - leadingUnderscores cs.reverse)).drop (leadingUnderscores cs)) with
  | nil => exact absurd hs (splitOnChar_ne_nil _ _)
  | cons p ps => exact (lx_capJoin_walk _).2 p ps hs


/-! ### dotted paths, list level -/

theorem lx_joinL_cons_cons (a b : List Char) (rest : List (List Char)) :
    joinL ['.'] (a :: b :: rest) = a ++ '.' :: joinL ['.'] (b :: rest) := by
  show a ++ ['.'] ++ joinL ['.'] (b :: rest) = _
  rw [List.append_assoc, List.singleton_append]

theorem lx_joinWith_toList (xs : List String) : (joinWith "." xs).toList = joinL ['.'] (xs.map String.toList) := by
  rw [toList_joinWith, show ".".toList = ['.'] from String.toList_ofList]

theorem lx_walk_joinL (segs : List (List Char)) :
    lx_walk false (joinL ['.'] segs) = joinL ['.'] (segs.map (lx_walk false)) := by
  induction segs with
  | nil => rfl
  | cons a rest ih =>
    cases rest with
    | nil => rfl
    | cons b rest =>
      simp only [List.map_cons, lx_joinL_cons_cons] at ih ⊢
      rw [lx_walk_dot, ih]

theorem lx_lstrip_append (a b : List Char) (h : lstripChar '_' a ≠ []) :
    lstripChar '_' (a ++ b) = lstripChar '_' a ++ b := by
  induction a with
  | nil => simp [lstripChar] at h
  | cons c cs ih =>
    simp only [List.cons_append, lstripChar] at h ⊢
    split
    · rename_i hc; rw [if_pos hc] at h; exact ih h
    · rfl

theorem lx_lstrip_joinL (s1 : List Char) (rest : List (List Char)) (h : lstripChar '_' s1 ≠ []) :
    lstripChar '_' (joinL ['.'] (s1 :: rest)) = joinL ['.'] (lstripChar '_' s1 :: rest) := by
  cases rest with
  | nil => rfl
  | cons b rest => simp only [lx_joinL_cons_cons]; exact lx_lstrip_append _ _ h

theorem lx_convertible_lstrip {s : List Char} (h : Convertible s = true) :
    lstripChar '_' s ≠ [] ∧ s ≠ ['_'] := by
  unfold Convertible at h
  simp only [Bool.and_eq_true] at h
  constructor
  · intro e; rw [e] at h; simp at h
  · intro e; rw [e] at h; simp [lstripChar] at h

/-- converting the whole path = converting segment by segment, when no segment but the first
    starts with an underscore -/
theorem lx_convertChars_joinL (s1 : List Char) (rest : List (List Char))
    (hc : ∀ s ∈ s1 :: rest, Convertible s = true) (hr : ∀ s ∈ rest, lstripChar '_' s = s) :
    convertChars (joinL ['.'] (s1 :: rest)) false = joinL ['.'] ((s1 :: rest).map (convertChars · false)) := by
  have h1 := lx_convertible_lstrip (hc s1 (by simp))
  have hne : joinL ['.'] (s1 :: rest) ≠ ['_'] := by
    intro e
    have := lx_lstrip_joinL s1 rest h1.1
    rw [e] at this
    cases rest with
    | nil => exact h1.1 this.symm
    | cons b rest =>
      simp only [lx_joinL_cons_cons, lstripChar] at this
      have := congrArg List.length this
      simp at this
  rw [lx_convertChars_walk _ hne, lx_lstrip_joinL s1 rest h1.1, lx_walk_joinL]
  simp only [List.map_cons]
  rw [← lx_convertChars_walk s1 h1.2]
  congr 2
  apply List.map_congr_left
  intro s hs
  rw [lx_convertChars_walk s (lx_convertible_lstrip (hc s (by simp [hs]))).2, hr s hs]


theorem lx_not_startsWith_lstrip (l : List Char) (h : isPrefixOfL ['_'] l = false) : lstripChar '_' l = l := by
  cases l with
  | nil => rfl
  | cons c cs =>
    simp only [isPrefixOfL, Bool.and_true, beq_eq_false_iff_ne, ne_eq] at h
    have : ¬ c = '_' := fun e => h e.symm
    simp [lstripChar, this]

theorem lx_convertName_toList_of_convertible (s : List Char) (h : Convertible s = true) :
    (convertName (String.ofList s) true).toList = convertChars s false := by
  have hne : String.ofList s ≠ "_" := by
    intro e
    have := congrArg String.toList e
    rw [String.toList_ofList] at this
    exact (lx_convertible_lstrip h).2 this
  simp [convertName, hne]

theorem lx_convertedPath_exact (p : String) (h : ∀ s ∈ pySplit p '.', Convertible s.toList = true)
    (hin : ∀ s ∈ (pySplit p '.').tail, pyStartsWith s "_" = false) :
    convertName p true = joinWith "." ((pySplit p '.').map (convertName · true)) := by
  have hp : p ≠ "_" := by intro e; subst e; revert h; decide
  apply String.ext
  rw [lx_joinWith_toList]
  unfold pySplit at h hin ⊢
  have hsplit := joinL_splitOnChar '.' p.toList
  cases hs : splitOnChar '.' p.toList with
  | nil => exact absurd hs (splitOnChar_ne_nil _ _)
  | cons s1 rest =>
    rw [hs] at h hin hsplit
    have hc : ∀ s ∈ s1 :: rest, Convertible s = true := by
      intro s hs'
      have := h (String.ofList s) (List.mem_map_of_mem hs')
      simpa using this
    have hr : ∀ s ∈ rest, lstripChar '_' s = s := by
      intro s hs'
      have := hin (String.ofList s) (by simpa using List.mem_map_of_mem (f := String.ofList) hs')
      have h2 : isPrefixOfL ['_'] s = false := by simpa [pyStartsWith] using this
      exact lx_not_startsWith_lstrip s h2
    have hl : (convertName p true).toList = convertChars p.toList false := by simp [convertName, hp]
    rw [hl, ← hsplit, lx_convertChars_joinL s1 rest hc hr]
    congr 1
    simp only [List.map_map]
    apply List.map_congr_left
    intro s hs'
    simp only [Function.comp]
    exact (lx_convertName_toList_of_convertible s (hc s hs')).symm

end StubGen
