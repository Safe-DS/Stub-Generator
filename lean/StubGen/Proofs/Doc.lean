/-
Proof machinery for C13 (documentation): the one-entry docstring cache is transparent, and the
documentation-comment assembly of the generator is line for line.
-/
import StubGen.Model.Doc
import StubGen.Model.Gen
import StubGen.Proofs.Naming

namespace StubGen

/-! ## Part 1 — the cache invariant -/

/-- The cache invariant: whatever the cache holds for a qualified name is what the cache-less lookup
    returns for that name. -/
def Cache.Valid (root : GNode) (c : Cache) : Prop :=
  ∀ q, c.node = some q → lookupDoc root q = .ok c.doc

theorem Cache.valid_store {root : GNode} {q : String} {d : Option GDoc} (h : lookupDoc root q = .ok d) :
    Cache.Valid root { node := some q, doc := d } := by
  intro q' hq'
  cases hq'
  exact h

/-- `getCached` unfolded into the two branches (miss-or-bypass / hit) -/
theorem getCached_cases (root : GNode) (c : Cache) (q : String) :
    (getCached root c q = (match lookupDoc root q with
        | .error e => .error e
        | .ok d => .ok (d, { node := some q, doc := d })))
    ∨ (c.node = some q ∧ getCached root c q = .ok (c.doc, c)) := by
  unfold getCached
  by_cases h : (c.node != some q || pyEndsWith q "__init__") = true
  · left; simp only [h, if_true]; rfl
  · right
    simp only [h, Bool.false_eq_true, if_false, and_true]
    simp only [Bool.or_eq_true, bne_iff_ne, ne_eq, not_or, Decidable.not_not] at h
    exact h.1

/-- one cached access: either it fails as the cache-less lookup does, or it returns exactly the looked-up
    docstring and a valid cache -/
theorem getCached_spec {root : GNode} {c : Cache} (q : String) (hv : Cache.Valid root c) :
    (∃ e, getCached root c q = .error e ∧ lookupDoc root q = .error e)
    ∨ (∃ d c', getCached root c q = .ok (d, c') ∧ lookupDoc root q = .ok d ∧ Cache.Valid root c') := by
  rcases getCached_cases root c q with h1 | ⟨hn, h1⟩
  · rw [h1]
    cases hl : lookupDoc root q with
    | error e => exact .inl ⟨e, rfl, rfl⟩
    | ok d => exact .inr ⟨d, _, rfl, rfl, Cache.valid_store hl⟩
  · exact .inr ⟨c.doc, c, h1, hv q hn, hv⟩

/-! ## Part 2 — the five queries against their cache-less specifications -/

/-- a query result agrees with its cache-less specification, and leaves a valid state -/
def Agrees {α : Type} (s : ParserState) (res : Except PyErr (α × ParserState)) (spec : Except PyErr α) : Prop :=
  match res with
  | .error e => spec = .error e
  | .ok (a, s') => spec = .ok a ∧ s'.root = s.root ∧ s'.style = s.style ∧ Cache.Valid s'.root s'.cache

theorem Agrees.map_fst {α : Type} {s : ParserState} {res : Except PyErr (α × ParserState)} {spec : Except PyErr α}
    (h : Agrees s res spec) : res.map Prod.fst = spec := by
  cases res with
  | error e => exact h.symm
  | ok r => obtain ⟨a, s'⟩ := r; exact h.1.symm

def paramRecord (m : List DocParam) : ParamDoc :=
  match m.getLast? with
  | none => {}
  | some p =>
    { type := match p.annotation with
        | none => none
        | some a => annToType a,
      defaultValue := p.default.getD "", description := pyStrip p.description "\n" }

def parameterDocSpec (root : GNode) (style : DocStyle) (functionQname parameterName parentClassQname : String) :
    Except PyErr ParamDoc :=
  let functionName := lastD "" (splitDot functionQname)
  let firstQ := if functionName == "__init__" && parentClassQname != ""
    then replaceChar parentClassQname '/' "." else functionQname
  match lookupDoc root firstQ with
  | .error e => .error e
  | .ok d =>
    let m := match d with
      | some d => matching d parameterName false
      | none => []
    if style == .numpy && m.isEmpty && functionName == "__init__" then
      match lookupDoc root functionQname with
      | .error e => .error e
      | .ok (some d2) => .ok (paramRecord (matching d2 parameterName false))
      | .ok none => .ok (paramRecord m)
    else .ok (paramRecord m)

theorem getParameterDocumentation_agrees (s : ParserState) (f p c : String) (hv : Cache.Valid s.root s.cache) :
    Agrees s (getParameterDocumentation s f p c) (parameterDocSpec s.root s.style f p c) := by
  unfold getParameterDocumentation parameterDocSpec
  simp only []
  generalize (if (lastD "" (splitDot f) == "__init__" && c != "") = true then replaceChar c '/' "." else f) = firstQ
  rcases getCached_spec firstQ hv with ⟨e, h1, h2⟩ | ⟨d, c1, h1, h2, hv1⟩
  · rw [h1, h2]; exact rfl
  · rw [h1, h2]
    cases d <;> simp only [] <;>
    · generalize (s.style == DocStyle.numpy && _ && lastD "" (splitDot f) == "__init__") = cond
      cases cond
      · simp only [Bool.false_eq_true, if_false, paramRecord]
        generalize List.getLast? _ = gl; cases gl <;> exact ⟨rfl, rfl, rfl, hv1⟩
      · simp only [if_true]
        rcases getCached_spec f hv1 with ⟨e, h3, h4⟩ | ⟨d2, c2, h3, h4, hv2⟩
        · rw [h3, h4]; exact rfl
        · rw [h3, h4]
          cases d2 <;> simp only [paramRecord] <;> generalize List.getLast? _ = gl <;> cases gl <;> exact ⟨rfl, rfl, rfl, hv2⟩


/-! ### attribute -/

def attrRecord (m : List DocParam) : AttrDoc :=
  match m.getLast? with
  | none => {}
  | some p =>
    { type := match p.annotation with
        | none => none
        | some a => annToType a,
      description := pyStrip p.description "\n" }

def attributeDocSpec (root : GNode) (style : DocStyle) (parentClassQname attributeName : String) :
    Except PyErr AttrDoc :=
  let parent := replaceChar parentClassQname '/' "."
  match lookupDoc root parent with
  | .error e => .error e
  | .ok d =>
    let m := match d with
      | some d => matching d attributeName true
      | none => []
    if style == .numpy && m.isEmpty then
      match lookupDoc root (parent ++ ".__init__") with
      | .error e => .error e
      | .ok (some d2) => .ok (attrRecord (matching d2 attributeName true))
      | .ok none => .ok (attrRecord m)
    else .ok (attrRecord m)

theorem getAttributeDocumentation_agrees (s : ParserState) (c a : String) (hv : Cache.Valid s.root s.cache) :
    Agrees s (getAttributeDocumentation s c a) (attributeDocSpec s.root s.style c a) := by
  unfold getAttributeDocumentation attributeDocSpec
  simp only []
  generalize replaceChar c '/' "." = parent
  rcases getCached_spec parent hv with ⟨e, h1, h2⟩ | ⟨d, c1, h1, h2, hv1⟩
  · rw [h1, h2]; exact rfl
  · rw [h1, h2]
    cases d <;> simp only [] <;>
    · generalize (s.style == DocStyle.numpy && _) = cond
      cases cond
      · simp only [Bool.false_eq_true, if_false, attrRecord]
        generalize List.getLast? _ = gl; cases gl <;> exact ⟨rfl, rfl, rfl, hv1⟩
      · simp only [if_true]
        rcases getCached_spec (parent ++ ".__init__") hv1 with ⟨e, h3, h4⟩ | ⟨d2, c2, h3, h4, hv2⟩
        · rw [h3, h4]; exact rfl
        · rw [h3, h4]
          cases d2 <;> simp only [attrRecord] <;> generalize List.getLast? _ = gl <;> cases gl <;>
            exact ⟨rfl, rfl, rfl, hv2⟩

/-! ### function, result, class -/

def functionDocSpec (root : GNode) (fullname : String) : Except PyErr Docstring :=
  match lookupDoc root fullname with
  | .error e => .error e
  | .ok d => .ok (docRecord d)

theorem getFunctionDocumentation_agrees (s : ParserState) (f : String) (hv : Cache.Valid s.root s.cache) :
    Agrees s (getFunctionDocumentation s f) (functionDocSpec s.root f) := by
  unfold getFunctionDocumentation functionDocSpec
  rcases getCached_spec f hv with ⟨e, h1, h2⟩ | ⟨d, c1, h1, h2, hv1⟩
  · rw [h1, h2]; exact rfl
  · rw [h1, h2]; exact ⟨rfl, rfl, rfl, hv1⟩

/-- the `@result` records read off a docstring -/
def resultRecords (style : DocStyle) : Option GDoc → List ResultDoc
  | none => []
  | some d =>
    match firstSection? (fun x => match x with | .returns rs => some rs | _ => none) d.parsed with
    | none => []
    | some rs =>
      if rs.isEmpty then []
      else if style == .numpy then
        rs.map fun r =>
          { type := match r.annotation with | some a => annToType a | none => none,
            description := pyStrip r.description "\n", name := r.name }
      else
        match rs with
        | [] => []
        | r :: _ =>
          let ann := if style == .google && r.annotationIsNone then r.nameAsAnnotation else r.annotation
          let ty := match ann with
            | some a => annToType a
            | none => none
          [{ type := ty, description := pyStrip r.description "\n", name := "" }]

def resultDocSpec (root : GNode) (style : DocStyle) (functionQname : String) : Except PyErr (List ResultDoc) :=
  match lookupDoc root functionQname with
  | .error e => .error e
  | .ok d => .ok (resultRecords style d)

theorem getResultDocumentation_agrees (s : ParserState) (f : String) (hv : Cache.Valid s.root s.cache) :
    Agrees s (getResultDocumentation s f) (resultDocSpec s.root s.style f) := by
  unfold getResultDocumentation resultDocSpec
  rcases getCached_spec f hv with ⟨e, h1, h2⟩ | ⟨d, c1, h1, h2, hv1⟩
  · rw [h1, h2]; exact rfl
  · rw [h1, h2]
    cases d with
    | none => exact ⟨rfl, rfl, rfl, hv1⟩
    | some d =>
      simp only [resultRecords]
      generalize firstSection? _ d.parsed = fs
      cases fs with
      | none => exact ⟨rfl, rfl, rfl, hv1⟩
      | some rs =>
        simp only []
        cases rs with
        | nil => exact ⟨rfl, rfl, rfl, hv1⟩
        | cons r rs =>
          simp only [List.isEmpty_cons, Bool.false_eq_true, if_false]
          by_cases hn : (s.style == DocStyle.numpy) = true
          · simp only [hn, if_true]; exact ⟨rfl, rfl, rfl, hv1⟩
          · simp only [hn, Bool.false_eq_true, if_false]; exact ⟨rfl, rfl, rfl, hv1⟩

def classDocSpec (root : GNode) (fullname : String) : Except PyErr Docstring :=
  match getGriffeNode root fullname with
  | .error e => .error e
  | .ok none => .error .typeError
  | .ok (some n) => .ok (docRecord n.docstring)

theorem getClassDocumentation_agrees (s : ParserState) (n : String) (hv : Cache.Valid s.root s.cache) :
    Agrees s (getClassDocumentation s n) (classDocSpec s.root n) := by
  unfold getClassDocumentation classDocSpec
  cases hg : getGriffeNode s.root n with
  | error e => exact rfl
  | ok r =>
    cases r with
    | none => exact rfl
    | some nd => exact ⟨rfl, rfl, rfl, hv⟩

/-- a result that agrees with a specification that only depends on `root` and `style` is the same
    from any two valid caches -/
theorem Agrees.irrelevant {α : Type} {s₁ s₂ : ParserState} {r₁ r₂ : Except PyErr (α × ParserState)}
    {spec : Except PyErr α} (h₁ : Agrees s₁ r₁ spec) (h₂ : Agrees s₂ r₂ spec) :
    r₁.map Prod.fst = r₂.map Prod.fst := by
  rw [h₁.map_fst, h₂.map_fst]

theorem Agrees.state {α : Type} {s s' : ParserState} {res : Except PyErr (α × ParserState)} {spec : Except PyErr α}
    {a : α} (h : Agrees s res spec) (hr : res = .ok (a, s')) :
    s'.root = s.root ∧ s'.style = s.style ∧ Cache.Valid s'.root s'.cache := by
  subst hr; exact h.2

theorem Agrees.map {α β : Type} {s : ParserState} {res : Except PyErr (α × ParserState)} {spec : Except PyErr α}
    (g : α → β) (h : Agrees s res spec) :
    Agrees s (res.map fun r => (g r.1, r.2)) (spec.map g) := by
  cases res with
  | error e => have h' : spec = .error e := h; subst h'; exact rfl
  | ok r =>
    obtain ⟨a, s'⟩ := r
    have h' : spec = .ok a := h.1
    subst h'
    exact ⟨rfl, h.2⟩

theorem Agrees.of_error {α : Type} {s : ParserState} {e : PyErr} {spec : Except PyErr α}
    (h : Agrees s (.error e) spec) : spec = .error e := h

theorem Agrees.of_ok {α : Type} {s s' : ParserState} {a : α} {spec : Except PyErr α}
    (h : Agrees s (.ok (a, s')) spec) :
    spec = .ok a ∧ s'.root = s.root ∧ s'.style = s.style ∧ Cache.Valid s'.root s'.cache := h

/- from here on `Agrees` is used through the lemmas above only (unfolding it on a concrete cache makes
   the elaborator evaluate the query) -/
attribute [irreducible] Agrees

/-! ## Part 3 — outcome lists -/

/-- cut a list of outcomes after its first error -/
def untilError {α : Type} : List (Except PyErr α) → List (Except PyErr α)
  | [] => []
  | .error e :: _ => [.error e]
  | .ok a :: rest => .ok a :: untilError rest

theorem untilError_map_getElem? {α β : Type} (g : α → Except PyErr β) (l : List α) (i : Nat)
    (r : Except PyErr β) (h : (untilError (l.map g))[i]? = some r) :
    ∃ q, l[i]? = some q ∧ r = g q := by
  induction l generalizing i with
  | nil => cases h
  | cons q l ih =>
    rw [List.map_cons] at h
    -- the head of a cut list is the head; behind an error there is nothing
    cases hg : g q <;> rw [hg] at h <;> cases i
    · exact ⟨q, rfl, hg ▸ (Option.some.inj h).symm⟩
    · cases h
    · exact ⟨q, rfl, hg ▸ (Option.some.inj h).symm⟩
    · exact ih _ h

theorem untilError_map_of_ok {α β : Type} (g : α → Except PyErr β) (l : List α)
    (h : ∀ q ∈ l, ∃ a, g q = .ok a) : untilError (l.map g) = l.map g := by
  induction l with
  | nil => rfl
  | cons q l ih =>
    obtain ⟨a, ha⟩ := h q (by simp)
    simp only [List.map_cons, ha, untilError]
    rw [ih (fun q' hq' => h q' (by simp [hq']))]

/-! ## Part 4 — documentation-comment assembly -/

theorem pySplit_ne_nil_d (s : String) (c : Char) : pySplit s c ≠ [] := by
  unfold pySplit
  intro h
  exact splitOnChar_ne_nil c s.toList (List.map_eq_nil_iff.mp h)

theorem splitLines_ne_nil (s : String) : splitLines s ≠ [] := pySplit_ne_nil_d s '\n'

/-- prefixing every further item with the separator is joining with the separator -/
theorem append_join_map_sep (sep : String) {α : Type} (g : α → String) (first : String) (rest : List α) :
    first ++ String.join (rest.map fun p => sep ++ g p) = joinWith sep (first :: rest.map g) := by
  induction rest generalizing first with
  | nil => simp [joinWith]
  | cons r rs ih =>
    simp only [List.map_cons, String.join_cons, joinWith]
    rw [← ih (g r)]
    simp only [String.append_assoc]

/-- the decoration of a continuation line of a description -/
def docLine (indent l : String) : String := if l ≠ "" then indent ++ " * " ++ l else indent ++ " *"

theorem descriptionPart_aux (d indent : String) (hne : splitLines (pyLstrip (pyRstrip d "\n") "\n") ≠ []) :
    descriptionPart d indent
      = joinWith "\n" ((splitLines (pyLstrip (pyRstrip d "\n") "\n")).head hne
          :: (splitLines (pyLstrip (pyRstrip d "\n") "\n")).tail.map (docLine indent)) ++ "\n" := by
  unfold descriptionPart
  dsimp only
  revert hne
  generalize splitLines (pyLstrip (pyRstrip d "\n") "\n") = ls
  intro hne
  cases ls with
  | nil => exact absurd rfl hne
  | cons first rest =>
    have hf : (fun part => if part != "" then "\n" ++ indent ++ " * " ++ part else "\n" ++ indent ++ " *")
        = fun p => "\n" ++ docLine indent p := by
      funext part
      by_cases h : part = "" <;> simp [docLine, h, String.append_assoc]
    simp only [List.head_cons, List.tail_cons]
    rw [hf, append_join_map_sep]

theorem descriptionPart_eq (d indent : String) :
    descriptionPart d indent
      = joinWith "\n" ((splitLines (pyLstrip (pyRstrip d "\n") "\n")).head (splitLines_ne_nil _)
          :: (splitLines (pyLstrip (pyRstrip d "\n") "\n")).tail.map (docLine indent)) ++ "\n" :=
  descriptionPart_aux d indent _

theorem sdsDocstringDescription_eq (d indent : String) :
    sdsDocstringDescription d indent
      = if d = "" then "" else indent ++ "/**\n" ++ indent ++ " * " ++ descriptionPart d indent ++ indent ++ " */\n" := by
  unfold sdsDocstringDescription
  by_cases h : d = "" <;> simp [h]

theorem sdsDocstringDescription_eq_empty_iff (d indent : String) :
    sdsDocstringDescription d indent = "" ↔ d = "" := by
  rw [sdsDocstringDescription_eq]
  by_cases h : d = ""
  · simp [h]
  · simp [h]

/-! ### `@result` lines -/

/-- the name under which the `i`-th documented result `rd` of `docs` is listed: its own name, or
    `result_n` where `n` counts the unnamed documented results up to and including it, from `k` -/
def resultLabel (k : Nat) (docs : List ResultDoc) (i : Nat) (rd : ResultDoc) : String :=
  if rd.name ≠ "" then rd.name else resultName (k + (docs.take i).countP (fun r => r.name == ""))

/-- one `@result` entry: the description's lines, continuation lines behind ` * ` -/
def resultLine (safe : Bool) (indent name description : String) : String :=
  indent ++ " * @result " ++ convertName name safe ++ " "
    ++ joinWith ("\n" ++ indent ++ " * ") (splitLines description) ++ "\n"

theorem resultDocLines_eq (safe : Bool) (indent : String) (k : Nat) (rds : List ResultDoc) :
    resultDocLines safe indent k rds
      = String.join ((rds.filter (fun r => r.description != "")).mapIdx fun i rd =>
          resultLine safe indent (resultLabel k (rds.filter (fun r => r.description != "")) i rd) rd.description) := by
  induction rds generalizing k with
  | nil => simp [resultDocLines]
  | cons rd rest ih =>
    unfold resultDocLines
    by_cases hd : rd.description = ""
    · simp only [hd, bne_self_eq_false, Bool.false_eq_true, if_false, List.filter_cons]
      exact ih k
    · have hd' : (rd.description != "") = true := by simpa using hd
      simp only [hd', if_true, List.filter_cons, List.mapIdx_cons, String.join_cons]
      by_cases hn : rd.name = ""
      · simp only [hn, bne_self_eq_false, Bool.false_eq_true, if_false]
        rw [ih (k + 1)]
        simp only [resultLine, resultLabel, hn, ne_eq, not_true_eq_false, if_false, List.take_zero,
          List.countP_nil, Nat.add_zero, String.append_assoc, List.take_succ_cons, List.countP_cons,
          beq_self_eq_true, if_true]
        congr 8
        funext i r
        simp only [Nat.add_assoc, Nat.add_comm 1]
      · have hn' : (rd.name != "") = true := by simpa using hn
        simp only [hn', if_true]
        rw [ih k]
        simp only [resultLine, resultLabel, hn, ne_eq, not_false_eq_true, if_true, String.append_assoc,
          List.take_succ_cons, List.countP_cons, beq_iff_eq, if_false, Nat.add_zero]

/-! ### examples -/

/-- the code line an example line contributes: lines starting with `>>>` or `...`, the marker
    replaced by `//` (`str.replace`: every occurrence); other lines contribute nothing -/
def exampleCodeLine (part : String) : Option String :=
  if pyStartsWith part ">>>" then some (pyReplace part ">>>" "//")
  else if pyStartsWith part "..." then some (pyReplace part "..." "//")
  else none

theorem join_map_filterMap {α β : Type} (f : α → String) (g : α → Option β) (h : β → String)
    (hf : ∀ a, f a = match g a with | some b => h b | none => "") (l : List α) :
    String.join (l.map f) = String.join ((l.filterMap g).map h) := by
  induction l with
  | nil => rfl
  | cons a l ih =>
    simp only [List.map_cons, String.join_cons, List.filterMap_cons, hf a]
    cases g a with
    | none => simp only [String.empty_append]; exact ih
    | some b => simp only [List.map_cons, String.join_cons, ih]

/-! `str.replace` on a line that carries the marker at its start only -/

theorem splitOnStrAux_skip (sep : List Char) (pre rest : List Char) :
    splitOnStrAux sep pre.length (pre ++ rest) = splitOnStrAux sep 0 rest := by
  induction pre with
  | nil => rfl
  | cons c pre ih =>
    simp only [List.length_cons, List.cons_append]
    rw [splitOnStrAux]
    exact ih

theorem splitOnStrAux_of_not_infix (sep cs : List Char) (h : isInfixOfL sep cs = false) :
    splitOnStrAux sep 0 cs = [cs] := by
  induction cs with
  | nil => rfl
  | cons c cs ih =>
    simp only [isInfixOfL, Bool.or_eq_false_iff] at h
    unfold splitOnStrAux
    simp only [h.1, Bool.false_eq_true, if_false, ih h.2]

theorem isPrefixOfL_append (p rest : List Char) : isPrefixOfL p (p ++ rest) = true := by
  induction p with
  | nil => rfl
  | cons c p ih => simp [isPrefixOfL, ih]

theorem splitOnStrAux_prefix_once (sep rest : List Char) (hne : sep ≠ []) (h : isInfixOfL sep rest = false) :
    splitOnStrAux sep 0 (sep ++ rest) = [[], rest] := by
  cases sep with
  | nil => exact absurd rfl hne
  | cons c sep' =>
    have hp := isPrefixOfL_append (c :: sep') rest
    simp only [List.cons_append] at hp ⊢
    unfold splitOnStrAux
    simp only [hp, if_true, List.length_cons, Nat.add_sub_cancel]
    rw [splitOnStrAux_skip, splitOnStrAux_of_not_infix _ _ h]

theorem pyReplace_prefix_once (part m r : String) (rest : List Char) (hm : m ≠ "")
    (hpart : part.toList = m.toList ++ rest) (hno : isInfixOfL m.toList rest = false) :
    pyReplace part m r = r ++ String.ofList rest := by
  have hml : m.toList ≠ [] := fun h => hm (String.toList_eq_nil_iff.mp h)
  have he : m.isEmpty = false := by
    cases hh : m.isEmpty
    · rfl
    · exact absurd (String.isEmpty_iff.mp hh) hm
  unfold pyReplace pySplitStr
  simp only [he, Bool.false_eq_true, if_false, hpart, splitOnStrAux_prefix_once _ _ hml hno, List.map_cons,
    List.map_nil, joinWith]
  simp

/-! ### the four blocks of a documentation comment -/

def descBlock (description indent : String) : String :=
  if description = "" then "" else indent ++ " * " ++ descriptionPart description indent

def paramBlock (safe : Bool) (indent : String) (params : List Parameter) : String :=
  String.join ((params.filter fun p => p.doc.description != "").map fun p =>
    indent ++ " * @param " ++ convertName p.name safe ++ " " ++ descriptionPart p.doc.description indent)

def exampleBlock (indent : String) (examples : List String) : String :=
  joinWith (indent ++ " *\n") (examples.map (exampleText indent))

/-- the separator line, present exactly when there is something before and something after -/
def sepIf (indent before after : String) : String :=
  if before ≠ "" ∧ after ≠ "" then indent ++ " *\n" else ""

/-- the assembly of `_create_sds_docstring` over abstract blocks -/
def assemble (sep D P R : String) (exs : List String) : String :=
  let full := D
  let P' := if P != "" && full != "" then sep ++ P else P
  let full := full ++ P'
  let R' := if R != "" && full != "" then sep ++ R else R
  let full := full ++ R'
  let full := if full != "" && !exs.isEmpty then full ++ sep else full
  full ++ joinWith sep exs

theorem assemble_eq (indent D P R : String) (exs : List String)
    (hE : joinWith (indent ++ " *\n") exs = "" ↔ exs = []) :
    assemble (indent ++ " *\n") D P R exs
      = D ++ sepIf indent D P ++ P ++ sepIf indent (D ++ P) R ++ R
          ++ sepIf indent (D ++ P ++ R) (joinWith (indent ++ " *\n") exs) ++ joinWith (indent ++ " *\n") exs := by
  unfold assemble sepIf
  by_cases hx : exs = []
  · subst hx
    by_cases hD : D = "" <;> by_cases hP : P = "" <;> by_cases hR : R = "" <;>
      simp [hD, hP, hR, joinWith, String.append_assoc]
  · have hx' : exs.isEmpty = false := by simpa using hx
    have hj : joinWith (indent ++ " *\n") exs ≠ "" := fun h => hx (hE.mp h)
    by_cases hD : D = "" <;> by_cases hP : P = "" <;> by_cases hR : R = "" <;>
      simp [hD, hP, hR, hx', hj, String.append_assoc]

theorem assemble_eq_join (indent D P R : String) (exs : List String)
    (hE : joinWith (indent ++ " *\n") exs = "" ↔ exs = []) :
    assemble (indent ++ " *\n") D P R exs
      = joinWith (indent ++ " *\n") ([D, P, R, joinWith (indent ++ " *\n") exs].filter (· ≠ "")) := by
  unfold assemble
  by_cases hx : exs = []
  · subst hx
    by_cases hD : D = "" <;> by_cases hP : P = "" <;> by_cases hR : R = "" <;>
      simp [hD, hP, hR, joinWith, String.append_assoc]
  · have hx' : exs.isEmpty = false := by simpa using hx
    have hj : joinWith (indent ++ " *\n") exs ≠ "" := fun h => hx (hE.mp h)
    by_cases hD : D = "" <;> by_cases hP : P = "" <;> by_cases hR : R = "" <;>
      simp [hD, hP, hR, hx', hj, joinWith, String.append_assoc]

theorem joinWith_eq_empty_iff (sep : String) (l : List String) (h : ∀ a ∈ l, a ≠ "") :
    joinWith sep l = "" ↔ l = [] := by
  cases l with
  | nil => simp [joinWith]
  | cons a l =>
    have ha := h a (by simp)
    cases l with
    | nil => simp [joinWith, ha]
    | cons b l => simp [joinWith, ha]

theorem exampleText_ne_empty (indent ex : String) : exampleText indent ex ≠ "" := by
  unfold exampleText
  simp

theorem filterMap_ite_none {α β : Type} (c : α → Bool) (f : α → β) (l : List α) :
    l.filterMap (fun a => if c a = true then none else some (f a)) = (l.filter fun a => !c a).map f := by
  induction l with
  | nil => rfl
  | cons a l ih =>
    by_cases h : c a = true
    · simp [h, ih]
    · simp [h, ih]

theorem ite_bne_empty {α : Type} (X : String) (a b : α) :
    (if (X != "") = true then a else b) = if X = "" then b else a := by
  by_cases h : X = "" <;> simp [h]

theorem sdsDocstring_eq_assemble (safe : Bool) (desc indent : String) (params : List Parameter)
    (resultDocs : List ResultDoc) (examples : List String) :
    sdsDocstring safe desc indent params resultDocs examples
      = (if assemble (indent ++ " *\n") (descBlock desc indent) (paramBlock safe indent params)
              (resultDocLines safe indent 1 resultDocs) (examples.map (exampleText indent)) = "" then ""
         else indent ++ "/**\n" ++ assemble (indent ++ " *\n") (descBlock desc indent) (paramBlock safe indent params)
              (resultDocLines safe indent 1 resultDocs) (examples.map (exampleText indent)) ++ indent ++ " */\n") := by
  have hD : (if desc != "" then indent ++ " * " ++ descriptionPart desc indent else "") = descBlock desc indent := by
    unfold descBlock; by_cases h : desc = "" <;> simp [h]
  have hP : String.join (params.filterMap fun p =>
      if p.doc.description == "" then none
      else some (indent ++ " * @param " ++ convertName p.name safe ++ " " ++ descriptionPart p.doc.description indent))
      = paramBlock safe indent params := by
    unfold paramBlock
    rw [filterMap_ite_none (fun p : Parameter => p.doc.description == "")]
    rfl
  unfold sdsDocstring
  dsimp only
  rw [hD, hP]
  generalize descBlock desc indent = D
  generalize paramBlock safe indent params = P
  generalize resultDocLines safe indent 1 resultDocs = R
  generalize List.map (exampleText indent) examples = exs
  unfold assemble
  dsimp only
  rw [ite_bne_empty]
  simp only [String.append_assoc]

theorem exampleTexts_join_eq_empty_iff (indent : String) (examples : List String) :
    joinWith (indent ++ " *\n") (examples.map (exampleText indent)) = "" ↔ examples.map (exampleText indent) = [] :=
  joinWith_eq_empty_iff _ _ fun a ha => by
    obtain ⟨ex, _, rfl⟩ := List.mem_map.mp ha
    exact exampleText_ne_empty indent ex

theorem exampleBlock_eq_empty_iff (indent : String) (examples : List String) :
    exampleBlock indent examples = "" ↔ examples = [] := by
  unfold exampleBlock
  rw [exampleTexts_join_eq_empty_iff, List.map_eq_nil_iff]

theorem descBlock_eq_empty_iff (desc indent : String) : descBlock desc indent = "" ↔ desc = "" := by
  unfold descBlock
  by_cases h : desc = "" <;> simp [h]

theorem join_eq_empty_iff (l : List String) : String.join l = "" ↔ ∀ a ∈ l, a = "" := by
  induction l with
  | nil => simp
  | cons a l ih => simp [String.join_cons, ih]

theorem paramBlock_eq_empty_iff (safe : Bool) (indent : String) (params : List Parameter) :
    paramBlock safe indent params = "" ↔ ∀ p ∈ params, p.doc.description = "" := by
  unfold paramBlock
  rw [join_eq_empty_iff]
  constructor
  · intro h p hp
    by_cases hd : p.doc.description = ""
    · exact hd
    · have := h _ (List.mem_map.mpr ⟨p, List.mem_filter.mpr ⟨hp, by simpa using hd⟩, rfl⟩)
      simp at this
  · intro h a ha
    obtain ⟨p, hp, rfl⟩ := List.mem_map.mp ha
    have := List.mem_filter.mp hp
    have h1 := h p this.1
    have h2 := this.2
    simp [h1] at h2

theorem resultDocLines_eq_empty_iff (safe : Bool) (indent : String) (k : Nat) (rds : List ResultDoc) :
    resultDocLines safe indent k rds = "" ↔ ∀ r ∈ rds, r.description = "" := by
  induction rds generalizing k with
  | nil => simp [resultDocLines]
  | cons rd rest ih =>
    unfold resultDocLines
    by_cases hd : rd.description = ""
    · simp [hd, ih]
    · simp [hd]

/-- (c) the documentation comment as a concatenation of its blocks -/
theorem sdsDocstring_blocks_eq (safe : Bool) (desc indent : String) (params : List Parameter)
    (resultDocs : List ResultDoc) (examples : List String) :
    sdsDocstring safe desc indent params resultDocs examples
      = if descBlock desc indent = "" ∧ paramBlock safe indent params = ""
            ∧ resultDocLines safe indent 1 resultDocs = "" ∧ exampleBlock indent examples = "" then ""
        else indent ++ "/**\n"
          ++ descBlock desc indent
          ++ sepIf indent (descBlock desc indent) (paramBlock safe indent params)
          ++ paramBlock safe indent params
          ++ sepIf indent (descBlock desc indent ++ paramBlock safe indent params) (resultDocLines safe indent 1 resultDocs)
          ++ resultDocLines safe indent 1 resultDocs
          ++ sepIf indent (descBlock desc indent ++ paramBlock safe indent params ++ resultDocLines safe indent 1 resultDocs)
               (exampleBlock indent examples)
          ++ exampleBlock indent examples
          ++ indent ++ " */\n" := by
  rw [sdsDocstring_eq_assemble, assemble_eq _ _ _ _ _ (exampleTexts_join_eq_empty_iff indent examples)]
  unfold exampleBlock
  generalize descBlock desc indent = D
  generalize paramBlock safe indent params = P
  generalize resultDocLines safe indent 1 resultDocs = R
  generalize joinWith (indent ++ " *\n") (examples.map (exampleText indent)) = E
  by_cases h : D = "" ∧ P = "" ∧ R = "" ∧ E = ""
  · obtain ⟨rfl, rfl, rfl, rfl⟩ := h
    simp [sepIf]
  · have h' : ¬ (D ++ sepIf indent D P ++ P ++ sepIf indent (D ++ P) R ++ R ++ sepIf indent (D ++ P ++ R) E ++ E = "") := by
      intro he
      simp only [String.append_eq_empty_iff] at he
      exact h ⟨he.1.1.1.1.1.1, he.1.1.1.1.2, he.1.1.2, he.2⟩
    rw [if_neg h', if_neg h]
    simp only [String.append_assoc]

/-! ### the comment depends on the element's own docstring fields only -/

theorem paramBlock_congr (safe : Bool) (indent : String) (ps ps' : List Parameter)
    (h : ps.map (fun p => (p.name, p.doc.description)) = ps'.map (fun p => (p.name, p.doc.description))) :
    paramBlock safe indent ps = paramBlock safe indent ps' := by
  have key : ∀ qs : List Parameter, paramBlock safe indent qs
      = String.join (((qs.map fun p => (p.name, p.doc.description)).filter fun x => x.2 != "").map fun x =>
          indent ++ " * @param " ++ convertName x.1 safe ++ " " ++ descriptionPart x.2 indent) := by
    intro qs
    unfold paramBlock
    rw [List.filter_map, List.map_map]
    rfl
  rw [key ps, key ps', h]

theorem resultDocLines_congr (safe : Bool) (indent : String) (k : Nat) (rs rs' : List ResultDoc)
    (h : rs.map (fun r => (r.name, r.description)) = rs'.map (fun r => (r.name, r.description))) :
    resultDocLines safe indent k rs = resultDocLines safe indent k rs' := by
  induction rs generalizing rs' k with
  | nil =>
    cases rs' with
    | nil => rfl
    | cons r' rs' => simp at h
  | cons r rs ih =>
    cases rs' with
    | nil => simp at h
    | cons r' rs' =>
      simp only [List.map_cons, List.cons.injEq, Prod.mk.injEq] at h
      obtain ⟨⟨hn, hd⟩, ht⟩ := h
      unfold resultDocLines
      rw [hn, hd]
      split
      · split; simp only [ih _ _ ht]
      · exact ih _ _ ht

theorem sdsDocstring_congr (safe : Bool) (indent desc : String) (ps ps' : List Parameter)
    (rs rs' : List ResultDoc) (exs : List String)
    (hp : ps.map (fun p => (p.name, p.doc.description)) = ps'.map (fun p => (p.name, p.doc.description)))
    (hr : rs.map (fun r => (r.name, r.description)) = rs'.map (fun r => (r.name, r.description))) :
    sdsDocstring safe desc indent ps rs exs = sdsDocstring safe desc indent ps' rs' exs := by
  rw [sdsDocstring_eq_assemble, sdsDocstring_eq_assemble, paramBlock_congr safe indent ps ps' hp,
    resultDocLines_congr safe indent 1 rs rs' hr]

/-- without parameters, results and examples the comment is the plain description comment -/
theorem sdsDocstring_description_only (safe : Bool) (desc indent : String) :
    sdsDocstring safe desc indent [] [] [] = sdsDocstringDescription desc indent := by
  rw [sdsDocstring_blocks_eq, sdsDocstringDescription_eq]
  by_cases h : desc = ""
  · simp [descBlock, paramBlock, resultDocLines, exampleBlock, joinWith, h]
  · simp [descBlock, paramBlock, resultDocLines, exampleBlock, joinWith, sepIf, h, String.append_assoc]

/-! ### splitting a joined list gives the list back -/

theorem splitOnChar_append_sep_d (sep : Char) (l rest : List Char) (h : sep ∉ l) :
    splitOnChar sep (l ++ sep :: rest) = l :: splitOnChar sep rest := by
  induction l with
  | nil =>
    simp only [List.nil_append]
    rw [splitOnChar]
    split
    · rename_i h'; exact absurd h' (splitOnChar_ne_nil sep rest)
    · rename_i p ps h'; simp [h']
  | cons c l ih =>
    simp only [List.mem_cons, not_or] at h
    simp only [List.cons_append]
    rw [splitOnChar, ih h.2]
    have : ¬ c = sep := fun e => h.1 e.symm
    simp [this]

/-- `joinWith` on character lists -/
def joinL_d (sep : List Char) : List (List Char) → List Char
  | [] => []
  | [a] => a
  | a :: as => a ++ sep ++ joinL_d sep as

theorem toList_joinWith_d (sep : String) (ls : List String) :
    (joinWith sep ls).toList = joinL_d sep.toList (ls.map String.toList) := by
  induction ls with
  | nil => rfl
  | cons a ls ih =>
    cases ls with
    | nil => rfl
    | cons b ls =>
      simp only [joinWith, String.toList_append, ih, List.map_cons, joinL_d]

theorem splitOnChar_joinL_d (sep : Char) (ls : List (List Char)) (hne : ls ≠ []) (h : ∀ l ∈ ls, sep ∉ l) :
    splitOnChar sep (joinL_d [sep] ls) = ls := by
  induction ls with
  | nil => exact absurd rfl hne
  | cons a ls ih =>
    cases ls with
    | nil => exact splitOnChar_of_not_mem sep a (h a (by simp))
    | cons b ls =>
      simp only [joinL_d, List.append_assoc, List.singleton_append]
      rw [splitOnChar_append_sep_d sep a _ (h a (by simp))]
      rw [ih (by simp) (fun l hl => h l (by simp [hl]))]

/-- `sep.join(ls).split(sep) == ls` for a one-character separator that occurs in no item -/
theorem pySplit_joinWith_d (c : Char) (sep : String) (hsep : sep.toList = [c]) (ls : List String) (hne : ls ≠ [])
    (h : ∀ l ∈ ls, c ∉ l.toList) : pySplit (joinWith sep ls) c = ls := by
  unfold pySplit
  rw [toList_joinWith_d, hsep, splitOnChar_joinL_d c _ (by simpa using hne)]
  · simp [List.map_map, Function.comp_def]
  · intro l hl
    obtain ⟨s, hs, rfl⟩ := List.mem_map.mp hl
    exact h s hs

theorem mem_pySplit_not_sep (s : String) (c : Char) : ∀ l ∈ pySplit s c, c ∉ l.toList := by
  intro l hl
  unfold pySplit at hl
  obtain ⟨p, hp, rfl⟩ := List.mem_map.mp hl
  rw [String.toList_ofList]
  exact mem_splitOnChar_not_sep c s.toList p hp

theorem joinWith_cons_cons (sep a b : String) (l : List String) :
    joinWith sep (a :: b :: l) = a ++ sep ++ joinWith sep (b :: l) := by
  simp [joinWith]

theorem joinWith_append (sep : String) (l₁ l₂ : List String) (h₁ : l₁ ≠ []) (h₂ : l₂ ≠ []) :
    joinWith sep (l₁ ++ l₂) = joinWith sep l₁ ++ sep ++ joinWith sep l₂ := by
  induction l₁ with
  | nil => exact absurd rfl h₁
  | cons a l₁ ih =>
    cases l₁ with
    | nil =>
      cases l₂ with
      | nil => exact absurd rfl h₂
      | cons b l₂ => simp [joinWith]
    | cons b l₁ =>
      simp only [List.cons_append, joinWith_cons_cons] at ih ⊢
      rw [ih (by simp)]
      simp only [String.append_assoc]

theorem append_joinWith_cons (sep a b : String) (l : List String) :
    a ++ joinWith sep (b :: l) = joinWith sep ((a ++ b) :: l) := by
  cases l with
  | nil => simp [joinWith]
  | cons c l => simp only [joinWith_cons_cons, String.append_assoc]

/-- the lines of a description as they appear in the comment -/
def descriptionLines (d indent : String) : List String :=
  (splitLines (pyLstrip (pyRstrip d "\n") "\n")).head (splitLines_ne_nil _)
    :: (splitLines (pyLstrip (pyRstrip d "\n") "\n")).tail.map (docLine indent)

theorem descriptionPart_eq_join (d indent : String) :
    descriptionPart d indent = joinWith "\n" (descriptionLines d indent ++ [""]) := by
  rw [descriptionPart_eq, joinWith_append _ _ _ (by simp [descriptionLines]) (by simp)]
  simp [joinWith, descriptionLines]

theorem not_mem_toList_append {c : Char} {a b : String} (ha : c ∉ a.toList) (hb : c ∉ b.toList) :
    c ∉ (a ++ b).toList := by
  simp [String.toList_append, ha, hb]

theorem mem_splitLines_no_newline (s : String) : ∀ l ∈ splitLines s, '\n' ∉ l.toList :=
  mem_pySplit_not_sep s '\n'

theorem docLine_no_newline (indent l : String) (hi : '\n' ∉ indent.toList) (hl : '\n' ∉ l.toList) :
    '\n' ∉ (docLine indent l).toList := by
  have h1 : '\n' ∉ " * ".toList := by decide
  have h2 : '\n' ∉ " *".toList := by decide
  unfold docLine
  split
  · exact not_mem_toList_append (not_mem_toList_append hi h1) hl
  · exact not_mem_toList_append hi h2

theorem head_tail_no_newline (indent : String) (ls : List String) (hne : ls ≠ [])
    (h : ∀ l ∈ ls, '\n' ∉ l.toList) (hi : '\n' ∉ indent.toList) :
    ∀ l ∈ ls.head hne :: ls.tail.map (docLine indent), '\n' ∉ l.toList := by
  intro l hl
  simp only [List.mem_cons, List.mem_map] at hl
  rcases hl with rfl | ⟨x, hx, rfl⟩
  · exact h _ (List.head_mem _)
  · exact docLine_no_newline indent x hi (h x (List.mem_of_mem_tail hx))

theorem descriptionLines_no_newline (d indent : String) (hi : '\n' ∉ indent.toList) :
    ∀ l ∈ descriptionLines d indent, '\n' ∉ l.toList :=
  head_tail_no_newline indent _ _ (mem_splitLines_no_newline _) hi

/-- line for line: the lines of the description part are the description's lines, decorated, in order -/
theorem splitLines_descriptionPart (d indent : String) (hi : '\n' ∉ indent.toList) :
    splitLines (descriptionPart d indent) = descriptionLines d indent ++ [""] := by
  rw [descriptionPart_eq_join]
  apply pySplit_joinWith_d '\n' "\n" (by decide) _ (by simp)
  intro l hl
  simp only [List.mem_append, List.mem_singleton] at hl
  rcases hl with hl | rfl
  · exact descriptionLines_no_newline d indent hi l hl
  · decide

end StubGen

