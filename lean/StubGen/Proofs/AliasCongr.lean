/-
The analyser reads the alias table only through look-ups by name, and `_find_alias` sorts the candidates: two tables
with the same candidate SETS for every name (whatever the order of the keys and of the candidates) give the same analysis.
-/
import StubGen.Proofs.Order
import StubGen.Proofs.Aliases

namespace StubGen

open List

/-- the same candidates for every short name, up to order -/
def AliasEquiv (al al' : AliasTable) : Prop :=
  ∀ k : String, (assocGet? al k = none ∧ assocGet? al' k = none) ∨
    ∃ qs qs', assocGet? al k = some qs ∧ assocGet? al' k = some qs' ∧ qs ~ qs'

section
variable (env : AEnv) (al' : AliasTable) (h : AliasEquiv env.aliases al')

/-- the environment with the other table (options and `infoBases` untouched) -/
abbrev ac_env' : AEnv := { env with aliases := al' }

include h

theorem ac_findAlias : @findAlias env = @findAlias (ac_env' env al') := by
  funext s n k
  rcases h n with ⟨h1, h2⟩ | ⟨qs, qs', h1, h2, hp⟩
  · rw [p08_findAlias_eq, p08_findAlias_eq, h1, show assocGet? (ac_env' env al').aliases n = none from h2]
  · exact p08_findAlias_perm env (ac_env' env al') s n h1 h2 hp k

theorem ac_isSome (n : String) : (assocGet? env.aliases n).isSome = (assocGet? al' n).isSome := by
  rcases h n with ⟨h1, h2⟩ | ⟨qs, qs', h1, h2, _⟩
  · rw [h1, h2]
  · rw [h1, h2]; rfl

mutual
theorem ac_toAbstractNoUn : ∀ t : MType, toAbstractNoUn env t = toAbstractNoUn (ac_env' env al') t
  | .tuple items | .union items => by simp only [toAbstractNoUn, ac_toAbstracts items]
  | .typeVar name ub ubStr => by simp only [toAbstractNoUn, ac_toAbstractNoUn ub]
  | .callable args ret => by simp only [toAbstractNoUn, ac_toAbstracts args, ac_toAbstractNoUn ret]
  | .any t missing => by simp only [toAbstractNoUn, ac_findAlias env al' h]
  | .none | .literal _ | .other _ _ => by simp only [toAbstractNoUn]
  | .unbound name args => by simp only [toAbstractNoUn, ac_toAbstracts args, ac_findAlias env al' h]
  | .inst name fullname args => by
    match args with
    | [] => simp only [toAbstractNoUn, ac_toAbstracts []]
    | [a] => simp only [toAbstractNoUn, ac_toAbstracts [a]]
    | k :: v :: rest => simp only [toAbstractNoUn, ac_toAbstracts (k :: v :: rest), ac_toAbstractNoUn k, ac_toAbstractNoUn v]
theorem ac_toAbstracts : ∀ ts : List MType, toAbstracts env ts = toAbstracts (ac_env' env al') ts
  | [] => by simp only [toAbstracts]
  | t :: ts => by simp only [toAbstracts, ac_toAbstractNoUn t, ac_toAbstracts ts]
end

/-! functions that read only the options: equal by unfolding -/
omit h in
theorem ac_classDocumentation (fn : String) (defs : List Def) :
    classDocumentation env fn defs = classDocumentation (ac_env' env al') fn defs := rfl
omit h in
theorem ac_functionDocumentation (f : FuncDef) : functionDocumentation env f = functionDocumentation (ac_env' env al') f := rfl
omit h in
theorem ac_parameterDocumentation (a b c : String) :
    parameterDocumentation env a b c = parameterDocumentation (ac_env' env al') a b c := rfl
omit h in
theorem ac_attributeDocumentation (a b : String) : attributeDocumentation env a b = attributeDocumentation (ac_env' env al') a b := rfl
omit h in
theorem ac_resultDocumentation (a : String) : resultDocumentation env a = resultDocumentation (ac_env' env al') a := rfl
omit h in
theorem ac_reconcileParameter (fid : String) (p : Parameter) :
    reconcileParameter env fid p = reconcileParameter (ac_env' env al') fid p := rfl

/-! The other functions are recursive or call `toAbstract`.  Each is stated as an equation between
    FUNCTIONS (`f env = f env'`), so that the caller's proof is: unfold, rewrite the callees (a closed
    term can be rewritten under the binders of a `do` block), and what is left differs only in
    options, i.e. by `rfl`. -/

omit h in
theorem ac_reconcileParameters : reconcileParameters env = reconcileParameters (ac_env' env al') := by
  funext fid ps
  induction ps with
  | nil => rfl
  | cons p ps ih => rw [reconcileParameters, reconcileParameters, ih]; rfl

omit h in
theorem ac_reconcileResults : reconcileResults env = reconcileResults (ac_env' env al') := by
  funext fid i all rs ds
  induction ds generalizing i all rs with
  | nil => rfl
  | cons d ds ih => simp only [reconcileResults, ih]

omit h in
theorem ac_inheritsFromException : inheritsFromException env = inheritsFromException (ac_env' env al') := by
  funext fuel
  induction fuel with
  | zero => rfl
  | succ fuel ih => funext n; simp only [inheritsFromException, ih]

theorem ac_toAbstract : toAbstract env = toAbstract (ac_env' env al') := by
  funext t un
  unfold toAbstract
  simp only [ac_toAbstracts env al' h, ac_toAbstractNoUn env al' h]

theorem ac_parseParameter : parseParameter env = parseParameter (ac_env' env al') := by
  funext f fid a
  unfold parseParameter
  rw [ac_toAbstract env al' h]
  rfl

theorem ac_parseParameters : parseParameters env = parseParameters (ac_env' env al') := by
  funext f fid as
  induction as with
  | nil => rfl
  | cons a as ih => rw [parseParameters, parseParameters, ac_parseParameter env al' h, ih]

theorem ac_parseResults : parseResults env = parseResults (ac_env' env al') := by
  funext f fid docs
  unfold parseResults
  rw [ac_toAbstract env al' h]

theorem ac_enterFuncdef : enterFuncdef env = enterFuncdef (ac_env' env al') := by
  funext f
  unfold enterFuncdef
  rw [ac_parseParameters env al' h, ac_parseResults env al' h, ac_reconcileParameters env al',
    ac_reconcileResults env al']
  rfl

theorem ac_createAttributeV : createAttributeV env = createAttributeV (ac_env' env al') := by
  funext isMember name fullname isVar var un isStatic
  unfold createAttributeV
  rw [ac_toAbstract env al' h]
  rfl

theorem ac_parseAttributes : parseAttributes env = parseAttributes (ac_env' env al') := by
  funext lv un isStatic
  unfold parseAttributes
  rw [ac_createAttributeV env al' h]

theorem ac_enterAssignment_go : enterAssignment.go env = enterAssignment.go (ac_env' env al') := by
  funext a lvs
  induction lvs with
  | nil => rfl
  | cons lv rest ih => rw [enterAssignment.go, enterAssignment.go, ac_parseAttributes env al' h, ih]

theorem ac_enterAssignment : enterAssignment env = enterAssignment (ac_env' env al') := by
  funext a
  unfold enterAssignment
  rw [ac_enterAssignment_go env al' h]

theorem ac_typeParameter : typeParameter env = typeParameter (ac_env' env al') := by
  funext tv
  unfold typeParameter
  rw [ac_toAbstract env al' h, funext (ac_toAbstracts env al' h)]

theorem ac_typeParameters : typeParameters env = typeParameters (ac_env' env al') := by
  funext l
  induction l with
  | nil => rfl
  | cons o rest ih =>
    cases o with
    | none => rfl
    | some tv => rw [typeParameters, typeParameters, ac_typeParameter env al' h, ih]

omit h in
theorem ac_ctorFullDoc : ctorFullDoc env = ctorFullDoc (ac_env' env al') := by
  funext defs
  induction defs with
  | nil => rfl
  | cons d rest ih =>
    cases d <;> simp only [ctorFullDoc, ih]
    -- left: a constructor, where the two sides read the same option
    rfl

theorem ac_enterClassdef : enterClassdef env = enterClassdef (ac_env' env al') := by
  funext name fullname bases removed defs
  unfold enterClassdef
  rw [ac_typeParameters env al' h, ac_ctorFullDoc env al', ac_findAlias env al' h,
    ac_inheritsFromException env al']
  simp only [ac_isSome env al' h]
  rfl

omit h in
theorem ac_enterEnumdef (name fullname : String) (defs : List Def) :
    enterEnumdef env name fullname defs = enterEnumdef (ac_env' env al') name fullname defs := rfl

theorem ac_walkAssignment : walkAssignment env = walkAssignment (ac_env' env al') := by
  funext a
  unfold walkAssignment
  rw [ac_enterAssignment env al' h]

theorem ac_walkFunc : walkFunc env = walkFunc (ac_env' env al') := by
  funext f
  unfold walkFunc
  rw [ac_enterFuncdef env al' h, ac_walkAssignment env al' h]

mutual
theorem ac_walkDef (mode : WalkMode) : ∀ d : Def, walkDef env mode d = walkDef (ac_env' env al') mode d
  | .func _ | .decorator _ | .overloaded _ => by simp only [walkDef, ac_walkFunc env al' h]
  | .cls name fullname bases removed defs => by
    simp only [walkDef, ac_enterClassdef env al' h, ac_enterEnumdef env al', ac_walkDefs .enum defs, ac_walkDefs .cls defs]
  | .assign a => by simp only [walkDef, ac_walkAssignment env al' h]
  | .docExpr _ _ | .other _ => by simp only [walkDef]
theorem ac_walkDefs (mode : WalkMode) : ∀ ds : List Def, walkDefs env mode ds = walkDefs (ac_env' env al') mode ds
  | [] => by simp only [walkDefs]
  | d :: ds => by simp only [walkDefs, ac_walkDef mode d, ac_walkDefs mode ds]
end

theorem ac_walkModule (m : SrcModule) : walkModule env m = walkModule (ac_env' env al') m := by
  unfold walkModule
  simp only [ac_walkDefs env al' h]

theorem ac_walkModules : ∀ ms : List SrcModule, walkModules env ms = walkModules (ac_env' env al') ms
  | [] => by simp only [walkModules]
  | m :: ms => by simp only [walkModules, ac_walkModule env al' h m, ac_walkModules ms]

/-- THE ANALYSIS DEPENDS ON THE ALIAS TABLE ONLY AS A DICT OF SETS -/
theorem ac_analyze (docRoot : GNode) (mods : List SrcModule) :
    analyze env docRoot mods = analyze (ac_env' env al') docRoot mods := by
  unfold analyze
  simp only [ac_walkModules env al' h]

end

/-! ### the table `_get_aliases` builds: every candidate list is duplicate-free and non-empty -/

def AliasInv (t : AliasTable) : Prop := ∀ k v, assocGet? t k = some v → v.Nodup ∧ v ≠ []

theorem ac_insertSet_ne_nil (a : String) (l : List String) : insertSet a l ≠ [] :=
  fun e => List.not_mem_nil (e ▸ (mem_insertSet a l a).2 (Or.inr rfl))

theorem ac_aliasAdd_inv {t : AliasTable} (ht : AliasInv t) (n fn : String) : AliasInv (aliasAdd t n fn) := by
  intro k v hv
  unfold aliasAdd at hv
  rw [assocGet?_upsert] at hv
  by_cases hk : n = k
  · rw [if_pos hk, Option.some.injEq] at hv
    subst hv
    cases hg : assocGet? t k with
    | none => exact ⟨List.nodup_singleton _, List.cons_ne_nil _ _⟩
    | some v0 => exact ⟨nodup_insertSet _ _ (ht k v0 hg).1, ac_insertSet_ne_nil _ _⟩
  · rw [if_neg hk] at hv
    exact ht k v hv

theorem ac_getAliasesFrom_inv (pkg : String) : ∀ (fs : List AliasFact) (t : AliasTable), AliasInv t → AliasInv (getAliasesFrom pkg t fs)
  | [], t, ht => by simpa [getAliasesFrom] using ht
  | f :: fs, t, ht => by
    unfold getAliasesFrom
    cases aliasStep pkg f with
    | skip => exact ac_getAliasesFrom_inv pkg fs t ht
    | add n fn => exact ac_getAliasesFrom_inv pkg fs _ (ac_aliasAdd_inv ht n fn)

theorem ac_getAliases_inv (pkg : String) (fs : List AliasFact) : AliasInv (getAliases pkg fs) :=
  ac_getAliasesFrom_inv pkg fs [] (by intro k v hv; simp [assocGet?] at hv)

/-- two tables with the invariant and the same members under every name are equivalent -/
theorem ac_equiv_of_mem {t t' : AliasTable} (ht : AliasInv t) (ht' : AliasInv t')
    (hm : ∀ n x, x ∈ lookupA t n ↔ x ∈ lookupA t' n) : AliasEquiv t t' := by
  intro k
  have hk := hm k
  unfold lookupA at hk
  cases hg : assocGet? t k <;> cases hg' : assocGet? t' k <;> rw [hg, hg'] at hk
  · exact Or.inl ⟨rfl, rfl⟩
  · obtain ⟨x, hx⟩ := List.exists_mem_of_ne_nil _ (ht' k _ hg').2
    exact absurd ((hk x).2 hx) List.not_mem_nil
  · obtain ⟨x, hx⟩ := List.exists_mem_of_ne_nil _ (ht k _ hg).2
    exact absurd ((hk x).1 hx) List.not_mem_nil
  · exact Or.inr ⟨_, _, rfl, rfl, (List.perm_ext_iff_of_nodup (ht k _ hg).1 (ht' k _ hg').1).2 hk⟩

end StubGen
