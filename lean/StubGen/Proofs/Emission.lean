/-
Proof machinery for C03 / C04 / C17 (generator side): what the generator appends to the ghost emission
log `St.log`.  Every helper carries the prefix `n03_`.

Method: for every generator function the entries it appends are computed by a *pure* function of its
arguments (`n03_attrLog`, `n03_methLog`, `n03_classLog`, …); the run of the function is related to it by
`n03_Tr st st' Δ R` ("the log grew by exactly `Δ`, the re-export queue by exactly the entries `R`,
module ids untouched").  The property theorems are then facts about those pure functions.
-/
import StubGen.Proofs.Markers
import StubGen.Model.Files
import Mathlib.Data.List.Induction

namespace StubGen

open List

/-! ### the transition relation -/

/-- append the queue entries `R` (module id, node), in order -/
def n03_enqueue (rs : List (String × List Node)) (R : List (String × Node)) : List (String × List Node) :=
  R.foldl (fun acc kn => appendReexport acc kn.1 kn.2) rs

theorem n03_enqueue_append (rs : List (String × List Node)) (R1 R2 : List (String × Node)) :
    n03_enqueue rs (R1 ++ R2) = n03_enqueue (n03_enqueue rs R1) R2 := by
  unfold n03_enqueue
  rw [List.foldl_append]

/-- from `st` to `st'` the log grew by exactly `Δ` and the re-export queue by exactly the entries `R`;
    the module ids and the re-export flag are unchanged -/
structure n03_Tr (st st' : St) (Δ : List LogEntry) (R : List (String × Node)) : Prop where
  log : st'.log = st.log ++ Δ
  reexports : st'.reexports = n03_enqueue st.reexports R
  moduleId : st'.moduleId = st.moduleId
  reexportModuleId : st'.reexportModuleId = st.reexportModuleId
  creatingReexport : st'.creatingReexport = st.creatingReexport

theorem n03_Tr.refl (st : St) : n03_Tr st st [] [] :=
  ⟨by simp, rfl, rfl, rfl, rfl⟩

theorem n03_Tr.trans {a b c : St} {Δ1 Δ2 : List LogEntry} {R1 R2 : List (String × Node)}
    (h1 : n03_Tr a b Δ1 R1) (h2 : n03_Tr b c Δ2 R2) : n03_Tr a c (Δ1 ++ Δ2) (R1 ++ R2) :=
  ⟨by rw [h2.log, h1.log, List.append_assoc], by rw [h2.reexports, h1.reexports, n03_enqueue_append],
    h2.moduleId.trans h1.moduleId, h2.reexportModuleId.trans h1.reexportModuleId,
    h2.creatingReexport.trans h1.creatingReexport⟩

theorem n03_Tr.cast {a b : St} {Δ Δ' : List LogEntry} {R R' : List (String × Node)}
    (h : n03_Tr a b Δ R) (hΔ : Δ = Δ') (hR : R = R') : n03_Tr a b Δ' R' := by
  subst hΔ; subst hR; exact h

theorem n03_Tr.getModuleId {a b : St} {Δ : List LogEntry} {R : List (String × Node)} (h : n03_Tr a b Δ R)
    (actual : Bool) : getModuleId b actual = getModuleId a actual := by
  unfold StubGen.getModuleId
  rw [h.moduleId, h.reexportModuleId, h.creatingReexport]

theorem n03_Tr.of_grows {K : List String} {b : Bool} {st st' : St} (h : Grows K b st st') : n03_Tr st st' [] [] :=
  ⟨by rw [h.log]; simp, h.reexports, h.moduleId, h.reexportModuleId, h.creatingReexport⟩

theorem n03_Tr.of_onlyIO {st st' : St} (h : OnlyIO st st') : n03_Tr st st' [] [] :=
  n03_Tr.of_grows (Grows.of_onlyIO h)

theorem n03_Tr.logEmit (st : St) (k i : String) : n03_Tr st { st with log := st.log ++ [(k, i)] } [(k, i)] [] :=
  ⟨rfl, rfl, rfl, rfl, rfl⟩

theorem n03_Tr.ite_todos {a s1 : St} {Δ : List LogEntry} {R : List (String × Node)} (h : n03_Tr a s1 Δ R)
    (c : Prop) [Decidable c] (x : List String) : n03_Tr a (if c then { s1 with todos := x } else s1) Δ R := by
  by_cases hc : c
  · rw [if_pos hc]; exact ⟨h.log, h.reexports, h.moduleId, h.reexportModuleId, h.creatingReexport⟩
  · rw [if_neg hc]; exact h

/-- sequencing, in the shape the transition proofs use it -/
theorem n03_wp_seq {α β : Type} {x : G α} {f : α → G β} {P : α → St → Prop} {Q : β → St → Prop} {st : St}
    (hx : wp x P st) (hf : ∀ a s1, P a s1 → wp (f a) Q s1) : wp (x >>= f) Q st :=
  wp_bind.2 (wp_conseq hx hf)

/-! ### quiet computations: nothing logged, nothing queued -/

structure n03_Quiet {α : Type} (x : G α) : Prop where
  run : ∀ (st : St) (a : α) (st' : St), x st = .ok (a, st') → n03_Tr st st' [] []

namespace n03_Quiet
variable {α β : Type}

theorem wp {x : G α} (h : n03_Quiet x) (st : St) : StubGen.wp x (fun _ st' => n03_Tr st st' [] []) st :=
  fun a st' hx => h.run st a st' hx

theorem of_wp {x : G α} (h : ∀ st, StubGen.wp x (fun _ st' => n03_Tr st st' [] []) st) : n03_Quiet x :=
  ⟨fun st a st' hx => h st a st' hx⟩

theorem pure (a : α) : n03_Quiet (Pure.pure a : G α) :=
  of_wp fun st => wp_pure.2 (n03_Tr.refl st)

theorem throw (e : PyErr) : n03_Quiet (throwG e : G α) :=
  of_wp fun _ => wp_throwG.2 trivial

theorem bind {x : G α} {f : α → G β} (hx : n03_Quiet x) (hf : ∀ a, n03_Quiet (f a)) : n03_Quiet (x >>= f) := by
  refine of_wp fun st => wp_bind.2 (wp_conseq (hx.wp st) fun a s1 h1 => ?_)
  exact wp_conseq ((hf a).wp s1) fun _ s2 h2 => (h1.trans h2).cast rfl rfl

theorem get_bind {f : St → G β} (hf : ∀ s : St, n03_Quiet (f s)) : n03_Quiet (get >>= f) := by
  refine of_wp fun st => wp_bind.2 (wp_get.2 ?_)
  exact (hf st).wp st

theorem modify {g : St → St} (hg : ∀ s, n03_Tr s (g s) [] []) : n03_Quiet (modify g : G PUnit) :=
  of_wp fun st => wp_modify.2 (hg st)

theorem addTodo (k : String) : n03_Quiet (addTodo k) :=
  of_wp fun st => wp_addTodo.2 ⟨by simp, rfl, rfl, rfl, rfl⟩

end n03_Quiet

open Lean in
macro "n03_quiet" "[" ls:term,* "]" : tactic => do
  let alts ← ls.getElems.mapM fun l => `(tacticSeq| apply $l)
  `(tactic| repeat' (first
      | with_reducible exact n03_Quiet.pure _
      | with_reducible exact n03_Quiet.throw _
      | with_reducible exact n03_Quiet.addTodo _
      | with_reducible assumption
      | ((with_reducible apply n03_Quiet.modify); intro _; exact ⟨by simp, rfl, rfl, rfl, rfl⟩)
      | ((with_reducible apply n03_Quiet.get_bind); intro _)
      $[| with_reducible $alts:tacticSeq]*
      | with_reducible apply n03_Quiet.bind
      | intro _
      | split
      | dsimp only))

theorem n03_addToImports_quiet (env : Env) (q : String) : n03_Quiet (addToImports env q) :=
  n03_Quiet.of_wp fun st => wp_conseq (addToImports_wp env q st) fun _ _ h => n03_Tr.of_onlyIO h

theorem n03_createTodoMsg_quiet (indent : String) : n03_Quiet (createTodoMsg indent) :=
  n03_Quiet.of_wp fun st => wp_conseq (createTodoMsg_wp indent st) fun _ _ h => by
    rw [h.2]; exact ⟨by simp, rfl, rfl, rfl, rfl⟩

theorem n03_typeStr_quiet (env : Env) (t : AType) : n03_Quiet (typeStr env t) :=
  n03_Quiet.of_wp fun st => wp_conseq (typeStr_grows env t st) fun _ _ h => n03_Tr.of_grows h

theorem n03_typeStrOpt_quiet (env : Env) (t : Option AType) : n03_Quiet (typeStrOpt env t) := by
  unfold typeStrOpt
  n03_quiet [n03_typeStr_quiet]

theorem n03_defaultString_quiet (a : Assign) (d : DefaultVal) : n03_Quiet (defaultString a d) :=
  n03_Quiet.of_wp fun st => wp_conseq (defaultString_grows a d st) fun _ _ h => n03_Tr.of_grows h

theorem n03_createParameter_quiet (env : Env) (p : Parameter) : n03_Quiet (createParameter env p) := by
  unfold createParameter
  n03_quiet [n03_typeStr_quiet, n03_defaultString_quiet]

theorem n03_createParameters_quiet (env : Env) : (ps : List Parameter) → n03_Quiet (createParameters env ps)
  | [] => by unfold createParameters; n03_quiet []
  | p :: ps => by
    have := n03_createParameters_quiet env ps
    unfold createParameters
    n03_quiet [n03_createParameter_quiet]

theorem n03_createParameterString_quiet (env : Env) (ps : List Parameter) (indent : String) (b : Bool) :
    n03_Quiet (createParameterString env ps indent b) := by
  unfold createParameterString
  n03_quiet [n03_createParameters_quiet]

theorem n03_createResultString_quiet (env : Env) (rs : List Result) : n03_Quiet (createResultString env rs) :=
  n03_Quiet.of_wp fun st => wp_conseq (createResultString_grows env rs st) fun _ _ h => n03_Tr.of_grows h

theorem n03_typeVarStrings_quiet (env : Env) (b : Bool) : (tvs : List TypeVar) → n03_Quiet (typeVarStrings env b tvs)
  | [] => by unfold typeVarStrings; n03_quiet []
  | tv :: tvs => by
    have := n03_typeVarStrings_quiet env b tvs
    unfold typeVarStrings
    n03_quiet [n03_typeStr_quiet]

theorem n03_typeParamStrings_quiet (env : Env) (tps : List TypeParam) : n03_Quiet (typeParamStrings env tps) :=
  n03_Quiet.of_wp fun st => wp_conseq (typeParamStrings_grows env tps st) fun _ _ h => n03_Tr.of_grows h

theorem n03_createImportsString_quiet (env : Env) : n03_Quiet (createImportsString env) := by
  unfold createImportsString
  n03_quiet []

/-! ### `hasNodeShorterReexport`, exactly -/

/-- the fold of `_has_node_shorter_reexport`: the first re-exporting module with the fewest path segments,
    provided it has fewer than the current module id -/
def n03_shortest (cur : String) (rb : List ModRef) : String × Option ModRef :=
  rb.foldl (fun (acc : String × Option ModRef) m =>
      if (splitSlash m.id).length < (splitSlash acc.1).length then (m.id, some m) else acc) (cur, none)

/-- does the node move to a re-export stub? -/
def n03_moves (cur : String) (rb : List ModRef) : Bool :=
  match (n03_shortest cur rb).2 with
  | some _ => (n03_shortest cur rb).1 != cur
  | none => false

/-- the alias under which the re-exporting module imports the node (last matching import) -/
def n03_alias (nodeName : String) (m : ModRef) : Option String :=
  m.qualifiedImports.foldl (fun (a : Option String) q => if pyEndsWith q.qualifiedName nodeName then q.alias else a) none

/-- the queued (possibly renamed) copy of the node -/
def n03_movedNode (nodeName : String) (node : Node) (cur : String) (rb : List ModRef) : Node :=
  match (n03_shortest cur rb).2 with
  | some m =>
    (match n03_alias nodeName m with
     | some a => if a != "" then node.rename a else node
     | none => node)
  | none => node

/-- the queue entry of a moved node -/
def n03_queueEntry (nodeName : String) (node : Node) (cur : String) (rb : List ModRef) : String × Node :=
  ((n03_shortest cur rb).1, n03_movedNode nodeName node cur rb)

theorem n03_hasNodeShorterReexport_wp (n : String) (rb : List ModRef) (node : Node) (st : St) :
    wp (hasNodeShorterReexport n rb node)
      (fun b st' => b = n03_moves (getModuleId st) rb ∧
        st' = if b then { st with reexports := appendReexport st.reexports (n03_queueEntry n node (getModuleId st) rb).1
                                      (n03_queueEntry n node (getModuleId st) rb).2 } else st) st := by
  unfold hasNodeShorterReexport
  simp only [wp_bind, wp_get]
  unfold n03_moves n03_queueEntry n03_movedNode n03_alias n03_shortest
  split
  · rename_i m hm
    simp only [hm]
    simp only [wp_ite, wp_bind, wp_set, wp_pure]
    refine ⟨fun h => ?_, fun h => ?_⟩
    · simp only [h, true_and, if_true]
      rfl
    · simp only [h]
      simp
  · rename_i hm
    simp only [hm]
    rw [wp_pure]
    simp

/-- `hasNodeShorterReexport` as a transition -/
theorem n03_hasNodeShorterReexport_tr (n : String) (rb : List ModRef) (node : Node) (st : St) :
    wp (hasNodeShorterReexport n rb node)
      (fun b st' => b = n03_moves (getModuleId st) rb ∧
        n03_Tr st st' [] (if b then [n03_queueEntry n node (getModuleId st) rb] else [])) st := by
  refine wp_conseq (n03_hasNodeShorterReexport_wp n rb node st) ?_
  rintro b st' ⟨hb, hst⟩
  refine ⟨hb, ?_⟩
  cases b
  · simp only [Bool.false_eq_true, if_false] at hst ⊢
    rw [hst]; exact n03_Tr.refl st
  · simp only [if_true] at hst ⊢
    rw [hst]
    exact ⟨by simp, rfl, rfl, rfl, rfl⟩

/-- the common frame of `createFunctionString` and `createClassString`: where the test `c` allows it, a declaration
    with a shorter re-export is queued and logged as `moved`; otherwise its body is rendered -/
theorem n03_movedOr_tr {body : G String} {L : List LogEntry}
    (hbody : ∀ st, wp body (fun _ st' => n03_Tr st st' L []) st)
    (c : Bool) (n : String) (rb : List ModRef) (node : Node) (id : String) (st : St) :
    wp (if c then do
          let b ← hasNodeShorterReexport n rb node
          if b then do
            logEmit "moved" id
            pure ""
          else body
        else body)
      (fun _ st' => n03_Tr st st'
        (if c && n03_moves (getModuleId st) rb then [("moved", id)] else L)
        (if c && n03_moves (getModuleId st) rb then [n03_queueEntry n node (getModuleId st) rb] else [])) st := by
  cases c with
  | false => exact hbody st
  | true =>
    simp only [if_true, Bool.true_and]
    refine n03_wp_seq (n03_hasNodeShorterReexport_tr n rb node st) ?_
    rintro b s1 ⟨hb, h1⟩
    rw [← hb]
    cases b with
    | true =>
      simp only [if_true] at h1 ⊢
      rw [wp_bind, wp_logEmit, wp_pure]
      exact (h1.trans (n03_Tr.logEmit s1 _ _)).cast rfl rfl
    | false =>
      simp only [Bool.false_eq_true, if_false] at h1 ⊢
      exact wp_conseq (hbody s1) fun _ s2 h2 => (h1.trans h2).cast rfl rfl

/-! ### functions, properties, attributes -/

theorem n03_functionBody_tr (env : Env) (f : Function) (indent : String) (isMethod : Bool) (st : St) :
    wp (functionBody env f indent isMethod) (fun _ st' => n03_Tr st st' [("fun", f.id)] []) st := by
  unfold functionBody
  rw [wp_bind, wp_logEmit]
  refine wp_conseq (n03_Quiet.wp ?_ _) fun _ s h => ((n03_Tr.logEmit st _ _).trans h).cast rfl rfl
  n03_quiet [n03_createParameterString_quiet, n03_typeVarStrings_quiet, n03_createResultString_quiet,
    n03_createTodoMsg_quiet]

/-- is the top-level declaration moved to a re-export stub (only outside re-export stubs, never a method) -/
def n03_movedB (cur : String) (isMethod inRe : Bool) (rb : List ModRef) : Bool :=
  !isMethod && !inRe && n03_moves cur rb

def n03_funLog (cur : String) (isMethod inRe : Bool) (f : Function) : List LogEntry :=
  if n03_movedB cur isMethod inRe f.reexportedBy then [("moved", f.id)] else [("fun", f.id)]

def n03_funQueue (cur : String) (isMethod inRe : Bool) (f : Function) : List (String × Node) :=
  if n03_movedB cur isMethod inRe f.reexportedBy then [n03_queueEntry f.name (.fn f) cur f.reexportedBy] else []

theorem n03_createFunctionString_tr (env : Env) (f : Function) (indent : String) (isMethod inRe : Bool) (st : St) :
    wp (createFunctionString env f indent isMethod inRe)
      (fun _ st' => n03_Tr st st' (n03_funLog (getModuleId st) isMethod inRe f)
        (n03_funQueue (getModuleId st) isMethod inRe f)) st := by
  rw [createFunctionString_eq]
  exact n03_movedOr_tr (n03_functionBody_tr env f indent isMethod) (!isMethod && !inRe) _ _ _ _ st

/-- a method is never moved -/
theorem n03_createMethodString_tr (env : Env) (f : Function) (indent : String) (inRe : Bool) (st : St) :
    wp (createFunctionString env f indent true inRe) (fun _ st' => n03_Tr st st' [("fun", f.id)] []) st :=
  wp_conseq (n03_createFunctionString_tr env f indent true inRe st) fun _ _ h =>
    h.cast (by simp [n03_funLog, n03_movedB]) (by simp [n03_funQueue, n03_movedB])

theorem n03_createPropertyFunctionString_tr (env : Env) (f : Function) (indent : String) (st : St) :
    wp (createPropertyFunctionString env f indent) (fun _ st' => n03_Tr st st' [("prop", f.id)] []) st := by
  unfold createPropertyFunctionString
  rw [wp_bind, wp_logEmit]
  refine wp_conseq (n03_Quiet.wp ?_ _) fun _ s h => ((n03_Tr.logEmit st _ _).trans h).cast rfl rfl
  n03_quiet [n03_typeStr_quiet, n03_createTodoMsg_quiet]

/-- an attribute is emitted iff it is public and its type is not a bare type variable -/
def n03_attrShown (a : Attribute) : Bool := a.isPublic && !isTypeVarType a.type

def n03_attrLog (as : List Attribute) : List LogEntry :=
  (as.filter n03_attrShown).map fun a => ("attr", a.id)

/-- the name set `createAttributes` returns (built from the right) -/
def n03_attrNames : List Attribute → List String
  | [] => []
  | a :: as => if n03_attrShown a then insertSet a.name (n03_attrNames as) else n03_attrNames as

theorem n03_createAttribute_tr (env : Env) (a : Attribute) (inner : String) (st : St) :
    wp (createAttribute env a inner)
      (fun r st' => r.isSome = n03_attrShown a ∧
        n03_Tr st st' (if n03_attrShown a then [("attr", a.id)] else []) []) st := by
  unfold createAttribute n03_attrShown
  rw [wp_ite]
  refine ⟨fun h1 => ?_, fun h1 => ?_⟩
  · rw [wp_pure]
    have : a.isPublic = false := by simpa using h1
    simp only [this, Bool.false_and, Option.isSome_none, Bool.false_eq_true, if_false, true_and]
    exact n03_Tr.refl st
  have hp : a.isPublic = true := by simpa using h1
  rw [wp_ite]
  refine ⟨fun h2 => ?_, fun h2 => ?_⟩
  · rw [wp_pure]
    simp only [h2, Bool.not_true, Bool.and_false, Option.isSome_none, Bool.false_eq_true, if_false, true_and]
    exact n03_Tr.refl st
  have ht : isTypeVarType a.type = false := by simpa using h2
  simp only [hp, ht, Bool.not_false, Bool.and_self, if_true]
  rw [wp_bind, wp_logEmit]
  simp only [wp_bind]
  refine wp_conseq ((n03_typeStrOpt_quiet env a.type).wp _) fun t s1 h1' => ?_
  simp only [wp_condTodo, wp_bind]
  refine wp_conseq ((n03_createTodoMsg_quiet inner).wp _) fun t2 s2 h2' => ?_
  rw [wp_pure]
  refine ⟨rfl, ?_⟩
  have hmid : n03_Tr { st with log := st.log ++ [("attr", a.id)] }
      (if ((if (t != "") = true then ": " ++ t else "") == "") = true then
        { s1 with todos := insertSet "attr without type" s1.todos } else s1) [] [] := by
    exact h1'.ite_todos _ _
  exact (((n03_Tr.logEmit st _ _).trans hmid).trans h2').cast rfl rfl

theorem n03_createAttributes_tr (env : Env) (inner : String) : (as : List Attribute) → ∀ st,
    wp (createAttributes env inner as)
      (fun r st' => r.1.length = (as.filter n03_attrShown).length ∧ r.2 = n03_attrNames as ∧
        n03_Tr st st' (n03_attrLog as) []) st
  | [], st => by
    rw [createAttributes, wp_pure]
    exact ⟨rfl, rfl, n03_Tr.refl st⟩
  | a :: as, st => by
    rw [createAttributes, wp_bind]
    refine wp_conseq (n03_createAttribute_tr env a inner st) ?_
    rintro r s1 ⟨hr, h1⟩
    refine n03_wp_seq (n03_createAttributes_tr env inner as s1) ?_
    rintro ⟨texts, names⟩ s2 ⟨hl, hn, h2⟩
    dsimp only at hl hn ⊢
    have hs := hr.symm
    cases r <;>
    · simp only [Option.isSome_some, Option.isSome_none] at hs
      dsimp only
      rw [wp_pure]
      simp only [hs, if_true, Bool.false_eq_true, if_false] at h1
      refine ⟨by simp [List.filter, hs, hl], by simp [n03_attrNames, hs, hn], ?_⟩
      exact (h1.trans h2).cast (by simp [n03_attrLog, List.filter, hs]) rfl

theorem n03_createClassAttributeString_tr (env : Env) (as : List Attribute) (inner : String) (st : St) :
    wp (createClassAttributeString env as inner)
      (fun r st' => r.2 = n03_attrNames as ∧ n03_Tr st st' (n03_attrLog as) []) st := by
  unfold createClassAttributeString
  refine n03_wp_seq (n03_createAttributes_tr env inner as st) ?_
  rintro ⟨texts, names⟩ s1 ⟨_, hn, h1⟩
  dsimp only
  rw [wp_pure]
  exact ⟨hn, h1⟩

/-! ### methods -/

def n03_methEntry (m : Function) : LogEntry := (if m.isProperty then "prop" else "fun", m.id)

def n03_methLog (isInt : Bool) (ad : List String) (ms : List Function) : List LogEntry :=
  (ms.filter fun m => !methodSkipped m isInt ad).map n03_methEntry

/-- the name set `createMethods` returns (built from the right) -/
def n03_methNames (isInt : Bool) (ad : List String) : List Function → List String
  | [] => []
  | m :: ms => if methodSkipped m isInt ad then n03_methNames isInt ad ms
               else insertSet m.name (n03_methNames isInt ad ms)

theorem n03_createMethods_tr (env : Env) (inner : String) (isInt : Bool) (ad : List String) :
    (ms : List Function) → ∀ st,
    wp (createMethods env inner isInt ad ms)
      (fun r st' => r.2.2 = n03_methNames isInt ad ms ∧
        r.1.length = (ms.filter fun m => !methodSkipped m isInt ad && m.isProperty).length ∧
        r.2.1.length = (ms.filter fun m => !methodSkipped m isInt ad && !m.isProperty).length ∧
        n03_Tr st st' (n03_methLog isInt ad ms) []) st
  | [], st => by
    rw [createMethods, wp_pure]
    exact ⟨rfl, rfl, rfl, n03_Tr.refl st⟩
  | m :: ms, st => by
    rw [createMethods, wp_ite]
    refine ⟨fun hs => ?_, fun hs => ?_⟩
    · refine wp_conseq (n03_createMethods_tr env inner isInt ad ms st) ?_
      rintro r s1 ⟨hn, hp, hm, h1⟩
      refine ⟨by simp [n03_methNames, hs, hn], by simp [List.filter, hs, hp], by simp [List.filter, hs, hm], ?_⟩
      exact h1.cast (by simp [n03_methLog, List.filter, hs]) rfl
    have hs' : methodSkipped m isInt ad = false := by simpa using hs
    rw [wp_ite]
    refine ⟨fun hpr => n03_wp_seq (n03_createPropertyFunctionString_tr env m inner st) ?_,
      fun hpr => n03_wp_seq (n03_createMethodString_tr env m inner false st) ?_⟩
    all_goals
      intro t s1 h1
      refine n03_wp_seq (n03_createMethods_tr env inner isInt ad ms s1) ?_
      rintro ⟨props, meths, names⟩ s2 ⟨hn, hp, hm, h2⟩
      dsimp only at hn hp hm ⊢
      rw [wp_pure]
      refine ⟨by simp [n03_methNames, hs', hn], by simp [List.filter, hs', hpr, hp],
        by simp [List.filter, hs', hpr, hm], ?_⟩
      exact (h1.trans h2).cast (by simp [n03_methLog, n03_methEntry, List.filter, hs', hpr]) rfl

theorem n03_createClassMethodString_tr (env : Env) (ms : List Function) (inner : String) (isInt : Bool)
    (ad : List String) (st : St) :
    wp (createClassMethodString env ms inner isInt ad)
      (fun r st' => r.2 = n03_methNames isInt ad ms ∧ n03_Tr st st' (n03_methLog isInt ad ms) []) st := by
  unfold createClassMethodString
  refine n03_wp_seq (n03_createMethods_tr env inner isInt ad ms st) ?_
  rintro ⟨props, meths, names⟩ s1 ⟨hn, _, _, h1⟩
  dsimp only
  rw [wp_pure]
  exact ⟨hn, h1⟩

/-! ### the list combinators of the class generator -/

theorem n03_innerClassesG_tr {render : Class → G String} {L : Class → List LogEntry}
    (h : ∀ c st, wp (render c) (fun _ st' => n03_Tr st st' (L c) []) st) :
    (cs : List Class) → ∀ st, wp (innerClassesG render cs) (fun _ st' => n03_Tr st st' (cs.flatMap L) []) st
  | [], st => by
    rw [innerClassesG, wp_pure]; exact n03_Tr.refl st
  | c :: cs, st => by
    rw [innerClassesG, wp_bind]
    refine wp_conseq (h c st) fun _ s1 h1 => ?_
    refine n03_wp_seq (n03_innerClassesG_tr h cs s1) fun _ s2 h2 => ?_
    rw [wp_pure]
    exact (h1.trans h2).cast (by simp) rfl

/-- is the last dotted component of a superclass name private? -/
def n03_privSuper (sc : String) : Bool := isInternal (lastD "" (splitDot sc))

/-- the superclass names printed after `sub` -/
def n03_superNames (scs : List String) : List String :=
  (scs.filter fun s => !n03_privSuper s).map fun s => escapeKeyword (lastD "" (splitDot s))

theorem n03_superclassesG_tr (env : Env) {inline : String → G String} {L : String → List LogEntry}
    (h : ∀ sc st, wp (inline sc) (fun _ st' => n03_Tr st st' (L sc) []) st) :
    (scs : List String) → ∀ st, wp (superclassesG env inline scs)
      (fun r st' => r.1 = n03_superNames scs ∧ n03_Tr st st' ((scs.filter n03_privSuper).flatMap L) []) st
  | [], st => by
    rw [superclassesG, wp_pure]; exact ⟨rfl, n03_Tr.refl st⟩
  | sc :: scs, st => by
    rw [superclassesG]
    dsimp only
    rw [wp_ite]
    refine ⟨fun hc => n03_wp_seq ((n03_addToImports_quiet env sc).wp st) ?_, fun hc => n03_wp_seq (h sc st) ?_⟩
    all_goals
      intro _ s1 h1
      simp only [Bool.not_eq_true', Bool.not_eq_false, ← n03_privSuper.eq_1] at hc
      refine n03_wp_seq (n03_superclassesG_tr env h scs s1) ?_
      rintro ⟨names, text⟩ s2 ⟨hn, h2⟩
      dsimp only at hn ⊢
      rw [wp_pure]
      refine ⟨by simp [n03_superNames, List.filter, hc, hn], ?_⟩
      exact (h1.trans h2).cast (by simp [List.filter, hc]) rfl

theorem n03_internalSupersG_tr {inline : String → G String} {L : String → List LogEntry}
    (h : ∀ sc st, wp (inline sc) (fun _ st' => n03_Tr st st' (L sc) []) st) :
    (scs : List String) → ∀ st, wp (internalSupersG inline scs)
      (fun _ st' => n03_Tr st st' ((scs.filter n03_privSuper).flatMap L) []) st
  | [], st => by
    rw [internalSupersG, wp_pure]; exact n03_Tr.refl st
  | sc :: scs, st => by
    rw [internalSupersG]
    rw [wp_bind, wp_ite]
    refine ⟨fun hc => ?_, fun hc => ?_⟩
    · have hc' : n03_privSuper sc = true := hc
      refine wp_conseq (h sc st) fun _ s1 h1 => ?_
      refine n03_wp_seq (n03_internalSupersG_tr h scs s1) fun _ s2 h2 => ?_
      rw [wp_pure]
      exact (h1.trans h2).cast (by simp [List.filter, hc']) rfl
    · have hc' : n03_privSuper sc = false := by simpa [n03_privSuper] using hc
      rw [wp_pure, wp_bind]
      refine wp_conseq (n03_internalSupersG_tr h scs st) fun _ s2 h2 => ?_
      rw [wp_pure]
      exact h2.cast (by simp [List.filter, hc']) rfl

/-! ### the log of a class, as a pure function -/

/-- the names a class defines itself: emitted attributes, emitted methods and the public inner classes
    (the set `already_defined` handed to the inlining of private bases) -/
def n03_ownNames (c : Class) : List String :=
  unionSet (unionSet (n03_attrNames c.attributes) (n03_methNames false [] c.methods))
    ((c.classes.filter (·.isPublic)).map (·.name))

mutual
/-- what `createClassString env fuel c _ true` appends to the log -/
def n03_classLog (env : Env) : Nat → Class → List LogEntry
  | 0, _ => []
  | fuel + 1, c =>
    ("class", c.id) ::
      (n03_attrLog c.attributes
        ++ (c.classes.filter (·.isPublic)).flatMap (n03_classLog env fuel)
        ++ n03_methLog false [] c.methods
        ++ (if !c.renderedSupers.isEmpty && !c.isAbstract then
              (c.renderedSupers.filter n03_privSuper).flatMap
                (fun sc => n03_internalLog env fuel sc (n03_ownNames c))
            else [])
        ++ [("endclass", c.id)])
/-- what `createInternalClassString env fuel sc _ ad` appends to the log -/
def n03_internalLog (env : Env) : Nat → String → List String → List LogEntry
  | 0, _, _ => []
  | fuel + 1, sc, ad =>
    match getClassInPackage env sc with
    | .ok c =>
      n03_methLog true ad c.methods
        ++ (c.classes.filter (fun ic => !isInternal ic.name && !ad.contains ic.name)).flatMap (n03_classLog env fuel)
        ++ (c.superclasses.filter n03_privSuper).flatMap
            (fun ss => n03_internalLog env fuel ss (unionSet ad (n03_methNames true ad c.methods)))
    | .error _ => []
end

/-- the class body (after the early-return test), given the two recursive calls at `fuel` -/
theorem n03_classBody_tr (env : Env) (fuel : Nat)
    (ih1 : ∀ c indent st, wp (createClassString env fuel c indent true)
      (fun _ st' => n03_Tr st st' (n03_classLog env fuel c) []) st)
    (ih2 : ∀ sc inner ad st, wp (createInternalClassString env fuel sc inner ad)
      (fun _ st' => n03_Tr st st' (n03_internalLog env fuel sc ad) []) st)
    (c : Class) (indent : String) (st : St) :
    wp (classBody env fuel c indent) (fun _ st' => n03_Tr st st' (n03_classLog env (fuel + 1) c) []) st := by
  unfold classBody
  rw [wp_bind, wp_logEmit]
  have h0 := n03_Tr.logEmit st "class" c.id
  refine n03_wp_seq (n03_Quiet.wp ?_ _) fun ci s1 h1 => ?_
  · n03_quiet [n03_createParameterString_quiet]
  rw [wp_bind, wp_get]
  dsimp only
  rw [wp_bind, wp_modify]
  generalize hs1 : ({ s1 with classGenerics := [] } : St) = s1'
  have h1' : n03_Tr s1 s1' [] [] := by rw [← hs1]; exact ⟨by simp, rfl, rfl, rfl, rfl⟩
  refine n03_wp_seq (n03_Quiet.wp ?_ _) fun vi s2 h2 => ?_
  · n03_quiet [n03_typeParamStrings_quiet]
  refine n03_wp_seq ((n03_createTodoMsg_quiet indent).wp _) fun t1 s3 h3 => ?_
  refine n03_wp_seq (n03_createClassAttributeString_tr env c.attributes _ s3) ?_
  rintro ⟨attrText, attrNames⟩ s4 ⟨hn4, h4⟩
  dsimp only at hn4 ⊢
  refine n03_wp_seq (n03_innerClassesG_tr (L := n03_classLog env fuel) (fun ic st => ih1 ic _ st) _ s4)
    fun it s5 h5 => ?_
  refine n03_wp_seq (n03_createClassMethodString_tr env c.methods _ false [] s5) ?_
  rintro ⟨methodText, methodNames⟩ s6 ⟨hn6, h6⟩
  dsimp only at hn6 ⊢
  refine n03_wp_seq (P := fun _ s7 => n03_Tr s6 s7 (if !c.renderedSupers.isEmpty && !c.isAbstract then
              (c.renderedSupers.filter n03_privSuper).flatMap
                (fun sc => n03_internalLog env fuel sc (n03_ownNames c))
            else []) []) ?_ ?_
  · rw [wp_ite]
    refine ⟨fun hc => ?_, fun hc => ?_⟩
    · refine n03_wp_seq (n03_superclassesG_tr env
        (L := fun sc => n03_internalLog env fuel sc (n03_ownNames c)) (fun sc st => ?_) _ s6) ?_
      · subst hn4 hn6
        exact ih2 sc (indent ++ indentation) _ st
      · rintro ⟨names, text⟩ s7 ⟨_, h7⟩
        dsimp only
        rw [wp_pure]
        rw [if_pos hc]
        exact h7
    · rw [wp_pure, if_neg hc]
      exact n03_Tr.refl s6
  rintro ⟨superInfo, superMethodsText, nNames⟩ s7 h7
  dsimp only
  simp only [wp_condTodo, wp_bind]
  refine wp_conseq ((n03_createTodoMsg_quiet indent).wp _) fun t2 s8 h8 => ?_
  rw [wp_modify]
  generalize hs9 : ({ s8 with classGenerics := s1.classGenerics } : St) = s9
  have h8' : n03_Tr s8 s9 [] [] := by rw [← hs9]; exact ⟨by simp, rfl, rfl, rfl, rfl⟩
  rw [wp_logEmit]
  have h9 := n03_Tr.logEmit s9 "endclass" c.id
  have hall := ((((((((((h0.trans h1).trans h1').trans h2).trans h3).trans h4).trans h5).trans h6).trans
    (h7.ite_todos _ _)).trans h8).trans h8').trans h9
  have hfin := hall.cast (Δ' := n03_classLog env (fuel + 1) c) (R' := [])
    (by rw [n03_classLog]; simp) (by simp)
  rw [wp_ite]
  exact ⟨fun _ => wp_pure.2 hfin, fun _ => wp_pure.2 hfin⟩

/-- the recursive pair, by induction on the fuel -/
theorem n03_class_tr (env : Env) : (fuel : Nat) →
    (∀ c indent st, wp (createClassString env fuel c indent true)
      (fun _ st' => n03_Tr st st' (n03_classLog env fuel c) []) st) ∧
    (∀ sc inner ad st, wp (createInternalClassString env fuel sc inner ad)
      (fun _ st' => n03_Tr st st' (n03_internalLog env fuel sc ad) []) st)
  | 0 => by
    refine ⟨fun c indent st => ?_, fun sc inner ad st => ?_⟩
    · rw [createClassString]; exact wp_throwG.2 trivial
    · rw [createInternalClassString]; exact wp_throwG.2 trivial
  | fuel + 1 => by
    obtain ⟨ih1, ih2⟩ := n03_class_tr env fuel
    refine ⟨fun c indent st => ?_, fun sc inner ad st => ?_⟩
    · rw [createClassString_eq]
      exact n03_classBody_tr env fuel ih1 ih2 c indent st
    · rw [createInternalClassString, n03_internalLog, wp_bind]
      cases hg : getClassInPackage env sc with
      | error e => exact wp_throwG.2 trivial
      | ok k =>
        dsimp only
        rw [wp_pure, wp_bind]
        refine wp_conseq (n03_createClassMethodString_tr env k.methods inner true ad st) ?_
        rintro ⟨methodsText, existing⟩ s1 ⟨hn1, h1⟩
        dsimp only at hn1 ⊢
        refine n03_wp_seq (n03_innerClassesG_tr (L := n03_classLog env fuel) (fun ic st => ih1 ic _ st) _ s1)
          fun it s2 h2 => ?_
        refine n03_wp_seq (n03_internalSupersG_tr
          (L := fun ss => n03_internalLog env fuel ss (unionSet ad (n03_methNames true ad k.methods)))
          (fun ss st => ?_) _ s2) fun rest s3 h3 => ?_
        · subst hn1
          exact ih2 ss inner _ st
        · rw [wp_pure]
          exact ((h1.trans h2).trans h3).cast (by simp) rfl

/-! ### top-level classes and functions of a module -/

def n03_clsLog (env : Env) (fuel : Nat) (cur : String) (inRe : Bool) (c : Class) : List LogEntry :=
  if n03_movedB cur false inRe c.reexportedBy then [("moved", c.id)] else n03_classLog env fuel c

def n03_clsQueue (cur : String) (inRe : Bool) (c : Class) : List (String × Node) :=
  if n03_movedB cur false inRe c.reexportedBy then [n03_queueEntry c.name (.cls c) cur c.reexportedBy] else []

theorem n03_createClassString_tr (env : Env) (fuel : Nat) (c : Class) (indent : String) (inRe : Bool) (st : St) :
    wp (createClassString env fuel c indent inRe)
      (fun _ st' => n03_Tr st st' (n03_clsLog env fuel (getModuleId st) inRe c)
        (n03_clsQueue (getModuleId st) inRe c)) st := by
  cases fuel with
  | zero => rw [createClassString]; exact wp_throwG.2 trivial
  | succ fuel =>
    obtain ⟨ih1, ih2⟩ := n03_class_tr env fuel
    rw [createClassString_eq]
    exact n03_movedOr_tr (n03_classBody_tr env fuel ih1 ih2 c indent) (!inRe) _ _ _ _ st

def n03_functionsLog (cur : String) (inRe : Bool) (fs : List Function) : List LogEntry :=
  (fs.filter (·.isPublic)).flatMap (n03_funLog cur false inRe)

def n03_functionsQueue (cur : String) (inRe : Bool) (fs : List Function) : List (String × Node) :=
  (fs.filter (·.isPublic)).flatMap (n03_funQueue cur false inRe)

theorem n03_createFunctions_tr (env : Env) (inRe : Bool) : (fs : List Function) → ∀ st,
    wp (createFunctions env inRe fs)
      (fun _ st' => n03_Tr st st' (n03_functionsLog (getModuleId st) inRe fs)
        (n03_functionsQueue (getModuleId st) inRe fs)) st
  | [], st => by
    rw [createFunctions, wp_pure]; exact n03_Tr.refl st
  | f :: fs, st => by
    rw [createFunctions, wp_bind]
    refine wp_conseq (Q := fun _ s1 => n03_Tr st s1
      (if f.isPublic then n03_funLog (getModuleId st) false inRe f else [])
      (if f.isPublic then n03_funQueue (getModuleId st) false inRe f else [])) ?_ ?_
    · rw [wp_ite]
      refine ⟨fun hp => ?_, fun hp => ?_⟩
      · simp only [hp, if_true]
        exact n03_createFunctionString_tr env f "" false inRe st
      · rw [wp_pure]
        simp only [hp]
        exact n03_Tr.refl st
    intro t s1 h1
    refine n03_wp_seq (n03_createFunctions_tr env inRe fs s1) fun _ s2 h2 => ?_
    rw [wp_pure, h1.getModuleId] at *
    refine (h1.trans h2).cast ?_ ?_
    · unfold n03_functionsLog
      cases hp : f.isPublic <;> simp [List.filter, hp]
    · unfold n03_functionsQueue
      cases hp : f.isPublic <;> simp [List.filter, hp]

/-- the classes that get a stub: public and not derived from an exception -/
def n03_clsShown (c : Class) : Bool := c.isPublic && !c.inheritsFromException

def n03_classesLog (env : Env) (cur : String) (inRe : Bool) (cs : List Class) : List LogEntry :=
  (cs.filter n03_clsShown).flatMap (n03_clsLog env (classFuel env) cur inRe)

def n03_classesQueue (cur : String) (inRe : Bool) (cs : List Class) : List (String × Node) :=
  (cs.filter n03_clsShown).flatMap (n03_clsQueue cur inRe)

theorem n03_createClasses_tr (env : Env) (inRe : Bool) : (cs : List Class) → ∀ st,
    wp (createClasses env inRe cs)
      (fun _ st' => n03_Tr st st' (n03_classesLog env (getModuleId st) inRe cs)
        (n03_classesQueue (getModuleId st) inRe cs)) st
  | [], st => by
    rw [createClasses, wp_pure]; exact n03_Tr.refl st
  | c :: cs, st => by
    rw [createClasses, wp_bind]
    refine wp_conseq (Q := fun _ s1 => n03_Tr st s1
      (if n03_clsShown c then n03_clsLog env (classFuel env) (getModuleId st) inRe c else [])
      (if n03_clsShown c then n03_clsQueue (getModuleId st) inRe c else [])) ?_ ?_
    · rw [wp_ite]
      refine ⟨fun hp => ?_, fun hp => ?_⟩
      · have hp' : n03_clsShown c = true := hp
        simp only [hp', if_true]
        exact n03_createClassString_tr env _ c "" inRe st
      · have hp' : n03_clsShown c = false := by simpa [n03_clsShown] using hp
        rw [wp_pure]
        simp only [hp', Bool.false_eq_true, if_false]
        exact n03_Tr.refl st
    intro t s1 h1
    refine n03_wp_seq (n03_createClasses_tr env inRe cs s1) fun _ s2 h2 => ?_
    rw [wp_pure, h1.getModuleId] at *
    refine (h1.trans h2).cast ?_ ?_
    · unfold n03_classesLog
      cases hp : n03_clsShown c <;> simp [List.filter, hp]
    · unfold n03_classesQueue
      cases hp : n03_clsShown c <;> simp [List.filter, hp]

/-- is the module itself re-exported (then its stub is a re-export stub and nothing moves out of it) -/
def n03_modInRe (env : Env) (m : Module) : Bool :=
  (shortestPublicReexport env.api.reexportMap m.name "" true).1 != ""

def n03_moduleLog (env : Env) (cur : String) (m : Module) : List LogEntry :=
  n03_functionsLog cur (n03_modInRe env m) m.functions
    ++ n03_classesLog env cur (n03_modInRe env m) m.classes
    ++ m.enums.map fun e => ("enum", e.id)

def n03_moduleQueue (env : Env) (cur : String) (m : Module) : List (String × Node) :=
  n03_functionsQueue cur (n03_modInRe env m) m.functions ++ n03_classesQueue cur (n03_modInRe env m) m.classes

theorem n03_createModuleString_tr (env : Env) (m : Module) (st : St) :
    wp (createModuleString env m)
      (fun _ st' => n03_Tr st st' (n03_moduleLog env (getModuleId st) m) (n03_moduleQueue env (getModuleId st) m)) st := by
  unfold createModuleString
  dsimp only
  refine n03_wp_seq (n03_createFunctions_tr env _ m.functions st) fun t1 s1 h1 => ?_
  refine n03_wp_seq (n03_createClasses_tr env _ m.classes s1) fun t2 s2 h2 => ?_
  rw [wp_bind, wp_modify, wp_bind]
  refine wp_conseq ((n03_createImportsString_quiet env).wp _) fun t3 s3 h3 => ?_
  rw [wp_pure]
  have hmid : n03_Tr s2 { s2 with log := s2.log ++ m.enums.map fun e => ("enum", e.id) }
      (m.enums.map fun e => ("enum", e.id)) [] := ⟨rfl, rfl, rfl, rfl, rfl⟩
  rw [h1.getModuleId] at h2
  exact (((h1.trans h2).trans hmid).trans h3).cast (by simp [n03_moduleLog, n03_modInRe])
    (by simp [n03_moduleQueue, n03_modInRe])

/-! ### `callGenerator` and the re-export stubs -/

theorem n03_wp_setModuleId {id : String} {Q : Unit → St → Prop} {st : St} :
    wp (setModuleId id) Q st ↔
      Q () (if st.creatingReexport then { st with reexportModuleId := id } else { st with moduleId := id }) := by
  unfold setModuleId
  exact wp_modify

/-- the module id under which `callGenerator env m` runs -/
def n03_callCur (st : St) (m : Module) : String := if st.creatingReexport then "" else m.id

set_option linter.unusedSimpArgs false in
theorem n03_callGenerator_log (env : Env) (m : Module) (st : St) :
    wp (callGenerator env m)
      (fun _ st' => st'.log = st.log ++ ("module", m.id) :: n03_moduleLog env (n03_callCur st m) m ∧
        st'.reexports = n03_enqueue st.reexports (n03_moduleQueue env (n03_callCur st m) m) ∧
        st'.creatingReexport = st.creatingReexport) st := by
  unfold callGenerator
  rw [wp_bind, wp_logEmit, wp_bind, n03_wp_setModuleId, wp_bind, wp_modify]
  refine wp_conseq (n03_createModuleString_tr env m _) fun _ s1 h1 => ?_
  have hl := h1.log
  have hr := h1.reexports
  have hc := h1.creatingReexport
  clear h1
  unfold n03_callCur
  cases hcr : st.creatingReexport <;>
    simp only [hcr, getModuleId, Bool.false_eq_true, if_false, Bool.not_false, Bool.or_true, if_true,
      Bool.or_false, Bool.not_true] at hl hr hc ⊢ <;>
    exact ⟨by rw [hl]; simp, hr, hc⟩

/-- the block a queued node contributes to its re-export stub -/
def n03_nodeLog (env : Env) : Node → List LogEntry
  | .cls c => n03_classLog env (classFuel env) c
  | .fn f => [("fun", f.id)]

def n03_restubLog (env : Env) (moduleId : String) (els : List Node) : List LogEntry :=
  els.flatMap fun el => ("restub", moduleId ++ "/" ++ el.name) :: n03_nodeLog env el

/-- log and queue only (the module ids change while re-export stubs are produced) -/
structure n03_LR (st st' : St) (Δ : List LogEntry) : Prop where
  log : st'.log = st.log ++ Δ
  reexports : st'.reexports = st.reexports

theorem n03_LR.refl (st : St) : n03_LR st st [] := ⟨by simp, rfl⟩

theorem n03_LR.trans {a b c : St} {Δ1 Δ2 : List LogEntry} (h1 : n03_LR a b Δ1) (h2 : n03_LR b c Δ2) :
    n03_LR a c (Δ1 ++ Δ2) :=
  ⟨by rw [h2.log, h1.log, List.append_assoc], h2.reexports.trans h1.reexports⟩

theorem n03_LR.of_tr {a b : St} {Δ : List LogEntry} (h : n03_Tr a b Δ []) : n03_LR a b Δ :=
  ⟨h.log, h.reexports⟩

theorem n03_LR.cast {a b : St} {Δ Δ' : List LogEntry} (h : n03_LR a b Δ) (hΔ : Δ = Δ') : n03_LR a b Δ' := by
  subst hΔ; exact h

theorem n03_wp_modify_lr {β : Type} {g : St → St} (hg : ∀ s, n03_LR s (g s) []) {f : PUnit → G β}
    {Q : β → St → Prop} {st : St} (h : ∀ s1, n03_LR st s1 [] → wp (f ⟨⟩) Q s1) : wp (modify g >>= f) Q st := by
  rw [wp_bind, wp_modify]
  exact h _ (hg st)

theorem n03_wp_setModuleId_lr {β : Type} {id : String} {f : Unit → G β}
    {Q : β → St → Prop} {st : St} (h : ∀ s1, n03_LR st s1 [] → wp (f ()) Q s1) : wp (setModuleId id >>= f) Q st := by
  rw [wp_bind, n03_wp_setModuleId]
  refine h _ ?_
  split <;> exact ⟨by simp, rfl⟩

theorem n03_wp_logEmit_lr {β : Type} {k i : String} {f : Unit → G β}
    {Q : β → St → Prop} {st : St} (h : ∀ s1, n03_LR st s1 [(k, i)] → wp (f ()) Q s1) : wp (logEmit k i >>= f) Q st := by
  rw [wp_bind, wp_logEmit]
  exact h _ ⟨rfl, rfl⟩

theorem n03_reexportBody_lr (env : Env) (el : Node) (st : St) :
    wp (match el with
      | .cls c => createClassString env (classFuel env) c "" true
      | .fn f => createFunctionString env f "" false true : G String)
      (fun _ st' => n03_LR st st' (n03_nodeLog env el)) st := by
  cases el with
  | cls c =>
    dsimp only
    refine wp_conseq (n03_createClassString_tr env _ c "" true st) fun _ s1 h1 => ?_
    exact n03_LR.of_tr (h1.cast (by simp [n03_clsLog, n03_movedB, n03_nodeLog]) (by simp [n03_clsQueue, n03_movedB]))
  | fn f =>
    dsimp only
    refine wp_conseq (n03_createFunctionString_tr env f "" false true st) fun _ s1 h1 => ?_
    exact n03_LR.of_tr (h1.cast (by simp [n03_funLog, n03_movedB, n03_nodeLog]) (by simp [n03_funQueue, n03_movedB]))

theorem n03_createReexportElements_log (env : Env) (moduleId : String) : (els : List Node) → ∀ st,
    wp (createReexportElements env moduleId els) (fun _ st' => n03_LR st st' (n03_restubLog env moduleId els)) st
  | [], st => by
    unfold createReexportElements
    rw [wp_pure]
    exact n03_LR.refl st
  | el :: els, st => by
    unfold createReexportElements
    refine n03_wp_modify_lr ?hg fun s1 h1 => ?_
    case hg => intro s; exact ⟨by simp, rfl⟩
    refine n03_wp_setModuleId_lr fun s2 h2 => ?_
    refine n03_wp_logEmit_lr fun s3 h3 => ?_
    rw [wp_bind, wp_get]
    dsimp only
    refine n03_wp_seq (n03_reexportBody_lr env el s3) fun body s4 h4 => ?_
    refine n03_wp_seq ((n03_createImportsString_quiet env).wp s4) fun _ s5 h5 => ?_
    rw [wp_bind, wp_get]
    refine n03_wp_seq (n03_createReexportElements_log env moduleId els s5) fun rest s6 h6 => ?_
    rw [wp_pure]
    exact (((((h1.trans h2).trans h3).trans h4).trans (n03_LR.of_tr h5)).trans h6).cast (by simp [n03_restubLog])

/-- the log of the whole re-export phase: per queued module id, its nodes sorted by `(name, id)` -/
def n03_reexportPhaseLog (env : Env) (q : List (String × List Node)) : List LogEntry :=
  q.flatMap fun kv => n03_restubLog env kv.1 (sortBy nodeLe kv.2)

theorem n03_createReexportModules_log (env : Env) : (q : List (String × List Node)) → ∀ st,
    wp (createReexportModules env q) (fun _ st' => n03_LR st st' (n03_reexportPhaseLog env q)) st
  | [], st => by
    unfold createReexportModules
    rw [wp_pure]
    exact n03_LR.refl st
  | (moduleId, elements) :: rest, st => by
    unfold createReexportModules
    refine n03_wp_modify_lr ?hg fun s1 h1 => ?_
    case hg => intro s; exact ⟨by simp, rfl⟩
    refine n03_wp_setModuleId_lr fun s2 h2 => ?_
    refine n03_wp_modify_lr ?hg fun s3 h3 => ?_
    case hg => intro s; exact ⟨by simp, rfl⟩
    dsimp only
    refine n03_wp_seq (n03_createReexportElements_log env moduleId _ s3) fun ds s4 h4 => ?_
    refine n03_wp_seq (n03_createReexportModules_log env rest s4) fun more s5 h5 => ?_
    rw [wp_pure]
    exact ((((h1.trans h2).trans h3).trans h4).trans h5).cast (by simp [n03_reexportPhaseLog])

theorem n03_createReexportModuleStrings_log (env : Env) (st : St) :
    wp (createReexportModuleStrings env)
      (fun _ st' => n03_LR st st' (n03_reexportPhaseLog env st.reexports)) st := by
  unfold createReexportModuleStrings
  rw [wp_bind, wp_get]
  exact n03_createReexportModules_log env st.reexports st

/-! ### the order of the re-exported elements (`nodeLe`) is canonical -/

/-- `nodeLe` is the lexicographic order on `(name, id)` -/
theorem n03_nodeLe_iff (a b : Node) :
    nodeLe a b = true ↔ a.name < b.name ∨ (a.name = b.name ∧ a.id ≤ b.id) := by
  unfold nodeLe
  by_cases h : a.name = b.name
  · simp [h, strLe_iff]
  · simp only [beq_iff_eq, h, if_false, strLe_iff, false_and, or_false]
    exact ⟨fun h' => lt_of_le_of_ne h' h, le_of_lt⟩

theorem n03_nodeLe_total (a b : Node) : nodeLe a b = true ∨ nodeLe b a = true := by
  simp only [n03_nodeLe_iff]
  rcases lt_trichotomy a.name b.name with h | h | h
  · exact Or.inl (Or.inl h)
  · rcases le_total a.id b.id with h' | h'
    · exact Or.inl (Or.inr ⟨h, h'⟩)
    · exact Or.inr (Or.inr ⟨h.symm, h'⟩)
  · exact Or.inr (Or.inl h)

theorem n03_nodeLe_trans (a b c : Node) : nodeLe a b = true → nodeLe b c = true → nodeLe a c = true := by
  simp only [n03_nodeLe_iff]
  rintro (h1 | ⟨h1, h1'⟩) (h2 | ⟨h2, h2'⟩)
  · exact Or.inl (lt_trans h1 h2)
  · exact Or.inl (h2 ▸ h1)
  · exact Or.inl (h1 ▸ h2)
  · exact Or.inr ⟨h1.trans h2, le_trans h1' h2'⟩

/-- `nodeLe` in both directions: same `(name, id)` -/
theorem n03_nodeLe_antisymm (a b : Node) :
    nodeLe a b = true → nodeLe b a = true → a.name = b.name ∧ a.id = b.id := by
  simp only [n03_nodeLe_iff]
  rintro (h1 | ⟨h1, h1'⟩) (h2 | ⟨h2, h2'⟩)
  · exact absurd h1 (lt_asymm h2)
  · exact absurd h1 (h2 ▸ lt_irrefl _)
  · exact absurd h2 (h1 ▸ lt_irrefl _)
  · exact ⟨h1, le_antisymm h1' h2'⟩

/-- the sorted list is sorted: adjacent (indeed all) pairs are in `nodeLe` order -/
theorem n03_sortBy_nodeLe_pairwise (l : List Node) :
    (sortBy nodeLe l).Pairwise (fun x y => nodeLe x y = true) :=
  sortBy_pairwise nodeLe n03_nodeLe_total n03_nodeLe_trans l

/-! ### when a declaration moves -/

/-- number of `/`-separated segments of a module id -/
def n03_segs (id : String) : Nat := (splitSlash id).length

theorem n03_shortest_spec (cur : String) (rb : List ModRef) :
    ((n03_shortest cur rb).2 = none ∧ (n03_shortest cur rb).1 = cur ∧
      ∀ m ∈ rb, ¬ n03_segs m.id < n03_segs cur) ∨
    (∃ m ∈ rb, (n03_shortest cur rb).2 = some m ∧ (n03_shortest cur rb).1 = m.id ∧
      n03_segs m.id < n03_segs cur ∧ ∀ m' ∈ rb, n03_segs m.id ≤ n03_segs m'.id) := by
  induction rb using List.reverseRecOn with
  | nil => left; simp [n03_shortest]
  | append_singleton l x ih =>
    have hstep : n03_shortest cur (l ++ [x]) =
        if n03_segs x.id < n03_segs (n03_shortest cur l).1 then (x.id, some x) else n03_shortest cur l := by
      unfold n03_shortest n03_segs
      rw [List.foldl_append]
      rfl
    rw [hstep]
    simp only [List.forall_mem_append, List.forall_mem_singleton]
    rcases ih with ⟨h2, h1, hall⟩ | ⟨m, hm, h2, h1, hlt, hmin⟩
    · rw [h1]
      by_cases hx : n03_segs x.id < n03_segs cur
      · rw [if_pos hx]
        exact .inr ⟨x, by simp, rfl, rfl, hx, fun m' hm' => by have := hall m' hm'; omega, Nat.le_refl _⟩
      · rw [if_neg hx]
        exact .inl ⟨h2, h1, hall, hx⟩
    · rw [h1]
      by_cases hx : n03_segs x.id < n03_segs m.id
      · rw [if_pos hx]
        exact .inr ⟨x, by simp, rfl, rfl, by omega, fun m' hm' => by have := hmin m' hm'; omega, Nat.le_refl _⟩
      · rw [if_neg hx]
        exact .inr ⟨m, by simp [hm], h2, h1, hlt, hmin, by omega⟩

/-! ### `methodSkipped` -/

/-! ### the returned name sets -/

theorem n03_mem_attrNames (as : List Attribute) (n : String) :
    n ∈ n03_attrNames as ↔ ∃ a ∈ as, n03_attrShown a = true ∧ a.name = n := by
  induction as with
  | nil => simp [n03_attrNames]
  | cons a as ih =>
    unfold n03_attrNames
    by_cases hs : n03_attrShown a = true
    · simp [hs, mem_insertSet, ih, or_comm, @eq_comm _ n]
    · simp [hs, ih]

theorem n03_mem_methNames (isInt : Bool) (ad : List String) (ms : List Function) (n : String) :
    n ∈ n03_methNames isInt ad ms ↔ ∃ m ∈ ms, methodSkipped m isInt ad = false ∧ m.name = n := by
  induction ms with
  | nil => simp [n03_methNames]
  | cons a as ih =>
    unfold n03_methNames
    by_cases hs : methodSkipped a isInt ad = true
    · simp [hs, ih]
    · simp [hs, mem_insertSet, ih, or_comm, @eq_comm _ n]
theorem n03_mem_unionSet (l m : List String) (n : String) : n ∈ unionSet l m ↔ n ∈ l ∨ n ∈ m := by
  unfold unionSet
  rw [mem_foldl_insertSet]

/-! ### nesting: the top-level entries of a log -/

/-- the entries at nesting depth 0, starting at depth `d`: a `class` entry opens a level (it is itself
    reported when it is at depth 0), an `endclass` entry closes one (never reported) -/
def n03_top : Nat → List LogEntry → List LogEntry
  | _, [] => []
  | d, e :: es =>
    if e.1 = "class" then (if d = 0 then e :: n03_top (d + 1) es else n03_top (d + 1) es)
    else if e.1 = "endclass" then n03_top (d - 1) es
    else if d = 0 then e :: n03_top d es else n03_top d es

/-- well-bracketed logs -/
inductive n03_Bal : List LogEntry → Prop
  | nil : n03_Bal []
  | leaf (e : LogEntry) (rest : List LogEntry) : e.1 ≠ "class" → e.1 ≠ "endclass" → n03_Bal rest → n03_Bal (e :: rest)
  | block (i j : String) (m rest : List LogEntry) : n03_Bal m → n03_Bal rest →
      n03_Bal (("class", i) :: (m ++ ("endclass", j) :: rest))

theorem n03_Bal.append {a b : List LogEntry} (ha : n03_Bal a) (hb : n03_Bal b) : n03_Bal (a ++ b) := by
  induction ha with
  | nil => exact hb
  | leaf e rest h1 h2 _ ih => exact n03_Bal.leaf e _ h1 h2 ih
  | block i j m rest hm _ _ ih2 =>
    have : ("class", i) :: (m ++ ("endclass", j) :: rest) ++ b = ("class", i) :: (m ++ ("endclass", j) :: (rest ++ b)) := by
      simp
    rw [this]
    exact n03_Bal.block i j m _ hm ih2

theorem n03_Bal.flatMap {α : Type} (f : α → List LogEntry) (l : List α) (h : ∀ a ∈ l, n03_Bal (f a)) :
    n03_Bal (l.flatMap f) := by
  induction l with
  | nil => exact n03_Bal.nil
  | cons a as ih =>
    rw [List.flatMap_cons]
    exact (h a (by simp)).append (ih fun b hb => h b (by simp [hb]))

theorem n03_Bal.leaves (l : List LogEntry) (h : ∀ e ∈ l, e.1 ≠ "class" ∧ e.1 ≠ "endclass") : n03_Bal l := by
  induction l with
  | nil => exact n03_Bal.nil
  | cons a as ih => exact n03_Bal.leaf a as (h a (by simp)).1 (h a (by simp)).2 (ih fun e he => h e (by simp [he]))

/-- inside a level, a well-bracketed stretch contributes nothing to the top level -/
theorem n03_top_bal_succ {a : List LogEntry} (ha : n03_Bal a) : ∀ (d : Nat) (rest : List LogEntry),
    n03_top (d + 1) (a ++ rest) = n03_top (d + 1) rest := by
  induction ha with
  | nil => intro d rest; rfl
  | leaf e r h1 h2 _ ih =>
    intro d rest
    rw [List.cons_append, n03_top, if_neg h1, if_neg h2, if_neg (Nat.succ_ne_zero d)]
    exact ih d rest
  | block i j m r _ _ ih1 ih2 =>
    intro d rest
    have h3 : ("class", i) :: (m ++ ("endclass", j) :: r) ++ rest = ("class", i) :: (m ++ ("endclass", j) :: (r ++ rest)) := by
      simp
    rw [h3, n03_top]
    simp only [if_true, Nat.succ_ne_zero, if_false]
    rw [ih1 (d + 1), n03_top]
    simp only [show ¬ ("endclass" = "class") by decide, if_false, if_true, Nat.add_sub_cancel]
    exact ih2 d rest

/-- at depth 0 the top-level view distributes over a well-bracketed prefix -/
theorem n03_top_bal_zero {a : List LogEntry} (ha : n03_Bal a) : ∀ (rest : List LogEntry),
    n03_top 0 (a ++ rest) = n03_top 0 a ++ n03_top 0 rest := by
  induction ha with
  | nil => intro rest; rfl
  | leaf e r h1 h2 _ ih =>
    intro rest
    rw [List.cons_append, n03_top, if_neg h1, if_neg h2, if_pos rfl, n03_top, if_neg h1, if_neg h2, if_pos rfl, ih rest]
    rfl
  | block i j m r hm _ _ ih2 =>
    intro rest
    have h3 : ("class", i) :: (m ++ ("endclass", j) :: r) ++ rest = ("class", i) :: (m ++ ("endclass", j) :: (r ++ rest)) := by
      simp
    rw [h3, n03_top, n03_top]
    simp only [if_true]
    rw [n03_top_bal_succ hm 0, n03_top_bal_succ hm 0, n03_top, n03_top]
    simp only [show ¬ ("endclass" = "class") by decide, if_false, if_true, Nat.add_sub_cancel]
    rw [ih2 rest]
    rfl

/-- the top-level view of one class block is its opening entry -/
theorem n03_top_block (i j : String) {m : List LogEntry} (hm : n03_Bal m) :
    n03_top 0 (("class", i) :: (m ++ [("endclass", j)])) = [("class", i)] := by
  rw [n03_top]
  simp only [if_true]
  rw [n03_top_bal_succ hm 0, n03_top]
  simp only [show ¬ ("endclass" = "class") by decide, if_false, if_true]
  rfl

/-- a stretch without class blocks is its own top-level view -/
theorem n03_top_leaves : ∀ (l : List LogEntry), (∀ e ∈ l, e.1 ≠ "class" ∧ e.1 ≠ "endclass") → n03_top 0 l = l
  | [], _ => rfl
  | e :: es, hl => by
    rw [n03_top, if_neg (hl e (by simp)).1, if_neg (hl e (by simp)).2, if_pos rfl,
      n03_top_leaves es fun e' he' => hl e' (by simp [he'])]

theorem n03_attrLog_bal (as : List Attribute) : n03_Bal (n03_attrLog as) := by
  apply n03_Bal.leaves
  intro e he
  simp only [n03_attrLog, List.mem_map] at he
  obtain ⟨a, _, rfl⟩ := he
  exact ⟨by show "attr" ≠ "class"; decide, by show "attr" ≠ "endclass"; decide⟩

theorem n03_methEntry_leaf (m : Function) : (n03_methEntry m).1 ≠ "class" ∧ (n03_methEntry m).1 ≠ "endclass" := by
  unfold n03_methEntry
  cases m.isProperty
  · exact ⟨by show "fun" ≠ "class"; decide, by show "fun" ≠ "endclass"; decide⟩
  · exact ⟨by show "prop" ≠ "class"; decide, by show "prop" ≠ "endclass"; decide⟩

theorem n03_meths_bal (ms : List Function) : n03_Bal (ms.map n03_methEntry) :=
  n03_Bal.leaves _ fun e he => by
    obtain ⟨m, _, rfl⟩ := List.mem_map.1 he
    exact n03_methEntry_leaf m

theorem n03_methLog_bal (b : Bool) (ad : List String) (ms : List Function) : n03_Bal (n03_methLog b ad ms) :=
  n03_meths_bal _

/-- the members of a class block (between `class` and `endclass`) -/
def n03_members (env : Env) (fuel : Nat) (c : Class) : List LogEntry :=
  n03_attrLog c.attributes
    ++ (c.classes.filter (·.isPublic)).flatMap (n03_classLog env fuel)
    ++ n03_methLog false [] c.methods
    ++ (if !c.renderedSupers.isEmpty && !c.isAbstract then
          (c.renderedSupers.filter n03_privSuper).flatMap (fun sc => n03_internalLog env fuel sc (n03_ownNames c))
        else [])

theorem n03_classLog_members (env : Env) (fuel : Nat) (c : Class) :
    n03_classLog env (fuel + 1) c = ("class", c.id) :: (n03_members env fuel c ++ [("endclass", c.id)]) := by
  rw [n03_classLog]; rfl

theorem n03_members_bal_of {env : Env} {fuel : Nat} (h1 : ∀ c, n03_Bal (n03_classLog env fuel c))
    (h2 : ∀ sc ad, n03_Bal (n03_internalLog env fuel sc ad)) (c : Class) : n03_Bal (n03_members env fuel c) := by
  unfold n03_members
  refine (((n03_attrLog_bal _).append (n03_Bal.flatMap _ _ fun a _ => h1 a)).append (n03_methLog_bal _ _ _)).append ?_
  split
  · exact n03_Bal.flatMap _ _ fun a _ => h2 a _
  · exact n03_Bal.nil

theorem n03_classLog_bal (env : Env) : (fuel : Nat) →
    (∀ c, n03_Bal (n03_classLog env fuel c)) ∧ (∀ sc ad, n03_Bal (n03_internalLog env fuel sc ad))
  | 0 => by
    refine ⟨fun c => ?_, fun sc ad => ?_⟩
    · rw [n03_classLog]; exact n03_Bal.nil
    · rw [n03_internalLog]; exact n03_Bal.nil
  | fuel + 1 => by
    obtain ⟨ih1, ih2⟩ := n03_classLog_bal env fuel
    refine ⟨fun c => ?_, fun sc ad => ?_⟩
    · rw [n03_classLog_members]
      exact n03_Bal.block _ _ _ [] (n03_members_bal_of ih1 ih2 c) n03_Bal.nil
    · rw [n03_internalLog]
      split
      · exact ((n03_methLog_bal _ _ _).append (n03_Bal.flatMap _ _ fun a _ => ih1 a)).append
          (n03_Bal.flatMap _ _ fun a _ => ih2 a _)
      · exact n03_Bal.nil

theorem n03_members_bal (env : Env) (fuel : Nat) (c : Class) : n03_Bal (n03_members env fuel c) :=
  n03_members_bal_of (n03_classLog_bal env fuel).1 (n03_classLog_bal env fuel).2 c

theorem n03_clsLog_bal (env : Env) (fuel : Nat) (cur : String) (inRe : Bool) (c : Class) :
    n03_Bal (n03_clsLog env fuel cur inRe c) := by
  unfold n03_clsLog
  split
  · exact n03_Bal.leaf _ _ (by show "moved" ≠ "class"; decide) (by show "moved" ≠ "endclass"; decide) n03_Bal.nil
  · exact (n03_classLog_bal env _).1 c

/-- top-level view of the log of the classes of a module -/
theorem n03_top_classesLog (env : Env) (cur : String) (inRe : Bool) (cs : List Class) :
    n03_top 0 (n03_classesLog env cur inRe cs) =
      (cs.filter n03_clsShown).map fun c =>
        (if n03_movedB cur false inRe c.reexportedBy then "moved" else "class", c.id) := by
  unfold n03_classesLog
  induction cs.filter n03_clsShown with
  | nil => rfl
  | cons c cs ih =>
    rw [List.flatMap_cons, List.map_cons]
    have h1 : n03_top 0 (n03_clsLog env (classFuel env) cur inRe c) =
        [(if n03_movedB cur false inRe c.reexportedBy then "moved" else "class", c.id)] := by
      unfold n03_clsLog
      by_cases hm : n03_movedB cur false inRe c.reexportedBy = true
      · rw [if_pos hm, if_pos hm]; rfl
      · rw [if_neg hm, if_neg hm]
        have : classFuel env = (env.api.classes.length + 63) + 1 := rfl
        rw [this, n03_classLog_members, n03_top_block _ _ (n03_members_bal env _ c)]
    rw [n03_top_bal_zero (n03_clsLog_bal env _ cur inRe c), ih, h1]
    rfl

/-! ### the re-export queue -/

/-- the nodes queued under module id `k` (the entry `createReexportModules` will process) -/
def n03_queuedAt (rs : List (String × List Node)) (k : String) : List Node :=
  match rs.find? (fun kv => kv.1 == k) with
  | some kv => kv.2
  | none => []

theorem n03_queuedAt_append (rs : List (String × List Node)) (k : String) (n : Node) (k' : String) :
    n03_queuedAt (appendReexport rs k n) k' = n03_queuedAt rs k' ++ (if k = k' then [n] else []) := by
  unfold appendReexport
  by_cases hany : rs.any (fun kv => kv.1 == k) = true
  · rw [if_pos hany]
    unfold n03_queuedAt
    rw [List.find?_map]
    have hcomp : ((fun kv : String × List Node => kv.1 == k') ∘
        fun kv : String × List Node => if (kv.1 == k) = true then (kv.1, kv.2 ++ [n]) else kv) =
        fun kv => kv.1 == k' := by
      funext kv
      simp only [Function.comp]
      split <;> rfl
    rw [hcomp]
    cases hf : rs.find? (fun kv => kv.1 == k') with
    | none =>
      simp only [Option.map_none]
      have : k ≠ k' := by
        rintro rfl
        rw [List.find?_eq_none] at hf
        rw [List.any_eq_true] at hany
        obtain ⟨kv, hkv, hk⟩ := hany
        exact hf kv hkv hk
      simp [this]
    | some kv =>
      have hk := List.find?_some hf
      have hk' : kv.1 = k' := by simpa using hk
      simp only [Option.map_some]
      by_cases hkk : k = k'
      · subst hkk
        simp [hk']
      · have : ¬ (kv.1 == k) = true := by
          rw [hk']; simpa using fun h => hkk h.symm
        simp [this, hkk]
  · rw [if_neg hany]
    unfold n03_queuedAt
    rw [List.find?_append]
    cases hf : rs.find? (fun kv => kv.1 == k') with
    | none =>
      by_cases hkk : k = k'
      · subst hkk; simp
      · simp [hkk]
    | some kv =>
      have hk := List.find?_some hf
      have hk' : kv.1 = k' := by simpa using hk
      have hmem := List.mem_of_find?_eq_some hf
      have : k ≠ k' := by
        rintro rfl
        apply hany
        rw [List.any_eq_true]
        exact ⟨kv, hmem, by simp [hk']⟩
      simp [this]

/-! ### C17: a chain of private ancestors -/

/-- a method of an inlined private base is a candidate unless it is private *and* has a `_` name -/
def n03_visName (m : Function) : Bool := m.isPublic || !isInternal m.name

theorem n03_not_methodSkipped_internal (m : Function) (ad : List String) :
    (!methodSkipped m true ad) = (n03_visName m && !ad.contains m.name) := by
  unfold methodSkipped n03_visName
  cases m.isPublic <;> cases isInternal m.name <;> cases ad.contains m.name <;> rfl

/-- resolve a private ancestry that is a chain (every class on the path has at most one private superclass,
    each resolves through `getClassInPackage`, the fuel suffices); nearest ancestor first -/
def n03_chain (env : Env) : Nat → List String → Option (List Class)
  | 0, scs => if (scs.filter n03_privSuper).isEmpty then some [] else none
  | fuel + 1, scs =>
    match scs.filter n03_privSuper with
    | [] => some []
    | [s] =>
      (match getClassInPackage env s with
       | .ok k => (n03_chain env fuel k.superclasses).map (k :: ·)
       | .error _ => none)
    | _ => none

/-- the inherited members along a chain; `defined` = the names defined by the class itself and by the
    nearer ancestors -/
def n03_inheritedLog (env : Env) : Nat → List String → List Class → List LogEntry
  | _, _, [] => []
  | 0, _, _ :: _ => []
  | fuel + 1, defined, k :: ks =>
    (k.methods.filter fun m => n03_visName m && !defined.contains m.name).map n03_methEntry
      ++ (k.classes.filter fun ic => !isInternal ic.name && !defined.contains ic.name).flatMap (n03_classLog env fuel)
      ++ n03_inheritedLog env fuel (defined ++ (k.methods.filter n03_visName).map (·.name)) ks

theorem n03_methLog_internal_eq (ad defined : List String) (h : ∀ n, n ∈ ad ↔ n ∈ defined) (ms : List Function) :
    n03_methLog true ad ms = (ms.filter fun m => n03_visName m && !defined.contains m.name).map n03_methEntry := by
  unfold n03_methLog
  congr 1
  apply List.filter_congr
  intro m _
  rw [n03_not_methodSkipped_internal]
  congr 2
  have := h m.name
  cases h1 : ad.contains m.name <;> cases h2 : defined.contains m.name <;> simp_all

theorem n03_defined_step (ad defined : List String) (h : ∀ n, n ∈ ad ↔ n ∈ defined) (ms : List Function) (n : String) :
    n ∈ unionSet ad (n03_methNames true ad ms) ↔ n ∈ defined ++ (ms.filter n03_visName).map (·.name) := by
  rw [n03_mem_unionSet, n03_mem_methNames, List.mem_append, List.mem_map, h]
  constructor
  · rintro (h1 | ⟨m, hm, hs, rfl⟩)
    · exact Or.inl h1
    · right
      refine ⟨m, List.mem_filter.2 ⟨hm, ?_⟩, rfl⟩
      have := n03_not_methodSkipped_internal m ad
      rw [hs] at this
      have h3 : (n03_visName m && !ad.contains m.name) = true := this.symm
      simp only [Bool.and_eq_true] at h3
      exact h3.1
  · rintro (h1 | ⟨m, hm, rfl⟩)
    · exact Or.inl h1
    · obtain ⟨hm, hv⟩ := List.mem_filter.1 hm
      by_cases hin : m.name ∈ ad
      · exact Or.inl ((h _).1 hin)
      · right
        refine ⟨m, hm, ?_, rfl⟩
        have := n03_not_methodSkipped_internal m ad
        have hc : ad.contains m.name = false := by simpa using hin
        rw [hv, hc] at this
        simpa using this

theorem n03_chain_zero {env : Env} {scs : List String} {ks : List Class} (h : n03_chain env 0 scs = some ks) :
    scs.filter n03_privSuper = [] ∧ ks = [] := by
  rw [n03_chain] at h
  split at h
  · rename_i he; cases h; exact ⟨by simpa using he, rfl⟩
  · cases h

/-- a chain is empty, or starts with the class the one private superclass resolves to -/
theorem n03_chain_succ {env : Env} {fuel : Nat} {scs : List String} {ks : List Class}
    (h : n03_chain env (fuel + 1) scs = some ks) :
    (scs.filter n03_privSuper = [] ∧ ks = []) ∨
    ∃ s k ks', scs.filter n03_privSuper = [s] ∧ getClassInPackage env s = .ok k ∧
      n03_chain env fuel k.superclasses = some ks' ∧ ks = k :: ks' := by
  rw [n03_chain] at h
  split at h
  · rename_i he; cases h; exact .inl ⟨he, rfl⟩
  · rename_i s he
    cases hg : getClassInPackage env s with
    | error e => rw [hg] at h; cases h
    | ok k =>
      rw [hg] at h
      dsimp only at h
      cases hk : n03_chain env fuel k.superclasses with
      | none => rw [hk] at h; cases h
      | some ks' => rw [hk] at h; cases h; exact .inr ⟨s, k, ks', he, hg, hk, rfl⟩
  · cases h

theorem n03_chain_log (env : Env) : ∀ (fuel : Nat) (scs : List String) (ks : List Class) (ad defined : List String),
    n03_chain env fuel scs = some ks → (∀ n, n ∈ ad ↔ n ∈ defined) →
    (scs.filter n03_privSuper).flatMap (fun s => n03_internalLog env fuel s ad) = n03_inheritedLog env fuel defined ks := by
  intro fuel
  induction fuel with
  | zero =>
    intro scs ks ad defined hc _
    obtain ⟨he, rfl⟩ := n03_chain_zero hc
    rw [he]; rfl
  | succ fuel ih =>
    intro scs ks ad defined hc hd
    rcases n03_chain_succ hc with ⟨he, rfl⟩ | ⟨s, k, ks', he, hg, hk, rfl⟩
    · rw [he]; rfl
    · rw [he, List.flatMap_cons, List.flatMap_nil, List.append_nil, n03_internalLog, hg]
      dsimp only
      have hfil : (k.classes.filter fun ic => !isInternal ic.name && !ad.contains ic.name)
          = (k.classes.filter fun ic => !isInternal ic.name && !defined.contains ic.name) := by
        apply List.filter_congr
        intro x _
        have : ad.contains x.name = defined.contains x.name := by
          rw [Bool.eq_iff_iff]; simp [hd]
        rw [this]
      rw [hfil, n03_inheritedLog, n03_methLog_internal_eq ad defined hd,
        ih k.superclasses ks' _ _ hk (n03_defined_step ad defined hd k.methods)]

/-! ### small reformulations used by the theorem files -/

/-- the superclass names, for an arbitrary inlining function -/
theorem n03_superclassesG_names (env : Env) (inline : String → G String) :
    (scs : List String) → ∀ st, wp (superclassesG env inline scs) (fun r _ => r.1 = n03_superNames scs) st
  | [], st => by
    rw [superclassesG, wp_pure]; rfl
  | sc :: scs, st => by
    rw [superclassesG]
    dsimp only
    rw [wp_ite]
    refine ⟨fun hc => n03_wp_seq (wp_true _ _) ?_, fun hc => n03_wp_seq (wp_true _ _) ?_⟩
    all_goals
      intro _ s1 _
      simp only [Bool.not_eq_true', Bool.not_eq_false, ← n03_privSuper.eq_1] at hc
      refine n03_wp_seq (n03_superclassesG_names env inline scs s1) ?_
      rintro ⟨names, text⟩ s2 hn
      dsimp only at hn ⊢
      rw [wp_pure]
      simp [n03_superNames, List.filter, hc, hn]

theorem n03_functionsLog_eq_map (cur : String) (inRe : Bool) (fs : List Function) :
    n03_functionsLog cur inRe fs = (fs.filter (·.isPublic)).map fun f =>
      (if n03_movedB cur false inRe f.reexportedBy then "moved" else "fun", f.id) := by
  unfold n03_functionsLog
  induction fs.filter (·.isPublic) with
  | nil => rfl
  | cons f fs ih =>
    rw [List.flatMap_cons, List.map_cons, ih]
    unfold n03_funLog
    split <;> rfl

theorem n03_flatMap_ite_singleton {α β : Type} (p q : α → Bool) (f : α → β) (l : List α) :
    (l.filter p).flatMap (fun a => if q a then [f a] else []) = (l.filter fun a => p a && q a).map f := by
  induction l with
  | nil => rfl
  | cons a l ih => cases hp : p a <;> cases hq : q a <;> simp [hp, hq, ih]

theorem n03_functionsQueue_eq_map (cur : String) (inRe : Bool) (fs : List Function) :
    n03_functionsQueue cur inRe fs =
      (fs.filter fun f => f.isPublic && n03_movedB cur false inRe f.reexportedBy).map fun f =>
        n03_queueEntry f.name (.fn f) cur f.reexportedBy :=
  n03_flatMap_ite_singleton _ _ _ fs

theorem n03_classesQueue_eq_map (cur : String) (inRe : Bool) (cs : List Class) :
    n03_classesQueue cur inRe cs =
      (cs.filter fun c => n03_clsShown c && n03_movedB cur false inRe c.reexportedBy).map fun c =>
        n03_queueEntry c.name (.cls c) cur c.reexportedBy :=
  n03_flatMap_ite_singleton _ _ _ cs

/-! ### the whole run (`generate_stub_data`) -/

/-- the modules that are run through the generator -/
def n03_runModules (ms : List Module) : List Module := ms.filter fun m => m.name != "__init__"

def n03_modulesLog (env : Env) (ms : List Module) : List LogEntry :=
  (n03_runModules ms).flatMap fun m => ("module", m.id) :: n03_moduleLog env m.id m

def n03_modulesQueue (env : Env) (ms : List Module) : List (String × Node) :=
  (n03_runModules ms).flatMap fun m => n03_moduleQueue env m.id m

theorem n03_generateModules_log (env : Env) : (ms : List Module) → ∀ st, st.creatingReexport = false →
    wp (generateModules env ms)
      (fun _ st' => st'.log = st.log ++ n03_modulesLog env ms ∧
        st'.reexports = n03_enqueue st.reexports (n03_modulesQueue env ms) ∧ st'.creatingReexport = false) st
  | [], st, h0 => by
    rw [generateModules, wp_pure]
    exact ⟨by simp [n03_modulesLog, n03_runModules], rfl, h0⟩
  | m :: ms, st, h0 => by
    rw [generateModules, wp_ite]
    refine ⟨fun hi => ?_, fun hi => ?_⟩
    · refine wp_conseq (n03_generateModules_log env ms st h0) ?_
      rintro _ s1 ⟨h1, h2, h3⟩
      have hi' : m.name = "__init__" := by simpa using hi
      have : n03_runModules (m :: ms) = n03_runModules ms := by
        simp [n03_runModules, hi']
      exact ⟨by rw [h1, n03_modulesLog, n03_modulesLog, this], by rw [h2, n03_modulesQueue, n03_modulesQueue, this], h3⟩
    · have hi' : ¬ m.name = "__init__" := by simpa using hi
      have hrun : n03_runModules (m :: ms) = m :: n03_runModules ms := by
        simp [n03_runModules, hi']
      refine n03_wp_seq (n03_callGenerator_log env m st) ?_
      rintro ⟨text, packageInfo⟩ s1 ⟨h1, h2, h3⟩
      have hcur : n03_callCur st m = m.id := by simp [n03_callCur, h0]
      rw [hcur] at h1 h2
      rw [h0] at h3
      have hrec : wp (generateModules env ms) (fun _ st' => st'.log = st.log ++ n03_modulesLog env (m :: ms) ∧
          st'.reexports = n03_enqueue st.reexports (n03_modulesQueue env (m :: ms)) ∧
          st'.creatingReexport = false) s1 := by
        refine wp_conseq (n03_generateModules_log env ms s1 h3) ?_
        rintro _ s2 ⟨g1, g2, g3⟩
        refine ⟨?_, ?_, g3⟩
        · rw [g1, h1, n03_modulesLog, n03_modulesLog, hrun]; simp
        · rw [g2, h2, n03_modulesQueue, n03_modulesQueue, hrun, List.flatMap_cons, n03_enqueue_append]
      dsimp only
      rw [wp_ite]
      exact ⟨fun _ => hrec, fun _ => n03_wp_seq hrec fun _ _ h => wp_pure.2 h⟩

/-- the log of a whole run from the fresh generator state -/
theorem n03_generateStubData_log (env : Env) (st : St) (h0 : st.creatingReexport = false) :
    wp (generateStubData env)
      (fun _ st' => st'.log = st.log ++ n03_modulesLog env env.api.modules
        ++ n03_reexportPhaseLog env (n03_enqueue st.reexports (n03_modulesQueue env env.api.modules))) st := by
  unfold generateStubData
  refine n03_wp_seq (n03_generateModules_log env env.api.modules st h0) ?_
  rintro a s1 ⟨h1, h2, _⟩
  refine n03_wp_seq (n03_createReexportModuleStrings_log env s1) fun b s2 h3 => ?_
  rw [wp_pure, h3.log, h1, h2]

/-! ### C17: which inherited methods are logged -/

/-- the inherited methods that are logged along a chain, in order (nearest ancestor first) -/
def n03_inheritedMeths : List String → List Class → List Function
  | _, [] => []
  | defined, k :: ks =>
    (k.methods.filter fun m => n03_visName m && !defined.contains m.name)
      ++ n03_inheritedMeths (defined ++ (k.methods.filter n03_visName).map (·.name)) ks

/-- the method entries of a log that are not nested in an (inner) class block -/
def n03_topMeths (Δ : List LogEntry) : List LogEntry := (n03_top 0 Δ).filter fun e => e.1 != "class"

theorem n03_topMeths_append {a : List LogEntry} (ha : n03_Bal a) (b : List LogEntry) :
    n03_topMeths (a ++ b) = n03_topMeths a ++ n03_topMeths b := by
  unfold n03_topMeths
  rw [n03_top_bal_zero ha, List.filter_append]

theorem n03_topMeths_meths (ms : List Function) : n03_topMeths (ms.map n03_methEntry) = ms.map n03_methEntry := by
  have hl : ∀ e ∈ ms.map n03_methEntry, e.1 ≠ "class" ∧ e.1 ≠ "endclass" := fun e he => by
    obtain ⟨m, _, rfl⟩ := List.mem_map.1 he
    exact n03_methEntry_leaf m
  rw [n03_topMeths, n03_top_leaves _ hl, List.filter_eq_self]
  exact fun e he => by simpa using (hl e he).1

theorem n03_topMeths_blocks (env : Env) (fuel : Nat) (cs : List Class) :
    n03_topMeths (cs.flatMap (n03_classLog env fuel)) = [] := by
  induction cs with
  | nil => rfl
  | cons c cs ih =>
    rw [List.flatMap_cons, n03_topMeths_append ((n03_classLog_bal env fuel).1 c), ih, List.append_nil]
    cases fuel with
    | zero => rw [n03_classLog]; rfl
    | succ f =>
      unfold n03_topMeths
      rw [n03_classLog_members, n03_top_block _ _ (n03_members_bal env f c)]
      rfl

/-- outside inner-class blocks, the inherited part of a class block consists of exactly the entries of
    `n03_inheritedMeths` -/
theorem n03_topMeths_inherited (env : Env) : ∀ (fuel : Nat) (defined : List String) (ks : List Class),
    ks.length ≤ fuel →
    n03_topMeths (n03_inheritedLog env fuel defined ks) = (n03_inheritedMeths defined ks).map n03_methEntry := by
  intro fuel
  induction fuel with
  | zero =>
    intro defined ks hl
    have : ks = [] := List.length_eq_zero_iff.1 (Nat.le_zero.1 hl)
    subst this
    rfl
  | succ fuel ih =>
    intro defined ks hl
    cases ks with
    | nil => rfl
    | cons k ks =>
      rw [n03_inheritedLog, n03_inheritedMeths, List.append_assoc,
        n03_topMeths_append (n03_meths_bal _),
        n03_topMeths_append (n03_Bal.flatMap _ _ fun a _ => (n03_classLog_bal env fuel).1 a),
        n03_topMeths_meths, n03_topMeths_blocks, ih _ ks (by simpa using hl), List.map_append]
      rfl

theorem n03_chain_length (env : Env) : ∀ (fuel : Nat) (scs : List String) (ks : List Class),
    n03_chain env fuel scs = some ks → ks.length ≤ fuel := by
  intro fuel
  induction fuel with
  | zero =>
    intro scs ks hc
    obtain ⟨_, rfl⟩ := n03_chain_zero hc
    exact Nat.le_refl _
  | succ fuel ih =>
    intro scs ks hc
    rcases n03_chain_succ hc with ⟨_, rfl⟩ | ⟨s, k, ks', _, _, hk, rfl⟩
    · exact Nat.zero_le _
    · exact Nat.succ_le_succ (ih _ _ hk)

end StubGen
