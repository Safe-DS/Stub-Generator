/-
Helper lemmas for `StubGen.Theorems.C19`: `sortDedup` canonicity, the `permMatch`
(greedy multiset match) theory for a relation that is an equivalence on the elements
involved, and the `AType`-specific lemmas (round trip, `pyEq` is an equivalence, hash keys).
-/
import StubGen.Model.Types
import Mathlib.Data.List.Sort
import Mathlib.Data.String.Basic
import Mathlib.Data.List.Perm.Basic
import Mathlib.Data.List.Forall2

namespace StubGen

open List

/-! ### `sortDedup` -/

theorem mem_insertDedup (a : String) (l : List String) (x : String) :
    x ∈ insertDedup a l ↔ x = a ∨ x ∈ l := by
  induction l with
  | nil => simp [insertDedup]
  | cons b bs ih =>
    unfold insertDedup
    split
    · exact List.mem_cons
    · split
      · rename_i h; rw [List.mem_cons, h, or_self_left]
      · rw [List.mem_cons, ih, List.mem_cons, or_left_comm]

theorem mem_sortDedup (l : List String) (x : String) : x ∈ sortDedup l ↔ x ∈ l := by
  induction l with
  | nil => simp [sortDedup]
  | cons a as ih => simp [sortDedup, mem_insertDedup, ih]

theorem pairwise_insertDedup (a : String) (l : List String) (h : l.Pairwise (· < ·)) :
    (insertDedup a l).Pairwise (· < ·) := by
  induction l with
  | nil => simp [insertDedup]
  | cons b bs ih =>
    rw [List.pairwise_cons] at h
    unfold insertDedup
    split
    · rename_i hab
      refine List.pairwise_cons.2 ⟨?_, List.pairwise_cons.2 h⟩
      intro x hx
      rcases List.mem_cons.1 hx with rfl | hx
      · exact hab
      · exact lt_trans hab (h.1 x hx)
    · split
      · exact List.pairwise_cons.2 h
      · rename_i h1 h2
        refine List.pairwise_cons.2 ⟨?_, ih h.2⟩
        intro x hx
        rcases (mem_insertDedup a bs x).1 hx with rfl | hx
        · rcases lt_trichotomy x b with h3 | h3 | h3
          · exact absurd h3 h1
          · exact absurd h3 h2
          · exact h3
        · exact h.1 x hx

theorem pairwise_sortDedup (l : List String) : (sortDedup l).Pairwise (· < ·) := by
  induction l with
  | nil => simp [sortDedup]
  | cons a as ih => exact pairwise_insertDedup a _ ih

theorem sortDedup_congr {l l' : List String} (h : ∀ a, a ∈ l ↔ a ∈ l') :
    sortDedup l = sortDedup l' :=
  (pairwise_sortDedup l).eq_of_mem_iff (pairwise_sortDedup l')
    (fun a => by rw [mem_sortDedup, mem_sortDedup, h])

/-! ### `permMatch` -/

section PermMatch
variable {α : Type}

theorem removeFirst_some {p : α → Bool} {ys rest : List α} (h : removeFirst p ys = some rest) :
    ∃ y, p y = true ∧ ys ~ y :: rest := by
  induction ys generalizing rest with
  | nil => simp [removeFirst] at h
  | cons y ys ih =>
    unfold removeFirst at h
    split at h
    · rename_i hp
      cases h
      exact ⟨y, hp, Perm.refl _⟩
    · cases hr : removeFirst p ys with
      | none => simp [hr] at h
      | some r =>
        simp [hr] at h
        subst h
        obtain ⟨z, hz, hperm⟩ := ih hr
        exact ⟨z, hz, (hperm.cons y).trans (Perm.swap z y r)⟩

theorem removeFirst_isSome {p : α → Bool} {ys : List α} (h : ∃ y ∈ ys, p y = true) :
    ∃ rest, removeFirst p ys = some rest := by
  induction ys with
  | nil => simp at h
  | cons y ys ih =>
    unfold removeFirst
    by_cases hp : p y = true
    · simp [hp]
    · simp only [hp]
      obtain ⟨z, hz, hpz⟩ := h
      rcases List.mem_cons.1 hz with rfl | hz
      · exact absurd hpz hp
      · obtain ⟨r, hr⟩ := ih ⟨z, hz, hpz⟩
        exact ⟨y :: r, by simp [hr]⟩

theorem permMatch_singleton {α : Type} (p : α → Bool) (y : α) : permMatch [p] [y] = p y := by
  simp only [permMatch, removeFirst]
  cases p y <;> rfl

/-- greedy match ⇒ a matching exists -/
theorem permMatch_forall₂ {β : Type} (R : β → α → Bool) (xs : List β) (ys : List α)
    (h : permMatch (xs.map R) ys = true) :
    ∃ ys', ys' ~ ys ∧ Forall₂ (fun x y => R x y = true) xs ys' := by
  induction xs generalizing ys with
  | nil =>
    simp [permMatch] at h
    subst h
    exact ⟨[], Perm.refl _, Forall₂.nil⟩
  | cons x xs ih =>
    simp only [List.map_cons, permMatch] at h
    cases hr : removeFirst (R x) ys with
    | none => simp [hr] at h
    | some rest =>
      simp only [hr] at h
      obtain ⟨y, hy, hperm⟩ := removeFirst_some hr
      obtain ⟨ys', hp', hf⟩ := ih rest h
      exact ⟨y :: ys', (hp'.cons y).trans hperm.symm, Forall₂.cons hy hf⟩


theorem Forall₂.exists_left' {β : Type} {P : β → α → Prop} {xs : List β} {ys : List α}
    (h : Forall₂ P xs ys) : ∀ x ∈ xs, ∃ y ∈ ys, P x y := by
  induction h with
  | nil => simp
  | cons hab _ ih =>
    intro x hx
    rcases List.mem_cons.1 hx with rfl | hx
    · exact ⟨_, List.mem_cons_self, hab⟩
    · obtain ⟨y, hy, hxy⟩ := ih x hx
      exact ⟨y, List.mem_cons_of_mem _ hy, hxy⟩

theorem Forall₂.exists_right' {β : Type} {P : β → α → Prop} {xs : List β} {ys : List α}
    (h : Forall₂ P xs ys) : ∀ y ∈ ys, ∃ x ∈ xs, P x y := by
  induction h with
  | nil => simp
  | cons hab _ ih =>
    intro y hy
    rcases List.mem_cons.1 hy with rfl | hy
    · exact ⟨_, List.mem_cons_self, hab⟩
    · obtain ⟨x, hx, hxy⟩ := ih y hy
      exact ⟨x, List.mem_cons_of_mem _ hx, hxy⟩

theorem permMatch_left {β : Type} (R : β → α → Bool) (xs : List β) (ys : List α)
    (h : permMatch (xs.map R) ys = true) : ∀ x ∈ xs, ∃ y ∈ ys, R x y = true := by
  obtain ⟨ys', hp, hf⟩ := permMatch_forall₂ R xs ys h
  intro x hx
  obtain ⟨y, hy, hxy⟩ := Forall₂.exists_left' hf x hx
  exact ⟨y, hp.subset hy, hxy⟩

theorem permMatch_right {β : Type} (R : β → α → Bool) (xs : List β) (ys : List α)
    (h : permMatch (xs.map R) ys = true) : ∀ y ∈ ys, ∃ x ∈ xs, R x y = true := by
  obtain ⟨ys', hp, hf⟩ := permMatch_forall₂ R xs ys h
  intro y hy
  exact Forall₂.exists_right' hf y (hp.symm.subset hy)

/-- `R` is an equivalence relation on the elements satisfying `S`. -/
structure EquivOn (R : α → α → Bool) (S : α → Prop) : Prop where
  refl : ∀ x, S x → R x x = true
  symm : ∀ x y, S x → S y → R x y = true → R y x = true
  trans : ∀ x y z, S x → S y → S z → R x y = true → R y z = true → R x z = true

theorem EquivOn.congr_right {R : α → α → Bool} {S : α → Prop} (E : EquivOn R S)
    {x y z : α} (hx : S x) (hy : S y) (hz : S z) (hxy : R x y = true) : R z x = R z y := by
  cases h1 : R z x <;> cases h2 : R z y <;> try rfl
  · have := E.trans z y x hz hy hx h2 (E.symm x y hx hy hxy)
    simp [h1] at this
  · have := E.trans z x y hz hx hy h1 hxy
    simp [h2] at this

theorem EquivOn.mono {R : α → α → Bool} {S T : α → Prop} (E : EquivOn R S)
    (h : ∀ x, T x → S x) : EquivOn R T :=
  ⟨fun x hx => E.refl x (h x hx), fun x y hx hy => E.symm x y (h x hx) (h y hy),
   fun x y z hx hy hz => E.trans x y z (h x hx) (h y hy) (h z hz)⟩

/-- multiset equality modulo `R`, in counting form -/
def CountEq (R : α → α → Bool) (S : α → Prop) (xs ys : List α) : Prop :=
  xs.length = ys.length ∧ ∀ z, S z → countP (R z) xs = countP (R z) ys

theorem CountEq.refl (R : α → α → Bool) (S : α → Prop) (xs : List α) : CountEq R S xs xs :=
  ⟨rfl, fun _ _ => rfl⟩

theorem CountEq.symm {R : α → α → Bool} {S : α → Prop} {xs ys : List α}
    (h : CountEq R S xs ys) : CountEq R S ys xs :=
  ⟨h.1.symm, fun z hz => (h.2 z hz).symm⟩

theorem CountEq.trans {R : α → α → Bool} {S : α → Prop} {xs ys zs : List α}
    (h : CountEq R S xs ys) (h' : CountEq R S ys zs) : CountEq R S xs zs :=
  ⟨h.1.trans h'.1, fun z hz => (h.2 z hz).trans (h'.2 z hz)⟩

theorem CountEq.of_perm {R : α → α → Bool} {S : α → Prop} {xs ys : List α}
    (h : xs ~ ys) : CountEq R S xs ys :=
  ⟨h.length_eq, fun z _ => h.countP_eq (R z)⟩

theorem CountEq.of_forall₂ {R : α → α → Bool} {S : α → Prop} (E : EquivOn R S)
    {xs ys : List α} (h : Forall₂ (fun x y => R x y = true) xs ys)
    (hxs : ∀ x ∈ xs, S x) (hys : ∀ y ∈ ys, S y) : CountEq R S xs ys := by
  induction h with
  | nil => exact CountEq.refl _ _ _
  | @cons a b l₁ l₂ hab _ ih =>
    have ih' := ih (fun x hx => hxs x (List.mem_cons_of_mem _ hx))
      (fun y hy => hys y (List.mem_cons_of_mem _ hy))
    refine ⟨by simp [ih'.1], fun z hz => ?_⟩
    rw [List.countP_cons, List.countP_cons, ih'.2 z hz,
      E.congr_right (hxs a List.mem_cons_self) (hys b List.mem_cons_self) hz hab]

theorem CountEq.of_permMatch {R : α → α → Bool} {S : α → Prop} (E : EquivOn R S)
    {xs ys : List α} (hxs : ∀ x ∈ xs, S x) (hys : ∀ y ∈ ys, S y)
    (h : permMatch (xs.map R) ys = true) : CountEq R S xs ys := by
  obtain ⟨ys', hp, hf⟩ := permMatch_forall₂ R xs ys h
  exact (CountEq.of_forall₂ E hf hxs (fun y hy => hys y (hp.subset hy))).trans (CountEq.of_perm hp)

theorem CountEq.permMatch {R : α → α → Bool} {S : α → Prop} (E : EquivOn R S)
    {xs ys : List α} (hxs : ∀ x ∈ xs, S x) (hys : ∀ y ∈ ys, S y)
    (h : CountEq R S xs ys) : permMatch (xs.map R) ys = true := by
  induction xs generalizing ys with
  | nil =>
    have : ys = [] := List.length_eq_zero_iff.1 h.1.symm
    subst this
    simp [StubGen.permMatch]
  | cons x xs ih =>
    have hSx := hxs x List.mem_cons_self
    have hpos : 0 < countP (R x) ys := by
      rw [← h.2 x hSx, List.countP_cons, E.refl x hSx]
      simp
    obtain ⟨y0, hy0, hRy0⟩ := List.countP_pos_iff.1 hpos
    obtain ⟨rest, hr⟩ := removeFirst_isSome (p := R x) ⟨y0, hy0, hRy0⟩
    obtain ⟨y, hy, hperm⟩ := removeFirst_some hr
    have hSy : S y := hys y (hperm.symm.subset List.mem_cons_self)
    have hrest : ∀ y' ∈ rest, S y' := fun y' hy' =>
      hys y' (hperm.symm.subset (List.mem_cons_of_mem _ hy'))
    simp only [List.map_cons, StubGen.permMatch, hr]
    apply ih (fun x' hx' => hxs x' (List.mem_cons_of_mem _ hx')) hrest
    constructor
    · have := h.1
      rw [hperm.length_eq] at this
      simpa using this
    · intro z hz
      have := h.2 z hz
      rw [hperm.countP_eq, List.countP_cons, List.countP_cons,
        E.congr_right hSx hSy hz hy] at this
      omega

theorem permMatch_iff_countEq {R : α → α → Bool} {S : α → Prop} (E : EquivOn R S)
    {xs ys : List α} (hxs : ∀ x ∈ xs, S x) (hys : ∀ y ∈ ys, S y) :
    permMatch (xs.map R) ys = true ↔ CountEq R S xs ys :=
  ⟨CountEq.of_permMatch E hxs hys, CountEq.permMatch E hxs hys⟩

end PermMatch
/-! ### consequences for equivalences -/

section
variable {α : Type} {R : α → α → Bool} {S : α → Prop}

theorem permMatch_refl_of (E : EquivOn R S) {xs : List α} (hxs : ∀ x ∈ xs, S x) :
    permMatch (xs.map R) xs = true :=
  CountEq.permMatch E hxs hxs (CountEq.refl _ _ _)

theorem permMatch_symm_of (E : EquivOn R S) {xs ys : List α} (hxs : ∀ x ∈ xs, S x)
    (hys : ∀ y ∈ ys, S y) (h : permMatch (xs.map R) ys = true) :
    permMatch (ys.map R) xs = true :=
  CountEq.permMatch E hys hxs (CountEq.of_permMatch E hxs hys h).symm

theorem permMatch_trans_of (E : EquivOn R S) {xs ys zs : List α} (hxs : ∀ x ∈ xs, S x)
    (hys : ∀ y ∈ ys, S y) (hzs : ∀ z ∈ zs, S z) (h : permMatch (xs.map R) ys = true)
    (h' : permMatch (ys.map R) zs = true) : permMatch (xs.map R) zs = true :=
  CountEq.permMatch E hxs hzs
    ((CountEq.of_permMatch E hxs hys h).trans (CountEq.of_permMatch E hys hzs h'))

theorem permMatch_of_perm (E : EquivOn R S) {xs ys : List α} (hxs : ∀ x ∈ xs, S x)
    (h : xs ~ ys) : permMatch (xs.map R) ys = true :=
  CountEq.permMatch E hxs (fun y hy => hxs y (h.symm.subset hy)) (CountEq.of_perm h)
end

/-! ### `AType` lemmas -/

theorem eqFns_eq_map (ts : List AType) : AType.eqFns ts = ts.map AType.pyEq := by
  induction ts with
  | nil => simp [AType.eqFns]
  | cons t ts ih => simp [AType.eqFns, ih]

theorem hashKeyL_eq_map (ts : List AType) : AType.hashKeyL ts = ts.map AType.hashKey := by
  induction ts with
  | nil => simp [AType.hashKeyL]
  | cons t ts ih => simp [AType.hashKeyL, ih]

theorem strSetEq_eq_decide (a b : List String) : strSetEq a b = decide (sortDedup a = sortDedup b) := by
  have h : strSetEq a b = true ↔ ∀ x, x ∈ a ↔ x ∈ b := by
    simp only [strSetEq, Bool.and_eq_true, List.all_eq_true, List.contains_iff_mem]
    exact ⟨fun ⟨h1, h2⟩ x => ⟨h1 x, h2 x⟩, fun h => ⟨fun x => (h x).1, fun x => (h x).2⟩⟩
  rw [Bool.eq_iff_iff, h, decide_eq_true_eq]
  refine ⟨sortDedup_congr, fun h x => ?_⟩
  rw [← mem_sortDedup a, h, mem_sortDedup]

theorem litEquiv : EquivOn Lit.pyEq (fun _ => True) := by
  refine ⟨?_, ?_, ?_⟩
  · intro x _; simp [Lit.pyEq]
  · intro x y _ _ h; simp [Lit.pyEq] at h ⊢; exact h.symm
  · intro x y z _ _ _ h h'; simp [Lit.pyEq] at h h' ⊢; exact h.trans h'

/-! ### round trip -/

theorem collectStrs_map (vs : List String) :
    FromDict.collectStrs (parseList (vs.map PyVal.str)) = .ok vs := by
  induction vs with
  | nil => simp [parseList, FromDict.collectStrs]
  | cons v vs ih => simp [parseList, parse, FromDict.collectStrs, FromDict.asStrLit, ih]

theorem collectLits_map (ls : List Lit) :
    FromDict.collectLits (parseList (ls.map Lit.toPy)) = .ok ls := by
  induction ls with
  | nil => simp [parseList, FromDict.collectLits]
  | cons l ls ih =>
    cases l <;> simp [parseList, parse, FromDict.collectLits, FromDict.asLit, Lit.toPy, ih]

section
-- the deserialiser unfolded on a serialised term
attribute [local simp] AType.toDict AType.toDictL parse parseList parseItems FromDict.build assocGet? FromDict.getStr
  FromDict.getTypes FromDict.getType FromDict.asType FromDict.getBnd FromDict.getBool FromDict.collect Bnd.toPy

mutual
theorem parse_toDict : (t : AType) → parse t.toDict = .ty (.ok t)
  | .unknown | .named _ _ | .typeVar _ => by simp
  | .namedSeq _ _ ts | .union ts | .list ts | .set ts | .tuple ts => by simp [collect_toDictL ts]
  | .enum vs => by simp [collectStrs_map]
  | .boundary b mn mx mi xi => by cases mn <;> cases mx <;> simp
  | .dict k v => by simp [parse_toDict k, parse_toDict v]
  | .callable ps r => by simp [collect_toDictL ps, parse_toDict r]
  | .literal ls => by simp [collectLits_map]
  | .final t | .typeVarB _ t => by simp [parse_toDict t]
theorem collect_toDictL : (ts : List AType) →
    FromDict.collect (parseList (AType.toDictL ts)) = .ok ts
  | [] => by simp
  | t :: ts => by simp [parse_toDict t, collect_toDictL ts]
end

end

/-! ### `pyEq` is an equivalence relation -/

/-! `==` compares two terms of the same constructor in four parts: what it compares by plain equality (`key`), two
groups of sub-terms compared as multisets (`sub₁`, `sub₂`: a sub-term compared in place is a group of its own) and
the values of a literal (`lits`).  Each fact about `==` below is the same fact about the four parts. -/

namespace AType

/-- What `==` compares by plain equality once sub-terms and literals are set aside: the constructor, the names
    (an enum's values as the sorted set), and a boundary's numbers, with `maxInc` forgotten below an infinite
    maximum. -/
def key : AType → Nat × List String × Option (Bnd × Bnd × Bool × Bool)
  | .unknown => (0, [], none)
  | .named n q => (1, [n, q], none)
  | .namedSeq n q _ => (2, [n, q], none)
  | .enum vs => (3, sortDedup vs, none)
  | .boundary b mn mx mi xi => (4, [b], some (mn, mx, mi, mx != .str "Infinity" && xi))
  | .union _ => (5, [], none)
  | .list _ => (6, [], none)
  | .dict _ _ => (7, [], none)
  | .callable _ _ => (8, [], none)
  | .set _ => (9, [], none)
  | .literal _ => (10, [], none)
  | .final _ => (11, [], none)
  | .tuple _ => (12, [], none)
  | .typeVar n => (13, [n], none)
  | .typeVarB n _ => (14, [n], none)

/-- the sub-terms compared as multisets: two groups, a literal's values as a third -/
def sub₁ : AType → List AType
  | .namedSeq _ _ ts | .union ts | .list ts | .set ts | .tuple ts | .callable ts _ => ts
  | .dict k _ => [k]
  | .final t => [t]
  | .typeVarB _ u => [u]
  | _ => []

def sub₂ : AType → List AType
  | .dict _ v => [v]
  | .callable _ r => [r]
  | _ => []

def lits : AType → List Lit
  | .literal ls => ls
  | _ => []

theorem pyEq_eq (a b : AType) :
    a.pyEq b = (decide (a.key = b.key) && permMatch (a.sub₁.map pyEq) b.sub₁ && permMatch (a.sub₂.map pyEq) b.sub₂
      && permMatch (a.lits.map Lit.pyEq) b.lits) := by
  cases a <;> cases b <;> (try rfl)
  case boundary.boundary b mn mx mi xi b' mn' mx' mi' xi' =>
    by_cases h : b = b' ∧ mn = mn' ∧ mi = mi' ∧ mx = mx'
    · obtain ⟨rfl, rfl, rfl, rfl⟩ := h
      by_cases hm : mx = .str "Infinity" <;> cases xi <;> cases xi' <;> simp [pyEq, key, sub₁, sub₂, lits, permMatch, hm]
    · have h' : ¬ (b == b' && mn == mn' && mi == mi' && mx == mx') = true := by
        simpa only [Bool.and_eq_true, beq_iff_eq, and_assoc] using h
      have hk : ¬ (boundary b mn mx mi xi).key = (boundary b' mn' mx' mi' xi').key := by
        simp only [key, Prod.mk.injEq, Option.some.injEq, List.cons.injEq, and_true, true_and]
        exact fun hh => h ⟨hh.1, hh.2.1, hh.2.2.2.1, hh.2.2.1⟩
      simp only [pyEq, if_neg h', decide_eq_false hk, Bool.false_and]
  all_goals simp only [pyEq, key, sub₁, sub₂, lits, eqFns_eq_map, List.map_nil, List.map_cons, permMatch_singleton,
    permMatch, List.isEmpty_nil, Bool.and_true, Bool.true_and, Prod.mk.injEq, true_and, and_true, List.cons.injEq,
    decide_true, strSetEq_eq_decide, Bool.decide_and, _root_.beq_eq_decide, Bool.and_assoc]
  rw [← Bool.and_assoc (decide _), Bool.and_comm]

theorem sizeOf_sub {a x : AType} (h : x ∈ a.sub₁ ∨ x ∈ a.sub₂) : sizeOf x < sizeOf a := by
  have mem : ∀ {ts : List AType}, x ∈ ts → sizeOf x < 1 + sizeOf ts := fun h => by
    have := List.sizeOf_lt_of_mem h; omega
  cases a <;> simp only [sub₁, sub₂, List.mem_singleton, List.not_mem_nil, or_false] at h
  case namedSeq | union | list | set | tuple =>
    have := mem h
    simp only [namedSeq.sizeOf_spec, union.sizeOf_spec, list.sizeOf_spec, set.sizeOf_spec, tuple.sizeOf_spec]
    omega
  case dict => rcases h with rfl | rfl <;> simp only [dict.sizeOf_spec] <;> omega
  case callable =>
    rcases h with h | rfl
    · have := mem h; simp only [callable.sizeOf_spec]; omega
    · simp only [callable.sizeOf_spec]; omega
  case final => subst h; simp only [final.sizeOf_spec]; omega
  case typeVarB => subst h; simp only [typeVarB.sizeOf_spec]; omega

end AType

theorem pyEq_iff (a b : AType) :
    a.pyEq b = true ↔ a.key = b.key ∧ permMatch (a.sub₁.map AType.pyEq) b.sub₁ = true ∧
      permMatch (a.sub₂.map AType.pyEq) b.sub₂ = true ∧ permMatch (a.lits.map Lit.pyEq) b.lits = true := by
  rw [AType.pyEq_eq]
  simp only [Bool.and_eq_true, decide_eq_true_eq, and_assoc]

theorem sub_lt {n : Nat} {a : AType} (ha : sizeOf a < n + 1) :
    (∀ x ∈ a.sub₁, sizeOf x < n) ∧ ∀ x ∈ a.sub₂, sizeOf x < n :=
  ⟨fun _ hx => by have := AType.sizeOf_sub (.inl hx); omega, fun _ hx => by have := AType.sizeOf_sub (.inr hx); omega⟩

theorem pyEq_refl_step (n : Nat) (E : EquivOn AType.pyEq (fun a => sizeOf a < n))
    (a : AType) (ha : sizeOf a < n + 1) : a.pyEq a = true := by
  rw [pyEq_iff]
  exact ⟨rfl, permMatch_refl_of E (sub_lt ha).1, permMatch_refl_of E (sub_lt ha).2,
    permMatch_refl_of litEquiv (fun _ _ => trivial)⟩

theorem pyEq_symm_step (n : Nat) (E : EquivOn AType.pyEq (fun a => sizeOf a < n))
    (a b : AType) (ha : sizeOf a < n + 1) (hb : sizeOf b < n + 1) (h : a.pyEq b = true) :
    b.pyEq a = true := by
  rw [pyEq_iff] at h ⊢
  exact ⟨h.1.symm, permMatch_symm_of E (sub_lt ha).1 (sub_lt hb).1 h.2.1,
    permMatch_symm_of E (sub_lt ha).2 (sub_lt hb).2 h.2.2.1,
    permMatch_symm_of litEquiv (fun _ _ => trivial) (fun _ _ => trivial) h.2.2.2⟩

theorem pyEq_trans_step (n : Nat) (E : EquivOn AType.pyEq (fun a => sizeOf a < n))
    (a b c : AType) (ha : sizeOf a < n + 1) (hb : sizeOf b < n + 1) (hc : sizeOf c < n + 1)
    (h : a.pyEq b = true) (h' : b.pyEq c = true) : a.pyEq c = true := by
  rw [pyEq_iff] at h h' ⊢
  exact ⟨h.1.trans h'.1, permMatch_trans_of E (sub_lt ha).1 (sub_lt hb).1 (sub_lt hc).1 h.2.1 h'.2.1,
    permMatch_trans_of E (sub_lt ha).2 (sub_lt hb).2 (sub_lt hc).2 h.2.2.1 h'.2.2.1,
    permMatch_trans_of litEquiv (fun _ _ => trivial) (fun _ _ => trivial) (fun _ _ => trivial) h.2.2.2 h'.2.2.2⟩

theorem pyEq_equivOn_lt (n : Nat) : EquivOn AType.pyEq (fun a => sizeOf a < n) := by
  induction n with
  | zero => exact ⟨fun _ h => absurd h (Nat.not_lt_zero _), fun _ _ h => absurd h (Nat.not_lt_zero _),
      fun _ _ _ h => absurd h (Nat.not_lt_zero _)⟩
  | succ n ih =>
    exact ⟨pyEq_refl_step n ih, pyEq_symm_step n ih, pyEq_trans_step n ih⟩

/-- `AType.pyEq` is an equivalence relation. -/
theorem pyEq_equiv : EquivOn AType.pyEq (fun _ => True) := by
  refine ⟨fun a _ => ?_, fun a b _ _ => ?_, fun a b c _ _ _ => ?_⟩
  · exact (pyEq_equivOn_lt (sizeOf a + 1)).refl a (Nat.lt_succ_self _)
  · exact (pyEq_equivOn_lt (sizeOf a + sizeOf b + 1)).symm a b (by omega) (by omega)
  · exact (pyEq_equivOn_lt (sizeOf a + sizeOf b + sizeOf c + 1)).trans a b c
      (by omega) (by omega) (by omega)

theorem pyEq_comm (a b : AType) : a.pyEq b = b.pyEq a :=
  Bool.eq_iff_iff.2 ⟨pyEq_equiv.symm a b trivial trivial, pyEq_equiv.symm b a trivial trivial⟩

/-! ### `==` implies equal hash keys -/

theorem permMatch_map_mem_iff {α β : Type} (R : α → α → Bool) (f : α → β) {xs ys : List α}
    (h : permMatch (xs.map R) ys = true)
    (hf : ∀ x ∈ xs, ∀ y, R x y = true → f x = f y) : ∀ k, k ∈ xs.map f ↔ k ∈ ys.map f := by
  intro k
  simp only [List.mem_map]
  constructor
  · rintro ⟨x, hx, rfl⟩
    obtain ⟨y, hy, hxy⟩ := permMatch_left R xs ys h x hx
    exact ⟨y, hy, (hf x hx y hxy).symm⟩
  · rintro ⟨y, hy, rfl⟩
    obtain ⟨x, hx, hxy⟩ := permMatch_right R xs ys h y hy
    exact ⟨x, hx, hf x hx y hxy⟩

theorem fsetKey_congr {l l' : List String} (h : ∀ a, a ∈ l ↔ a ∈ l') : fsetKey l = fsetKey l' := by
  simp only [fsetKey, sortDedup_congr h]

theorem Lit.hashKey_norm (a : Lit) : a.norm.hashKey = a.hashKey := by
  cases a with
  | bool b => cases b <;> decide
  | _ => rfl

theorem Lit.hashKey_of_pyEq (a b : Lit) (h : a.pyEq b = true) : a.hashKey = b.hashKey := by
  simp only [Lit.pyEq, beq_iff_eq] at h
  rw [← Lit.hashKey_norm a, ← Lit.hashKey_norm b, h]

theorem mem_singleton_iff_eq {a b : String} (h : ∀ s, s ∈ [a] ↔ s ∈ [b]) : a = b :=
  List.mem_singleton.mp ((h a).mp (List.mem_singleton.mpr rfl))

/-- the hash key is made of the key, and of the hash keys of the sub-terms and literals as sets -/
theorem hashKey_congr {a b : AType} (hk : a.key = b.key)
    (h1 : ∀ s, s ∈ a.sub₁.map AType.hashKey ↔ s ∈ b.sub₁.map AType.hashKey)
    (h2 : ∀ s, s ∈ a.sub₂.map AType.hashKey ↔ s ∈ b.sub₂.map AType.hashKey)
    (h3 : ∀ s, s ∈ a.lits.map Lit.hashKey ↔ s ∈ b.lits.map Lit.hashKey) : a.hashKey = b.hashKey := by
  cases a <;> cases b <;> (try (cases hk; done))
  all_goals simp only [AType.key, AType.sub₁, AType.sub₂, AType.lits, Prod.mk.injEq, List.cons.injEq, and_true, true_and, Option.some.injEq,
    List.map_cons, List.map_nil] at hk h1 h2 h3
  case unknown.unknown => rfl
  case named.named => obtain ⟨rfl, rfl⟩ := hk; rfl
  case typeVar.typeVar => subst hk; rfl
  case namedSeq.namedSeq =>
    obtain ⟨rfl, rfl⟩ := hk
    simp only [AType.hashKey, hashKeyL_eq_map]
    exact fsetKey_congr fun s => by simp only [List.mem_cons, h1 s]
  case enum.enum vs vs' =>
    simp only [AType.hashKey]
    rw [fsetKey_congr (l' := vs'.map fun v => "s" ++ quoteStr v) fun s => by
      simp only [List.mem_map, ← mem_sortDedup vs, hk, mem_sortDedup]]
  case boundary.boundary b mn mx mi xi b' mn' mx' mi' xi' =>
    obtain ⟨rfl, rfl, rfl, rfl, hx⟩ := hk
    simp only [AType.hashKey]
    by_cases hm : mx = .str "Infinity"
    · simp only [hm, beq_self_eq_true, if_true]
    · have : (mx != .str "Infinity") = true := by simpa using hm
      rw [this, Bool.true_and, Bool.true_and] at hx
      rw [hx]
  case union.union | list.list | set.set | tuple.tuple =>
    simp only [AType.hashKey, hashKeyL_eq_map]
    exact fsetKey_congr h1
  case dict.dict => simp only [AType.hashKey, mem_singleton_iff_eq h1, mem_singleton_iff_eq h2]
  case callable.callable =>
    simp only [AType.hashKey, hashKeyL_eq_map, mem_singleton_iff_eq h2]
    exact fsetKey_congr fun s => by simp only [List.mem_cons, h1 s]
  case literal.literal => simp only [AType.hashKey]; exact fsetKey_congr h3
  case final.final => simp only [AType.hashKey, mem_singleton_iff_eq h1]
  case typeVarB.typeVarB => subst hk; simp only [AType.hashKey, mem_singleton_iff_eq h1]

theorem hashKey_of_pyEq_lt (n : Nat) :
    ∀ a b : AType, sizeOf a < n → a.pyEq b = true → a.hashKey = b.hashKey := by
  induction n with
  | zero => intro a b h; exact absurd h (Nat.not_lt_zero _)
  | succ n ih =>
    intro a b ha h
    rw [pyEq_iff] at h
    exact hashKey_congr h.1
      (permMatch_map_mem_iff _ AType.hashKey h.2.1 fun x hx y => ih x y ((sub_lt ha).1 x hx))
      (permMatch_map_mem_iff _ AType.hashKey h.2.2.1 fun x hx y => ih x y ((sub_lt ha).2 x hx))
      (permMatch_map_mem_iff _ Lit.hashKey h.2.2.2 fun x _ y => Lit.hashKey_of_pyEq x y)

/-! ### permutations -/

theorem eqFns_permMatch_of_perm {ts ts' : List AType} (h : ts ~ ts') :
    permMatch (AType.eqFns ts) ts' = true := by
  rw [eqFns_eq_map]
  exact permMatch_of_perm pyEq_equiv (fun _ _ => trivial) h

theorem lits_permMatch_of_perm {ls ls' : List Lit} (h : ls ~ ls') :
    permMatch (ls.map Lit.pyEq) ls' = true :=
  permMatch_of_perm litEquiv (fun _ _ => trivial) h

end StubGen
