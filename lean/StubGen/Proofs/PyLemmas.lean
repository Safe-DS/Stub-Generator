/-
What the helper functions of `Py/` compute: sets kept as duplicate-free lists (`insertSet`), the insertion sort `sortBy`
(a permutation; sorted and canonical for a total preorder), `strLe`, `pySplit` / `joinWith` / `replaceChar` on the level
of character lists, `lastD`, `dropLast'`, `pyLstrip`.
-/
import StubGen.Py.Str
import Mathlib.Data.List.Nodup
import Mathlib.Data.List.Perm.Basic
import Mathlib.Data.String.Basic

namespace StubGen

open List

/-! ### sets as duplicate-free lists -/

/-! `set.add` on a set kept as a list in first-insertion order, for any element type -/

theorem nodup_snoc {α : Type} {a : α} {l : List α} (h : l.Nodup) (ha : a ∉ l) : (l ++ [a]).Nodup :=
  List.nodup_append.2 ⟨h, List.nodup_singleton a, fun _ hx _ hy e => ha (List.mem_singleton.1 hy ▸ e ▸ hx)⟩

theorem mem_addNew {α : Type} [BEq α] [LawfulBEq α] (l : List α) (a x : α) :
    x ∈ (if l.contains a then l else l ++ [a]) ↔ x ∈ l ∨ x = a := by
  split
  · rename_i hc
    exact ⟨Or.inl, fun h => h.elim id (· ▸ List.contains_iff_mem.1 hc)⟩
  · rw [List.mem_append, List.mem_singleton]

theorem nodup_addNew {α : Type} [BEq α] [LawfulBEq α] {l : List α} (h : l.Nodup) (a : α) :
    (if l.contains a then l else l ++ [a]).Nodup := by
  split
  · exact h
  · rename_i hc
    exact nodup_snoc h (fun ha => hc (List.contains_iff_mem.2 ha))

theorem mem_insertSet (a : String) (l : List String) (x : String) :
    x ∈ insertSet a l ↔ x ∈ l ∨ x = a :=
  mem_addNew l a x

theorem subset_insertSet (a : String) (l : List String) : l ⊆ insertSet a l := by
  unfold insertSet
  split
  · exact fun _ h => h
  · exact List.subset_append_left _ _

theorem nodup_insertSet (a : String) (l : List String) (h : l.Nodup) : (insertSet a l).Nodup :=
  nodup_addNew h a

theorem mem_foldl_insertSet (l acc : List String) (x : String) :
    x ∈ l.foldl (fun acc a => insertSet a acc) acc ↔ x ∈ acc ∨ x ∈ l := by
  induction l generalizing acc with
  | nil => simp
  | cons a as ih => simp [ih, mem_insertSet]; tauto

theorem nodup_foldl_insertSet (l acc : List String) (h : acc.Nodup) :
    (l.foldl (fun acc a => insertSet a acc) acc).Nodup := by
  induction l generalizing acc with
  | nil => simpa
  | cons a as ih => exact ih _ (nodup_insertSet a acc h)

theorem foldl_insertSet_of_mem (ps K : List String) (h : ∀ p ∈ ps, p ∈ K) :
    ps.foldl (fun acc p => insertSet p acc) K = K := by
  induction ps with
  | nil => rfl
  | cons p ps ih =>
    simp only [List.foldl_cons]
    have hp : p ∈ K := h p (by simp)
    rw [show insertSet p K = K by simp [insertSet, hp]]
    exact ih (fun q hq => h q (by simp [hq]))

/-! ### insertion sort -/

theorem mem_insertBy {α : Type} (le : α → α → Bool) (a x : α) (l : List α) :
    x ∈ insertBy le a l ↔ x = a ∨ x ∈ l := by
  induction l with
  | nil => simp [insertBy]
  | cons b bs ih =>
    unfold insertBy
    split
    · simp
    · simp only [List.mem_cons, ih]
      constructor
      · rintro (h | h | h)
        · exact Or.inr (Or.inl h)
        · exact Or.inl h
        · exact Or.inr (Or.inr h)
      · rintro (h | h | h)
        · exact Or.inr (Or.inl h)
        · exact Or.inl h
        · exact Or.inr (Or.inr h)

theorem mem_sortBy {α : Type} (le : α → α → Bool) (x : α) (l : List α) : x ∈ sortBy le l ↔ x ∈ l := by
  induction l with
  | nil => simp [sortBy]
  | cons a as ih => simp [sortBy, mem_insertBy, ih]

theorem mem_sortStrings (x : String) (l : List String) : x ∈ sortStrings l ↔ x ∈ l := mem_sortBy _ x l

theorem insertBy_perm {α : Type} (le : α → α → Bool) (a : α) (l : List α) : insertBy le a l ~ a :: l := by
  induction l with
  | nil => simp [insertBy]
  | cons b bs ih =>
    unfold insertBy
    split
    · exact Perm.refl _
    · exact (ih.cons b).trans (Perm.swap a b bs)

theorem sortBy_perm {α : Type} (le : α → α → Bool) (l : List α) : sortBy le l ~ l := by
  induction l with
  | nil => simp [sortBy]
  | cons a as ih => exact (insertBy_perm le a _).trans (ih.cons a)

theorem sortStrings_perm (l : List String) : sortStrings l ~ l := sortBy_perm _ l

theorem strLe_iff (a b : String) : strLe a b = true ↔ a ≤ b := by
  unfold strLe
  rw [Bool.not_eq_true', decide_eq_false_iff_not]
  exact not_lt

section
variable {α : Type}

theorem insertBy_pairwise (le : α → α → Bool)
    (total : ∀ a b, le a b = true ∨ le b a = true)
    (trans : ∀ a b c, le a b = true → le b c = true → le a c = true)
    (a : α) (l : List α) (h : l.Pairwise (fun x y => le x y = true)) :
    (insertBy le a l).Pairwise (fun x y => le x y = true) := by
  induction l with
  | nil => simp [insertBy]
  | cons b bs ih =>
    rw [List.pairwise_cons] at h
    unfold insertBy
    split
    · rename_i hab
      refine List.pairwise_cons.2 ⟨?_, List.pairwise_cons.2 h⟩
      intro x hx
      rcases List.mem_cons.1 hx with rfl | hx
      · exact hab
      · exact trans _ _ _ hab (h.1 x hx)
    · rename_i hab
      have hba : le b a = true := (total a b).resolve_left hab
      refine List.pairwise_cons.2 ⟨?_, ih h.2⟩
      intro x hx
      rcases List.mem_cons.1 ((insertBy_perm le a bs).mem_iff.1 hx) with rfl | hx
      · exact hba
      · exact h.1 x hx

theorem sortBy_pairwise (le : α → α → Bool)
    (total : ∀ a b, le a b = true ∨ le b a = true)
    (trans : ∀ a b c, le a b = true → le b c = true → le a c = true)
    (l : List α) : (sortBy le l).Pairwise (fun x y => le x y = true) := by
  induction l with
  | nil => simp [sortBy]
  | cons a as ih => exact insertBy_pairwise le total trans a _ ih

/-- insertion sort by a total preorder that is antisymmetric on the members of the list gives the same
    result on every permutation of the list -/
theorem sortBy_perm_invariant (le : α → α → Bool)
    (total : ∀ a b, le a b = true ∨ le b a = true)
    (trans : ∀ a b c, le a b = true → le b c = true → le a c = true)
    {l l' : List α}
    (antisymm : ∀ a ∈ l, ∀ b ∈ l, le a b = true → le b a = true → a = b)
    (h : l ~ l') : sortBy le l = sortBy le l' := by
  have hp : sortBy le l ~ sortBy le l' :=
    (sortBy_perm le l).trans (h.trans (sortBy_perm le l').symm)
  refine List.Perm.eq_of_pairwise (le := fun x y => le x y = true) ?_
    (sortBy_pairwise le total trans l) (sortBy_pairwise le total trans l') hp
  intro a b ha hb hab hba
  exact antisymm a ((sortBy_perm le l).mem_iff.1 ha) b
    (h.mem_iff.2 ((sortBy_perm le l').mem_iff.1 hb)) hab hba

end

/-! ### `split`, `join`, `replace`, ends of lists -/

theorem splitOnChar_ne_nil (sep : Char) (cs : List Char) : splitOnChar sep cs ≠ [] := by
  induction cs with
  | nil => simp [splitOnChar]
  | cons c cs ih =>
    unfold splitOnChar
    split
    · simp
    · split <;> simp

theorem mem_splitOnChar_not_sep (sep : Char) (cs : List Char) :
    ∀ p ∈ splitOnChar sep cs, sep ∉ p := by
  induction cs with
  | nil => simp [splitOnChar]
  | cons c cs ih =>
    unfold splitOnChar
    split
    · simp
    · rename_i p ps h
      rw [h] at ih
      split
      · intro q hq
        simp at hq
        rcases hq with rfl | rfl | hq
        · simp
        · exact ih _ (by simp)
        · exact ih _ (by simp [hq])
      · rename_i hne
        intro q hq
        simp at hq
        rcases hq with rfl | hq
        · have := ih p (by simp)
          simp only [List.mem_cons, not_or]
          exact ⟨fun h => hne h.symm, this⟩
        · exact ih _ (by simp [hq])

theorem flatten_splitOnChar (sep : Char) (cs : List Char) :
    (splitOnChar sep cs).flatten = cs.filter (· ≠ sep) := by
  induction cs with
  | nil => simp [splitOnChar]
  | cons c cs ih =>
    unfold splitOnChar
    split
    · rename_i h; exact absurd h (splitOnChar_ne_nil sep cs)
    · rename_i p ps h
      rw [h] at ih
      split
      · rename_i hc
        simp [hc] at ih ⊢
        exact ih
      · rename_i hc
        simp [hc] at ih ⊢
        exact ih

theorem splitOnChar_of_not_mem (sep : Char) (cs : List Char) (h : sep ∉ cs) : splitOnChar sep cs = [cs] := by
  induction cs with
  | nil => simp [splitOnChar]
  | cons c cs ih =>
    simp only [List.mem_cons, not_or] at h
    unfold splitOnChar
    rw [ih h.2]
    have : ¬ c = sep := fun e => h.1 (Eq.symm e)
    simp [this]

/-- `joinWith` on character lists -/
def joinL (sep : List Char) : List (List Char) → List Char
  | [] => []
  | [a] => a
  | a :: as => a ++ sep ++ joinL sep as

theorem getLast?_lastD {α : Type} (d : α) : ∀ (l : List α) (m : α), l.getLast? = some m → lastD d l = m
  | [], _, h => by simp at h
  | [a], m, h => by simpa [lastD] using h
  | a :: b :: l, m, h => by
    rw [List.getLast?_cons_cons] at h
    simpa [lastD] using getLast?_lastD d (b :: l) m h

theorem toList_joinWith (sep : String) : ∀ (l : List String), (joinWith sep l).toList = joinL sep.toList (l.map String.toList)
  | [] => by simp [joinWith, joinL]
  | [a] => rfl
  | a :: b :: l => by
    simp only [joinWith, joinL, List.map_cons, String.toList_append]
    rw [toList_joinWith sep (b :: l)]
    rfl

theorem splitOnChar_cons_sep (sep : Char) (cs : List Char) : splitOnChar sep (sep :: cs) = [] :: splitOnChar sep cs := by
  conv => lhs; unfold splitOnChar
  split
  · rename_i h; exact absurd h (splitOnChar_ne_nil sep cs)
  · rename_i p ps h; simp [h]

theorem splitOnChar_cons_ne (sep c : Char) (cs p : List Char) (ps : List (List Char)) (hc : c ≠ sep)
    (h : splitOnChar sep cs = p :: ps) : splitOnChar sep (c :: cs) = (c :: p) :: ps := by
  conv => lhs; unfold splitOnChar
  rw [h]
  simp [hc]

theorem splitOnChar_append_sep (sep : Char) (a : List Char) (h : sep ∉ a) (rest : List Char) :
    splitOnChar sep (a ++ sep :: rest) = a :: splitOnChar sep rest := by
  induction a with
  | nil => exact splitOnChar_cons_sep sep rest
  | cons c a ih =>
    simp only [List.mem_cons, not_or] at h
    exact splitOnChar_cons_ne sep c _ a _ (fun e => h.1 e.symm) (ih h.2)

theorem splitOnChar_joinL (sep : Char) : ∀ (parts : List (List Char)), parts ≠ [] → (∀ p ∈ parts, sep ∉ p) →
    splitOnChar sep (joinL [sep] parts) = parts
  | [], h, _ => absurd rfl h
  | [a], _, h => splitOnChar_of_not_mem sep a (h a (by simp))
  | a :: b :: l, _, h => by
    have : joinL [sep] (a :: b :: l) = a ++ sep :: joinL [sep] (b :: l) := by simp [joinL]
    rw [this, splitOnChar_append_sep sep a (h a (by simp)),
      splitOnChar_joinL sep (b :: l) (by simp) (fun p hp => h p (by simp [hp]))]

theorem pySplit_joinWith (sep : Char) (sepS : String) (hs : sepS.toList = [sep]) (parts : List String)
    (hne : parts ≠ []) (h : ∀ p ∈ parts, sep ∉ p.toList) : pySplit (joinWith sepS parts) sep = parts := by
  unfold pySplit
  rw [toList_joinWith, hs, splitOnChar_joinL sep _ (by simpa using hne)]
  · rw [List.map_map]
    conv => rhs; rw [← List.map_id parts]
    apply List.map_congr_left
    intro a _
    simp [String.ofList_toList]
  · intro p hp
    rw [List.mem_map] at hp
    obtain ⟨q, hq, rfl⟩ := hp
    exact h q hq

theorem mem_of_mem_splitOnChar (sep : Char) (cs : List Char) (p : List Char) (hp : p ∈ splitOnChar sep cs)
    (x : Char) (hx : x ∈ p) : x ∈ cs := by
  have h1 : x ∈ (splitOnChar sep cs).flatten := List.mem_flatten.2 ⟨p, hp, hx⟩
  rw [flatten_splitOnChar] at h1
  exact (List.mem_filter.1 h1).1

theorem mem_of_mem_pySplit (sep : Char) (s p : String) (hp : p ∈ pySplit s sep) (x : Char) (hx : x ∈ p.toList) :
    x ∈ s.toList := by
  unfold pySplit at hp
  rw [List.mem_map] at hp
  obtain ⟨q, hq, rfl⟩ := hp
  rw [String.toList_ofList] at hx
  exact mem_of_mem_splitOnChar sep _ q hq x hx

theorem sep_not_mem_pySplit (sep : Char) (s p : String) (hp : p ∈ pySplit s sep) : sep ∉ p.toList := by
  unfold pySplit at hp
  rw [List.mem_map] at hp
  obtain ⟨q, hq, rfl⟩ := hp
  rw [String.toList_ofList]
  exact mem_splitOnChar_not_sep sep _ q hq

theorem pySplit_ne_nil (sep : Char) (s : String) : pySplit s sep ≠ [] := by
  unfold pySplit
  simpa using splitOnChar_ne_nil sep s.toList

theorem mem_dropLast' {α : Type} (x : α) : ∀ (l : List α), x ∈ dropLast' l → x ∈ l
  | [], h => by simp [dropLast'] at h
  | [_], h => by simp [dropLast'] at h
  | a :: b :: l, h => by
    simp only [dropLast', List.mem_cons] at h
    rcases h with rfl | h
    · simp
    · exact List.mem_cons_of_mem _ (mem_dropLast' x (b :: l) h)

theorem mem_lstripSet (set : List Char) (x : Char) : ∀ (l : List Char), x ∈ lstripSet set l → x ∈ l
  | [], h => by simp [lstripSet] at h
  | c :: cs, h => by
    unfold lstripSet at h
    split at h
    · exact List.mem_cons_of_mem _ (mem_lstripSet set x cs h)
    · exact h

theorem splitOnChar_of_mem (sep : Char) : ∀ (cs : List Char), sep ∈ cs → ∃ a b rest, splitOnChar sep cs = a :: b :: rest
  | [], h => by simp at h
  | c :: cs, h => by
    by_cases hc : c = sep
    · subst hc
      rw [splitOnChar_cons_sep]
      cases hs : splitOnChar c cs with
      | nil => exact absurd hs (splitOnChar_ne_nil c cs)
      | cons p ps => exact ⟨[], p, ps, rfl⟩
    · have hin : sep ∈ cs := by
        rcases List.mem_cons.1 h with e | h'
        · exact absurd e.symm hc
        · exact h'
      obtain ⟨a, b, rest, hs⟩ := splitOnChar_of_mem sep cs hin
      exact ⟨c :: a, b, rest, splitOnChar_cons_ne sep c cs a (b :: rest) hc hs⟩

theorem joinL_cons_cons_head (sep : List Char) (c : Char) (p : List Char) (ps : List (List Char)) :
    joinL sep ((c :: p) :: ps) = c :: joinL sep (p :: ps) := by
  cases ps <;> simp [joinL]

theorem flatMap_replace_eq_joinL (a b : Char) : ∀ (cs : List Char),
    cs.flatMap (fun c => if c = a then [b] else [c]) = joinL [b] (splitOnChar a cs)
  | [] => rfl
  | c :: cs => by
    rw [List.flatMap_cons, flatMap_replace_eq_joinL a b cs]
    cases hs : splitOnChar a cs with
    | nil => exact absurd hs (splitOnChar_ne_nil a cs)
    | cons p ps =>
      by_cases hc : c = a
      · subst hc
        rw [splitOnChar_cons_sep, hs]
        simp [joinL]
      · rw [splitOnChar_cons_ne a c cs p ps hc hs, joinL_cons_cons_head]
        simp [hc]

/-- replacing a character is splitting at it and joining with the replacement -/
theorem replaceChar_eq_joinWith (s : String) (a b : Char) (bs : String) (hb : bs.toList = [b]) :
    replaceChar s a bs = joinWith bs (pySplit s a) := by
  rw [← String.toList_inj, toList_joinWith, hb]
  unfold replaceChar pySplit
  rw [String.toList_ofList, hb, flatMap_replace_eq_joinL, List.map_map]
  congr 1
  conv => lhs; rw [← List.map_id (splitOnChar a s.toList)]
  apply List.map_congr_left
  intro x _
  simp [String.toList_ofList]

theorem lastD_mem {α : Type} (d : α) : ∀ (l : List α), l ≠ [] → lastD d l ∈ l
  | [], h => absurd rfl h
  | [a], _ => by simp [lastD]
  | a :: b :: l, _ => by
    have : lastD d (a :: b :: l) = lastD d (b :: l) := rfl
    rw [this]
    exact List.mem_cons_of_mem _ (lastD_mem d (b :: l) (by simp))

theorem lastD_append_singleton {α : Type} (d x : α) : ∀ (l : List α), lastD d (l ++ [x]) = x
  | [] => rfl
  | [_] => rfl
  | a :: b :: l => by
    have h : lastD d (a :: b :: l ++ [x]) = lastD d (b :: l ++ [x]) := rfl
    rw [h]
    exact lastD_append_singleton d x (b :: l)

/-- what `lstrip` leaves does not start with a stripped character -/
theorem lstripSet_head_not_mem (set : List Char) (x : Char) (hx : x ∈ set) :
    ∀ (l : List Char), (lstripSet set l).head? ≠ some x
  | [] => by simp [lstripSet]
  | c :: cs => by
    unfold lstripSet
    split
    · exact lstripSet_head_not_mem set x hx cs
    · rename_i hc
      intro e
      simp only [List.head?_cons, Option.some.injEq] at e
      subst e
      exact hc (List.contains_iff_mem.2 hx)

theorem pyLstrip_head_not_mem (s chars : String) (x : Char) (hx : x ∈ chars.toList) :
    (pyLstrip s chars).toList.head? ≠ some x := by
  unfold pyLstrip
  rw [String.toList_ofList]
  exact lstripSet_head_not_mem _ x hx _

theorem string_append_right_cancel {a b c : String} (h : a ++ c = b ++ c) : a = b := by
  rw [← String.toList_inj] at h ⊢
  rw [String.toList_append, String.toList_append] at h
  exact List.append_cancel_right h

/-- joining the pieces of a split with the separator gives the text back (character lists) -/
theorem joinL_splitOnChar (sep : Char) (cs : List Char) : joinL [sep] (splitOnChar sep cs) = cs := by
  rw [← flatMap_replace_eq_joinL sep sep cs]
  induction cs with
  | nil => rfl
  | cons c cs ih =>
    rw [List.flatMap_cons, ih]
    by_cases hc : c = sep <;> simp [hc]

/-- `sep.join(s.split(sep)) == s` -/
theorem joinWith_pySplit (s : String) (sep : Char) (sepS : String) (hs : sepS.toList = [sep]) :
    joinWith sepS (pySplit s sep) = s := by
  rw [← String.toList_inj, toList_joinWith, hs]
  unfold pySplit
  rw [List.map_map]
  have : (String.toList ∘ String.ofList) = (id : List Char → List Char) := by
    funext x; simp [String.toList_ofList]
  rw [this, List.map_id, joinL_splitOnChar]

end StubGen
