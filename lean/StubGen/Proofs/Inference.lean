/-
Helper definitions and lemmas for `StubGen.Theorems.C07a` (result inference of the analyser:
`findReturns`, `exprToType`, `inferFromReturns`, `createInferredResults`) and `StubGen.Theorems.C06a`
(parameters of the analyser: `argumentKind`, `defaultOf`, `parseParameter`, `parseParameters`).

All names carry the prefix `u07_`.

* `u07_ReturnIn r body`      : "`return r` occurs in `body`", following the `Stmt` constructors
* `u07_typeOf`               : `exprToType` as a total function (`exprToType` never fails)
* `u07_cands`, `u07_addAll`  : the candidate types of one `return`, and "append unless already in the list"
                               (membership by STRUCTURAL equality, `typeInSetExact` / `AType.beq`:
                               the tool keys the collected types by `str(type.to_dict())`)
* `u07_beq_iff_eq`           : `AType.beq a b = true ↔ a = b`
* `u07_inferFromReturns_eq`  : `inferFromReturns` in closed form
* `u07_merge`, `u07_colAt`   : the two-dimensional result array of `createInferredResults` in closed form
-/
import StubGen.Model.Analyze
import StubGen.Proofs.Types
import StubGen.Proofs.TypeText
import StubGen.Proofs.Order
import StubGen.Proofs.Inventory

namespace StubGen

open List

/-! ### 1. `findReturns` -/

/-- `return r` (`r = none`: a bare `return`) occurs in the statement list `body`, possibly nested
    inside the forms of `Stmt` that have sub-statements -/
inductive u07_ReturnIn (r : Option Expr) : List Stmt → Prop
  | here (ss : List Stmt) : u07_ReturnIn r (.ret r :: ss)
  | ifBody {body : List Stmt} {eb : Option (List Stmt)} {ss : List Stmt} :
      u07_ReturnIn r body → u07_ReturnIn r (.if_ body eb :: ss)
  | ifElse {body b ss : List Stmt} : u07_ReturnIn r b → u07_ReturnIn r (.if_ body (some b) :: ss)
  | block {body ss : List Stmt} : u07_ReturnIn r body → u07_ReturnIn r (.block body :: ss)
  | tryBody {body hs ss : List Stmt} : u07_ReturnIn r body → u07_ReturnIn r (.try_ body hs :: ss)
  | tryHandler {body hs ss : List Stmt} : u07_ReturnIn r hs → u07_ReturnIn r (.try_ body hs :: ss)
  | matchBody {bodies ss : List Stmt} : u07_ReturnIn r bodies → u07_ReturnIn r (.match_ bodies :: ss)
  | loopBody {body ss : List Stmt} : u07_ReturnIn r body → u07_ReturnIn r (.loop body :: ss)
  | later {s : Stmt} {ss : List Stmt} : u07_ReturnIn r ss → u07_ReturnIn r (s :: ss)

theorem u07_findReturns_cons (s : Stmt) (ss : List Stmt) :
    findReturns (s :: ss) = findReturnsIn s ++ findReturns ss := by rw [findReturns]

theorem u07_findReturnsIn_ret (e : Option Expr) : findReturnsIn (.ret e) = [e] := by rw [findReturnsIn]
theorem u07_findReturnsIn_if_none (body : List Stmt) :
    findReturnsIn (.if_ body none) = findReturns body := by rw [findReturnsIn]; exact List.append_nil _
theorem u07_findReturnsIn_if_some (body b : List Stmt) :
    findReturnsIn (.if_ body (some b)) = findReturns body ++ findReturns b := by rw [findReturnsIn]
theorem u07_findReturnsIn_block (body : List Stmt) : findReturnsIn (.block body) = findReturns body := by
  rw [findReturnsIn]
theorem u07_findReturnsIn_try (body hs : List Stmt) :
    findReturnsIn (.try_ body hs) = findReturns body ++ findReturns hs := by rw [findReturnsIn]
theorem u07_findReturnsIn_match (bodies : List Stmt) : findReturnsIn (.match_ bodies) = findReturns bodies := by
  rw [findReturnsIn]
theorem u07_findReturnsIn_loop (body : List Stmt) : findReturnsIn (.loop body) = findReturns body := by
  rw [findReturnsIn]

theorem u07_mem_of_returnIn {r : Option Expr} {body : List Stmt} (h : u07_ReturnIn r body) :
    r ∈ findReturns body := by
  induction h with
  | here ss => rw [u07_findReturns_cons, u07_findReturnsIn_ret]; exact List.mem_append_left _ (List.mem_singleton.2 rfl)
  | @ifBody body eb ss _ ih =>
    rw [u07_findReturns_cons]
    refine List.mem_append_left _ ?_
    cases eb with
    | none => rw [u07_findReturnsIn_if_none]; exact ih
    | some b => rw [u07_findReturnsIn_if_some]; exact List.mem_append_left _ ih
  | ifElse _ ih =>
    rw [u07_findReturns_cons, u07_findReturnsIn_if_some]
    exact List.mem_append_left _ (List.mem_append_right _ ih)
  | block _ ih => rw [u07_findReturns_cons, u07_findReturnsIn_block]; exact List.mem_append_left _ ih
  | tryBody _ ih =>
    rw [u07_findReturns_cons, u07_findReturnsIn_try]; exact List.mem_append_left _ (List.mem_append_left _ ih)
  | tryHandler _ ih =>
    rw [u07_findReturns_cons, u07_findReturnsIn_try]; exact List.mem_append_left _ (List.mem_append_right _ ih)
  | matchBody _ ih => rw [u07_findReturns_cons, u07_findReturnsIn_match]; exact List.mem_append_left _ ih
  | loopBody _ ih => rw [u07_findReturns_cons, u07_findReturnsIn_loop]; exact List.mem_append_left _ ih
  | later _ ih => rw [u07_findReturns_cons]; exact List.mem_append_right _ ih

mutual
theorem u07_returnIn_of_mem (r : Option Expr) : (ss : List Stmt) → r ∈ findReturns ss → u07_ReturnIn r ss
  | [], h => by rw [findReturns] at h; exact absurd h List.not_mem_nil
  | s :: ss, h => by
    rw [u07_findReturns_cons, List.mem_append] at h
    rcases h with h | h
    · exact u07_returnIn_of_memIn r s ss h
    · exact .later (u07_returnIn_of_mem r ss h)
theorem u07_returnIn_of_memIn (r : Option Expr) :
    (s : Stmt) → (ss : List Stmt) → r ∈ findReturnsIn s → u07_ReturnIn r (s :: ss)
  | .ret e, ss, h => by
    rw [u07_findReturnsIn_ret, List.mem_singleton] at h
    subst h; exact .here ss
  | .if_ body none, ss, h => by
    rw [u07_findReturnsIn_if_none] at h
    exact .ifBody (u07_returnIn_of_mem r body h)
  | .if_ body (some b), ss, h => by
    rw [u07_findReturnsIn_if_some, List.mem_append] at h
    rcases h with h | h
    · exact .ifBody (u07_returnIn_of_mem r body h)
    · exact .ifElse (u07_returnIn_of_mem r b h)
  | .block body, ss, h => by
    rw [u07_findReturnsIn_block] at h
    exact .block (u07_returnIn_of_mem r body h)
  | .try_ body hs, ss, h => by
    rw [u07_findReturnsIn_try, List.mem_append] at h
    rcases h with h | h
    · exact .tryBody (u07_returnIn_of_mem r body h)
    · exact .tryHandler (u07_returnIn_of_mem r hs h)
  | .match_ bodies, ss, h => by
    rw [u07_findReturnsIn_match] at h
    exact .matchBody (u07_returnIn_of_mem r bodies h)
  | .loop body, ss, h => by
    rw [u07_findReturnsIn_loop] at h
    exact .loopBody (u07_returnIn_of_mem r body h)
  | .assign _, _, h | .docExpr _ _, _, h | .other, _, h => absurd (show _ ∈ ([] : List (Option Expr)) from h) List.not_mem_nil
end

theorem u07_returnIn_iff (r : Option Expr) (body : List Stmt) :
    u07_ReturnIn r body ↔ r ∈ findReturns body :=
  ⟨u07_mem_of_returnIn, u07_returnIn_of_mem r body⟩

/-! ### 2. `exprToType` is total -/

mutual
/-- `exprToType` without the error monad -/
def u07_typeOf : Expr → AType
  | .name n fq _ _ _ => if n == "False" || n == "True" then .named "bool" "builtins.bool" else .named n fq
  | .int _ => .named "int" "builtins.int"
  | .float _ => .named "float" "builtins.float"
  | .str _ => .named "str" "builtins.str"
  | .tuple items => .tuple (u07_typesOf items)
  | .unary _ e => u07_typeOf e
  | .call => .unknown
  | .member => .unknown
  | .cond _ _ => .unknown
  | .other _ => .unknown
def u07_typesOf : List Expr → List AType
  | [] => []
  | e :: es => u07_typeOf e :: u07_typesOf es
end

mutual
theorem u07_exprToType_eq : (e : Expr) → exprToType e = .ok (u07_typeOf e)
  | .name n fq _ _ _ => by
    rw [exprToType, u07_typeOf]
    split <;> rfl
  | .int _ => rfl
  | .float _ => rfl
  | .str _ => rfl
  | .tuple items => by
    rw [exprToType, u07_exprsToTypes_eq items, u07_typeOf]
  | .unary _ e => by
    rw [exprToType, u07_typeOf]; exact u07_exprToType_eq e
  | .call => rfl
  | .member => rfl
  | .cond _ _ => rfl
  | .other _ => rfl
theorem u07_exprsToTypes_eq : (es : List Expr) → exprsToTypes es = .ok (u07_typesOf es)
  | [] => rfl
  | e :: es => by
    rw [exprsToTypes, u07_exprToType_eq e, u07_exprsToTypes_eq es, u07_typesOf]
end

theorem u07_typesOf_eq_map (es : List Expr) : u07_typesOf es = es.map u07_typeOf := by
  induction es with
  | nil => rfl
  | cons e es ih => rw [u07_typesOf, ih]; rfl

/-! ### 3. `inferFromReturns` in closed form -/

/-- a type is kept only if it is a class (`NamedType`) or a tuple type -/
def u07_keep (t : AType) : List AType := if isNamedOrTuple t then [t] else []

/-- an expression that is looked at as a whole (a returned expression, or one branch of a returned
    conditional expression): calls and member accesses are skipped -/
def u07_leaf (e : Expr) : List AType := if isCallOrMember e then [] else u07_keep (u07_typeOf e)

/-- the candidate types of one `return` statement, in the order in which they are tried -/
def u07_cands : Option Expr → List AType
  | none => []
  | some (.cond a b) => u07_leaf a ++ u07_leaf b
  | some (.name _ _ true tn tq) => [.named tn tq]
  | some e => u07_leaf e

/-- `if t not in l: l.append(t)` with Python `==` (`typeInSet`): the rule of the result columns of
    `createInferredResults` -/
def u07_ins (l : List AType) (t : AType) : List AType := if typeInSet t l then l else l ++ [t]

/-- `if key(t) not in l: l[key(t)] = t` with the key `str(t.to_dict())`, i.e. structural equality
    (`typeInSetExact`): the rule of the collection in `inferFromReturns` -/
def u07_insX (l : List AType) (t : AType) : List AType := if typeInSetExact t l then l else l ++ [t]

def u07_addAll (l : List AType) (ts : List AType) : List AType := ts.foldl u07_insX l

/-- the types collected from all return statements, in the order of first occurrence -/
def u07_collected (body : List Stmt) : List AType :=
  u07_addAll [] ((findReturns body).flatMap u07_cands)

def u07_keyLe (a b : AType) : Bool := strLe (inferSortKey a) (inferSortKey b)

/-- textual copy of the local function `add` of `inferFromReturns` -/
def u07_add (acc : Except PyErr (List AType)) (e : Expr) : Except PyErr (List AType) :=
  match acc with
  | .error err => .error err
  | .ok l =>
    match exprToType e with
    | .error err => .error err
    | .ok t => if isNamedOrTuple t && !typeInSetExact t l then .ok (l ++ [t]) else .ok l

/-- textual copy of the local function `step` of `inferFromReturns` -/
def u07_step (acc : Except PyErr (List AType)) (r : Option Expr) : Except PyErr (List AType) :=
  match r with
  | none => acc
  | some e =>
    if isCallOrMember e then acc
    else match e with
      | .cond a b =>
        let acc := if isCallOrMember a then acc else u07_add acc a
        if isCallOrMember b then acc else u07_add acc b
      | .name _ _ true tn tq =>
        (match acc with
         | .error err => .error err
         | .ok l => let t := AType.named tn tq; if typeInSetExact t l then .ok l else .ok (l ++ [t]))
      | e => u07_add acc e

theorem u07_inferFromReturns_unfold (body : List Stmt) :
    inferFromReturns body =
      if (findReturns body).isEmpty then .ok none
      else match (findReturns body).foldl u07_step (.ok []) with
        | .error err => .error err
        | .ok types => .ok (some (.tuple (sortBy u07_keyLe types))) := rfl

theorem u07_add_ok (l : List AType) (e : Expr) :
    u07_add (.ok l) e = .ok (u07_addAll l (u07_keep (u07_typeOf e))) := by
  unfold u07_add
  simp only [u07_exprToType_eq]
  unfold u07_keep u07_addAll
  cases h1 : isNamedOrTuple (u07_typeOf e) with
  | false => simp
  | true =>
    simp only [Bool.true_and, if_true, List.foldl_cons, List.foldl_nil, u07_insX]
    cases h2 : typeInSetExact (u07_typeOf e) l <;> simp

theorem u07_addAll_nil (l : List AType) : u07_addAll l [] = l := rfl

theorem u07_addAll_append (l a b : List AType) :
    u07_addAll l (a ++ b) = u07_addAll (u07_addAll l a) b := by
  unfold u07_addAll; rw [List.foldl_append]

theorem u07_leaf_ok (l : List AType) (e : Expr) :
    (if isCallOrMember e then (Except.ok l : Except PyErr (List AType)) else u07_add (.ok l) e)
      = .ok (u07_addAll l (u07_leaf e)) := by
  unfold u07_leaf
  split
  · rfl
  · exact u07_add_ok l e

theorem u07_step_ok (l : List AType) (r : Option Expr) :
    u07_step (.ok l) r = .ok (u07_addAll l (u07_cands r)) := by
  cases r with
  | none => rfl
  | some e =>
    cases e with
    | cond a b =>
      have h0 : isCallOrMember (Expr.cond a b) = false := rfl
      unfold u07_step
      simp only [h0, Bool.false_eq_true, if_false, u07_cands]
      rw [u07_leaf_ok l a, u07_leaf_ok _ b, u07_addAll_append]
    | name n fq isSelf tn tq =>
      have h0 : isCallOrMember (Expr.name n fq isSelf tn tq) = false := rfl
      cases isSelf with
      | true =>
        unfold u07_step
        simp only [h0, Bool.false_eq_true, if_false, u07_cands]
        unfold u07_addAll u07_insX
        simp only [List.foldl_cons, List.foldl_nil]
        split <;> rfl
      | false =>
        unfold u07_step
        simp only [h0, Bool.false_eq_true, if_false, u07_cands]
        rw [u07_add_ok]; simp only [u07_leaf, h0, Bool.false_eq_true, if_false]
    | call => rfl
    | member => rfl
    | int v | float v | str v | tuple v | unary o v | other v =>
      unfold u07_step
      simp only [isCallOrMember, Bool.false_eq_true, if_false, u07_cands]
      rw [u07_add_ok]; simp only [u07_leaf, isCallOrMember, Bool.false_eq_true, if_false]

theorem u07_foldl_step (rets : List (Option Expr)) (l : List AType) :
    rets.foldl u07_step (.ok l) = .ok (u07_addAll l (rets.flatMap u07_cands)) := by
  induction rets generalizing l with
  | nil => rfl
  | cons r rs ih =>
    rw [List.foldl_cons, u07_step_ok, ih, List.flatMap_cons, u07_addAll_append]

/-- `inferFromReturns` in closed form: it never fails -/
theorem u07_inferFromReturns_eq (body : List Stmt) :
    inferFromReturns body =
      if (findReturns body).isEmpty then .ok none
      else .ok (some (.tuple (sortBy u07_keyLe (u07_collected body)))) := by
  rw [u07_inferFromReturns_unfold, u07_foldl_step]
  rfl

/-! ### 4. "append unless already in the list" and the stable sort -/

/-! structural equality `AType.beq` decides `=` -/

mutual
theorem u07_beq_refl : (a : AType) → AType.beq a a = true
  | .unknown => by rw [AType.beq]
  | .named n q => by rw [AType.beq]; simp
  | .namedSeq n q ts => by rw [AType.beq, u07_beqL_refl ts]; simp
  | .enum vs => by rw [AType.beq]; simp
  | .boundary b mn mx mi xi => by rw [AType.beq]; simp
  | .union ts => by rw [AType.beq, u07_beqL_refl ts]
  | .list ts => by rw [AType.beq, u07_beqL_refl ts]
  | .dict k v => by rw [AType.beq, u07_beq_refl k, u07_beq_refl v]; rfl
  | .callable ps r => by rw [AType.beq, u07_beqL_refl ps, u07_beq_refl r]; rfl
  | .set ts => by rw [AType.beq, u07_beqL_refl ts]
  | .literal ls => by rw [AType.beq]; simp
  | .final t => by rw [AType.beq, u07_beq_refl t]
  | .tuple ts => by rw [AType.beq, u07_beqL_refl ts]
  | .typeVar n => by rw [AType.beq]; simp
  | .typeVarB n u => by rw [AType.beq, u07_beq_refl u]; simp
theorem u07_beqL_refl : (as : List AType) → AType.beqL as as = true
  | [] => by rw [AType.beqL]
  | a :: as => by rw [AType.beqL, u07_beq_refl a, u07_beqL_refl as]; rfl
end

/-- by the functional induction principle of `AType.beq`/`AType.beqL`: componentwise on the diagonal, `false` elsewhere -/
theorem u07_beq_sound :
    (∀ a b, AType.beq a b = true → a = b) ∧ (∀ as bs, AType.beqL as bs = true → as = bs) := by
  apply AType.beq.mutual_induct (motive_1 := fun a b => AType.beq a b = true → a = b)
    (motive_2 := fun as bs => AType.beqL as bs = true → as = bs)
  case case1 => exact fun _ => rfl
  case case2 =>
    intro n q n' q' h; rw [AType.beq] at h; simp only [Bool.and_eq_true, beq_iff_eq] at h; rw [h.1, h.2]
  case case3 =>
    intro n q ts n' q' ts' ih h
    rw [AType.beq] at h; simp only [Bool.and_eq_true, beq_iff_eq] at h; rw [h.1.1, h.1.2, ih h.2]
  case case4 => intro vs vs' h; rw [AType.beq] at h; simp only [beq_iff_eq] at h; rw [h]
  case case5 =>
    intro b mn mx mi xi b' mn' mx' mi' xi' h
    rw [AType.beq] at h; simp only [Bool.and_eq_true, beq_iff_eq] at h
    obtain ⟨⟨⟨⟨h1, h2⟩, h3⟩, h4⟩, h5⟩ := h
    rw [h1, h2, h3, h4, h5]
  case case6 => intro ts ts' ih h; rw [AType.beq] at h; rw [ih h]
  case case7 => intro ts ts' ih h; rw [AType.beq] at h; rw [ih h]
  case case8 =>
    intro k v k' v' ihk ihv h; rw [AType.beq] at h; simp only [Bool.and_eq_true] at h; rw [ihk h.1, ihv h.2]
  case case9 =>
    intro ps r ps' r' ihp ihr h; rw [AType.beq] at h; simp only [Bool.and_eq_true] at h; rw [ihp h.1, ihr h.2]
  case case10 => intro ts ts' ih h; rw [AType.beq] at h; rw [ih h]
  case case11 => intro ls ls' h; rw [AType.beq] at h; simp only [beq_iff_eq] at h; rw [h]
  case case12 => intro t t' ih h; rw [AType.beq] at h; rw [ih h]
  case case13 => intro ts ts' ih h; rw [AType.beq] at h; rw [ih h]
  case case14 => intro n n' h; rw [AType.beq] at h; simp only [beq_iff_eq] at h; rw [h]
  case case15 =>
    intro n u n' u' ih h; rw [AType.beq] at h; simp only [Bool.and_eq_true, beq_iff_eq] at h; rw [h.1, ih h.2]
  case case16 => intros; rename_i h; rw [AType.beq] at h <;> first | cases h | assumption
  case case17 => exact fun _ => rfl
  case case18 =>
    intro a as b bs iha ihas h; rw [AType.beqL] at h; simp only [Bool.and_eq_true] at h; rw [iha h.1, ihas h.2]
  case case19 => intros; rename_i h; rw [AType.beqL] at h <;> first | cases h | assumption

theorem u07_eq_of_beq : (a b : AType) → AType.beq a b = true → a = b := u07_beq_sound.1

theorem u07_eqL_of_beqL : (as bs : List AType) → AType.beqL as bs = true → as = bs := u07_beq_sound.2

theorem u07_beq_iff_eq (a b : AType) : AType.beq a b = true ↔ a = b :=
  ⟨u07_eq_of_beq a b, fun h => h ▸ u07_beq_refl a⟩

theorem u07_pyEq_refl (t : AType) : t.pyEq t = true := pyEq_equiv.refl t trivial
theorem u07_pyEq_trans {a b c : AType} (h : a.pyEq b = true) (h' : b.pyEq c = true) : a.pyEq c = true :=
  pyEq_equiv.trans a b c trivial trivial trivial h h'

theorem u07_typeInSet_iff (t : AType) (l : List AType) : typeInSet t l = true ↔ ∃ x ∈ l, x.pyEq t = true := by
  unfold typeInSet; exact List.any_eq_true

theorem u07_typeInSet_false_iff (t : AType) (l : List AType) :
    typeInSet t l = false ↔ ∀ x ∈ l, x.pyEq t = false := by
  unfold typeInSet; simp [List.any_eq_false]

theorem u07_typeInSetExact_iff (t : AType) (l : List AType) : typeInSetExact t l = true ↔ t ∈ l := by
  unfold typeInSetExact
  rw [List.any_eq_true]
  constructor
  · rintro ⟨x, hx, hxt⟩
    rw [← (u07_beq_iff_eq x t).1 hxt]; exact hx
  · intro h; exact ⟨t, h, u07_beq_refl t⟩

theorem u07_typeInSetExact_false_iff (t : AType) (l : List AType) : typeInSetExact t l = false ↔ t ∉ l := by
  rw [← u07_typeInSetExact_iff, Bool.not_eq_true]

theorem u07_mem_ite_append {c : Prop} [Decidable c] {l : List AType} {t x : AType}
    (h : x ∈ (if c then l else l ++ [t])) : x ∈ l ∨ x = t := by
  split at h
  · exact .inl h
  · exact (List.mem_append.1 h).imp id List.mem_singleton.1

theorem u07_subset_ite_append {c : Prop} [Decidable c] (l : List AType) (t : AType) :
    ∀ x ∈ l, x ∈ (if c then l else l ++ [t]) := by
  intro x hx
  split
  · exact hx
  · exact List.mem_append_left _ hx

theorem u07_mem_ins {l : List AType} {t x : AType} (h : x ∈ u07_ins l t) : x ∈ l ∨ x = t := u07_mem_ite_append h

theorem u07_subset_ins (l : List AType) (t : AType) : ∀ x ∈ l, x ∈ u07_ins l t := u07_subset_ite_append l t

theorem u07_ins_covers (l : List AType) (t : AType) : typeInSet t (u07_ins l t) = true := by
  unfold u07_ins
  split
  · assumption
  · exact (u07_typeInSet_iff _ _).2 ⟨t, List.mem_append_right _ (List.mem_singleton.2 rfl), u07_pyEq_refl t⟩

theorem u07_mem_insX {l : List AType} {t x : AType} (h : x ∈ u07_insX l t) : x ∈ l ∨ x = t := u07_mem_ite_append h

theorem u07_subset_insX (l : List AType) (t : AType) : ∀ x ∈ l, x ∈ u07_insX l t := u07_subset_ite_append l t

/-- after the insertion the type itself is a member (not merely an `==` one) -/
theorem u07_insX_mem (l : List AType) (t : AType) : t ∈ u07_insX l t := by
  unfold u07_insX
  split
  · rename_i h; exact (u07_typeInSetExact_iff t l).1 h
  · exact List.mem_append_right _ (List.mem_singleton.2 rfl)

theorem u07_mem_addAll {l ts : List AType} {x : AType} (h : x ∈ u07_addAll l ts) : x ∈ l ∨ x ∈ ts := by
  induction ts generalizing l with
  | nil => exact .inl h
  | cons t ts ih =>
    rcases ih (l := u07_insX l t) h with h | h
    · rcases u07_mem_insX h with h | h
      · exact .inl h
      · exact .inr (h ▸ List.mem_cons_self)
    · exact .inr (List.mem_cons_of_mem _ h)

theorem u07_subset_addAll (l ts : List AType) : ∀ x ∈ l, x ∈ u07_addAll l ts := by
  induction ts generalizing l with
  | nil => exact fun x hx => hx
  | cons t ts ih => exact fun x hx => ih (u07_insX l t) x (u07_subset_insX l t x hx)

/-- every candidate is itself a member of the collection -/
theorem u07_addAll_covers (l ts : List AType) (t : AType) (h : t ∈ ts) : t ∈ u07_addAll l ts := by
  induction ts generalizing l with
  | nil => exact absurd h List.not_mem_nil
  | cons a ts ih =>
    rcases List.mem_cons.1 h with rfl | h
    · exact u07_subset_addAll _ ts t (u07_insX_mem l t)
    · exact ih (u07_insX l a) h

theorem u07_mem_addAll_iff (l ts : List AType) (x : AType) : x ∈ u07_addAll l ts ↔ x ∈ l ∨ x ∈ ts :=
  ⟨u07_mem_addAll, fun h => h.elim (u07_subset_addAll l ts x) (u07_addAll_covers l ts x)⟩

/-- what is appended is a sublist of the candidates (first occurrences, in order) -/
theorem u07_addAll_sublist (l ts : List AType) : ∃ m, u07_addAll l ts = l ++ m ∧ m.Sublist ts := by
  induction ts generalizing l with
  | nil => exact ⟨[], (List.append_nil l).symm, List.Sublist.refl _⟩
  | cons a ts ih =>
    obtain ⟨m, hm, hs⟩ := ih (u07_insX l a)
    unfold u07_addAll at hm ⊢
    rw [List.foldl_cons, hm]
    unfold u07_insX
    split
    · exact ⟨m, rfl, hs.cons a⟩
    · exact ⟨a :: m, by simp, hs.cons_cons a⟩

/-- no member twice (structurally); two members may well be `==` (tuples with permuted element types) -/
theorem u07_addAll_nodup (l ts : List AType) (h : l.Nodup) : (u07_addAll l ts).Nodup := by
  induction ts generalizing l with
  | nil => exact h
  | cons a ts ih =>
    refine ih (u07_insX l a) ?_
    unfold u07_insX
    split
    · exact h
    · rename_i hn
      have hn' : a ∉ l := (u07_typeInSetExact_false_iff a l).1 (by simpa using hn)
      refine List.nodup_append.2 ⟨h, List.nodup_singleton a, ?_⟩
      intro x hx y hy
      rw [List.mem_singleton.1 hy]
      rintro rfl; exact hn' hx

/-- an element is appended exactly when no earlier candidate (nor an element of the start list) is
    structurally equal to it -/
theorem u07_addAll_first (l pre post : List AType) (t : AType) :
    u07_addAll l (pre ++ t :: post) =
      u07_addAll (if typeInSetExact t (u07_addAll l pre) then u07_addAll l pre else u07_addAll l pre ++ [t]) post := by
  rw [u07_addAll_append]; rfl

/-- the same with `∈`: the candidate is appended exactly when it is neither in the start list nor among
    the earlier candidates -/
theorem u07_addAll_first_mem (l pre : List AType) (t : AType) :
    typeInSetExact t (u07_addAll l pre) = true ↔ t ∈ l ∨ t ∈ pre := by
  rw [u07_typeInSetExact_iff, u07_mem_addAll_iff]

theorem u07_keyLe_total (a b : AType) : u07_keyLe a b = true ∨ u07_keyLe b a = true :=
  p08_strLe_total _ _

theorem u07_keyLe_trans (a b c : AType) : u07_keyLe a b = true → u07_keyLe b c = true → u07_keyLe a c = true :=
  p08_strLe_trans _ _ _

theorem u07_keyLe_iff (a b : AType) : u07_keyLe a b = true ↔ inferSortKey a ≤ inferSortKey b := strLe_iff _ _

theorem u07_sortBy_sorted (l : List AType) :
    (sortBy u07_keyLe l).Pairwise (fun a b => inferSortKey a ≤ inferSortKey b) :=
  (sortBy_pairwise u07_keyLe u07_keyLe_total u07_keyLe_trans l).imp (fun h => (u07_keyLe_iff _ _).1 h)

/-- stability of the insertion sort, for any key: elements with the same key keep their order -/
theorem u07_insertBy_filter {α : Type} (key : α → String) (k : String) (a : α) (l : List α) :
    (insertBy (fun x y => strLe (key x) (key y)) a l).filter (fun x => key x == k)
      = (a :: l).filter (fun x => key x == k) := by
  induction l with
  | nil => rfl
  | cons b bs ih =>
    unfold insertBy
    split
    · rfl
    · rename_i hab
      rw [List.filter_cons, ih]
      by_cases hb : (key b == k) = true
      · -- `b` has key `k`; then `a` has not (its key is strictly larger)
        have ha : (key a == k) = false := by
          cases hak : key a == k with
          | false => rfl
          | true =>
            exfalso; apply hab
            rw [beq_iff_eq] at hb hak
            rw [strLe_iff, hb, hak]
        simp [hb, ha]
      · simp only [Bool.not_eq_true] at hb
        simp [List.filter_cons, hb]

theorem u07_sortBy_filter {α : Type} (key : α → String) (k : String) (l : List α) :
    (sortBy (fun x y => strLe (key x) (key y)) l).filter (fun x => key x == k) = l.filter (fun x => key x == k) := by
  induction l with
  | nil => rfl
  | cons a as ih =>
    rw [sortBy, u07_insertBy_filter, List.filter_cons, List.filter_cons, ih]

theorem u07_sortBy_stable (k : String) (l : List AType) :
    (sortBy u07_keyLe l).filter (fun x => inferSortKey x == k) = l.filter (fun x => inferSortKey x == k) :=
  u07_sortBy_filter inferSortKey k l

theorem u07_collected_nodup (body : List Stmt) : (u07_collected body).Nodup :=
  u07_addAll_nodup [] _ List.nodup_nil

theorem u07_sorted_nodup (l : List AType) (h : l.Nodup) : (sortBy u07_keyLe l).Nodup :=
  (sortBy_perm u07_keyLe l).nodup_iff.2 h

theorem u07_sorted_pairwise_ne (l : List AType) (h : l.Pairwise (fun a b => a.pyEq b = false)) :
    (sortBy u07_keyLe l).Pairwise (fun a b => a.pyEq b = false) :=
  ((sortBy_perm u07_keyLe l).pairwise_iff (fun {a b} hab => by rw [pyEq_comm]; exact hab)).2 h

/-! ### 5. which expressions contribute a candidate type -/

/-- a literal expression: number, string, `True`/`False`/`None`, a unary operator applied to a literal,
    a tuple of literals -/
inductive u07_LitExpr : Expr → Prop
  | int (v : Int) : u07_LitExpr (.int v)
  | float (r : String) : u07_LitExpr (.float r)
  | str (v : String) : u07_LitExpr (.str v)
  | const (n fq tn tq : String) (h : n = "True" ∨ n = "False" ∨ n = "None") : u07_LitExpr (.name n fq false tn tq)
  | unary (op : String) {e : Expr} : u07_LitExpr e → u07_LitExpr (.unary op e)
  | tuple {items : List Expr} : (∀ x ∈ items, u07_LitExpr x) → u07_LitExpr (.tuple items)

/-- `e` is looked at as a whole: a returned expression that is neither a conditional expression nor
    the name `self` (a `NameExpr` whose node `is_self`), or a branch of a returned conditional expression -/
def u07_Leaf (body : List Stmt) (e : Expr) : Prop :=
  (u07_ReturnIn (some e) body ∧ (∀ a b, e ≠ .cond a b) ∧ (∀ n fq tn tq, e ≠ .name n fq true tn tq)) ∨
  (∃ a b, u07_ReturnIn (some (.cond a b)) body ∧ (e = a ∨ e = b))

/-- `t` is a candidate type of `body` -/
def u07_Cand (body : List Stmt) (t : AType) : Prop :=
  (∃ e, u07_Leaf body e ∧ isCallOrMember e = false ∧ exprToType e = .ok t ∧ isNamedOrTuple t = true) ∨
  (∃ n fq tn tq, u07_ReturnIn (some (.name n fq true tn tq)) body ∧ t = .named tn tq)

theorem u07_exprToType_ok_iff (e : Expr) (t : AType) : exprToType e = .ok t ↔ t = u07_typeOf e := by
  rw [u07_exprToType_eq]
  constructor
  · intro h; cases h; rfl
  · intro h; rw [h]

theorem u07_mem_leaf (e : Expr) (t : AType) :
    t ∈ u07_leaf e ↔ isCallOrMember e = false ∧ exprToType e = .ok t ∧ isNamedOrTuple t = true := by
  unfold u07_leaf u07_keep
  rw [u07_exprToType_ok_iff]
  cases h1 : isCallOrMember e with
  | true => simp
  | false =>
    simp only [Bool.false_eq_true, if_false, true_and]
    constructor
    · intro h
      split at h
      · rw [List.mem_singleton.1 h]; exact ⟨rfl, by assumption⟩
      · exact absurd h List.not_mem_nil
    · rintro ⟨rfl, h⟩
      rw [if_pos h]; exact List.mem_singleton.2 rfl

theorem u07_cands_other (e : Expr) (h1 : ∀ a b, e ≠ .cond a b) (h2 : ∀ n fq tn tq, e ≠ .name n fq true tn tq) :
    u07_cands (some e) = u07_leaf e := by
  cases e with
  | cond a b => exact absurd rfl (h1 a b)
  | name n fq isSelf tn tq =>
    cases isSelf with
    | true => exact absurd rfl (h2 n fq tn tq)
    | false => rfl
  | _ => rfl

theorem u07_mem_candidates (body : List Stmt) (t : AType) :
    t ∈ (findReturns body).flatMap u07_cands ↔ u07_Cand body t := by
  rw [List.mem_flatMap]
  constructor
  · rintro ⟨r, hr, ht⟩
    rw [← u07_returnIn_iff] at hr
    cases r with
    | none => exact absurd ht List.not_mem_nil
    | some e =>
      by_cases hc : ∃ a b, e = .cond a b
      · obtain ⟨a, b, rfl⟩ := hc
        rw [u07_cands, List.mem_append] at ht
        rcases ht with ht | ht
        · exact .inl ⟨a, .inr ⟨a, b, hr, .inl rfl⟩, (u07_mem_leaf a t).1 ht⟩
        · exact .inl ⟨b, .inr ⟨a, b, hr, .inr rfl⟩, (u07_mem_leaf b t).1 ht⟩
      · by_cases hs : ∃ n fq tn tq, e = .name n fq true tn tq
        · obtain ⟨n, fq, tn, tq, rfl⟩ := hs
          rw [u07_cands, List.mem_singleton] at ht
          exact .inr ⟨n, fq, tn, tq, hr, ht⟩
        · have h1 : ∀ a b, e ≠ .cond a b := fun a b h => hc ⟨a, b, h⟩
          have h2 : ∀ n fq tn tq, e ≠ .name n fq true tn tq := fun n fq tn tq h => hs ⟨n, fq, tn, tq, h⟩
          rw [u07_cands_other e h1 h2] at ht
          exact .inl ⟨e, .inl ⟨hr, h1, h2⟩, (u07_mem_leaf e t).1 ht⟩
  · rintro (⟨e, hl, hrest⟩ | ⟨n, fq, tn, tq, hr, rfl⟩)
    · have hm := (u07_mem_leaf e t).2 hrest
      rcases hl with ⟨hr, h1, h2⟩ | ⟨a, b, hr, rfl | rfl⟩
      · exact ⟨some e, (u07_returnIn_iff _ _).1 hr, by rw [u07_cands_other e h1 h2]; exact hm⟩
      · exact ⟨_, (u07_returnIn_iff _ _).1 hr, by rw [u07_cands]; exact List.mem_append_left _ hm⟩
      · exact ⟨_, (u07_returnIn_iff _ _).1 hr, by rw [u07_cands]; exact List.mem_append_right _ hm⟩
    · exact ⟨_, (u07_returnIn_iff _ _).1 hr, by rw [u07_cands]; exact List.mem_singleton.2 rfl⟩

theorem u07_litExpr_facts {e : Expr} (h : u07_LitExpr e) :
    isCallOrMember e = false ∧ isNamedOrTuple (u07_typeOf e) = true ∧
      (∀ a b, e ≠ .cond a b) ∧ (∀ n fq tn tq, e ≠ .name n fq true tn tq) := by
  induction h with
  | int v | float v | str v => exact ⟨rfl, rfl, fun _ _ h => (by cases h), fun _ _ _ _ h => (by cases h)⟩
  | const n fq tn tq h =>
    refine ⟨rfl, ?_, fun _ _ h => (by cases h), fun _ _ _ _ h => (by cases h)⟩
    rw [u07_typeOf]; split <;> rfl
  | unary op _ ih =>
    refine ⟨rfl, ?_, fun _ _ h => (by cases h), fun _ _ _ _ h => (by cases h)⟩
    rw [u07_typeOf]; exact ih.2.1
  | tuple _ _ =>
    refine ⟨rfl, ?_, fun _ _ h => (by cases h), fun _ _ _ _ h => (by cases h)⟩
    rw [u07_typeOf]; rfl

/-- the members of the result of `inferFromReturns` -/
theorem u07_infer_ok {body : List Stmt} {ts : List AType} (h : inferFromReturns body = .ok (some (.tuple ts))) :
    findReturns body ≠ [] ∧ ts = sortBy u07_keyLe (u07_collected body) := by
  rw [u07_inferFromReturns_eq] at h
  split at h
  · cases h
  · rename_i hne
    simp only [Except.ok.injEq, Option.some.injEq, AType.tuple.injEq] at h
    exact ⟨fun h' => hne (by rw [h']; rfl), h.symm⟩

theorem u07_mem_sorted_collected (body : List Stmt) (t : AType) :
    t ∈ sortBy u07_keyLe (u07_collected body) ↔ t ∈ u07_collected body :=
  (sortBy_perm u07_keyLe _).mem_iff

theorem u07_collected_sound {body : List Stmt} {t : AType} (h : t ∈ u07_collected body) : u07_Cand body t := by
  rcases u07_mem_addAll h with h | h
  · exact absurd h List.not_mem_nil
  · exact (u07_mem_candidates body t).1 h

theorem u07_collected_complete {body : List Stmt} {t : AType} (h : u07_Cand body t) :
    t ∈ u07_collected body :=
  u07_addAll_covers [] _ t ((u07_mem_candidates body t).2 h)

/-- the members of the collection are exactly the candidates -/
theorem u07_mem_collected_iff (body : List Stmt) (t : AType) : t ∈ u07_collected body ↔ u07_Cand body t :=
  ⟨u07_collected_sound, u07_collected_complete⟩

/-! ### 6. parameters: `argumentKind`, `defaultOf`, `parseParameter` -/

/-- the declared type of a parameter (textual copy of the first block of `parseParameter`):
    `argument.variable.type` translated, when the parameter is annotated -/
def u07_declaredType (env : AEnv) (a : Arg) : V (Option AType) :=
  match a.varType with
  | none => throwV .valueError
  | some mt =>
    if isIncorrectAny mt then pure none
    else
      match a.annotation with
      | some (.unbound n args) =>
        if (n == "list" || n == "set") && args.length ≥ 2 then do
          let t ← toAbstract env (.unbound n args) none; pure (some t)
        else do let t ← toAbstract env mt none; pure (some t)
      | some _ => do let t ← toAbstract env mt none; pure (some t)
      | none => pure none

/-- default value, "the default is `None`", and the type after looking at the initializer -/
def u07_defaultTriple (fid : String) (a : Arg) (argT : Option AType) : DefaultVal × Bool × Option AType :=
  match a.init with
  | none => (.none, false, argT)
  | some e =>
    ((defaultOf fid e).1, (defaultOf fid e).2.1,
      if argT.isNone && ((defaultOf fid e).2.1 || (defaultOf fid e).1 != .none) then some (u07_typeOf e) else argT)

/-- is a default that is written as a literal -/
inductive u07_LitDefault : Expr → Prop
  | int (v : Int) : u07_LitDefault (.int v)
  | float (r : String) : u07_LitDefault (.float r)
  | str (v : String) : u07_LitDefault (.str v)
  | none (fq : String) (b : Bool) (tn tq : String) : u07_LitDefault (.name "None" fq b tn tq)
  | true (fq : String) (b : Bool) (tn tq : String) : u07_LitDefault (.name "True" fq b tn tq)
  | false (fq : String) (b : Bool) (tn tq : String) : u07_LitDefault (.name "False" fq b tn tq)
  | negInt (v : Int) : u07_LitDefault (.unary "-" (.int v))
  | negFloat (r : String) : u07_LitDefault (.unary "-" (.float r))

theorem u07_parseParameter_ok {env : AEnv} {f : FuncDef} {fid : String} {a : Arg} {s s' : VSt} {p : Parameter}
    (h : parseParameter env f fid a s = .ok (p, s')) :
    ∃ argT s1 kind, u07_declaredType env a s = .ok (argT, s1) ∧ argumentKind a = .ok kind ∧
      p.id = fid ++ "/" ++ a.name ∧ p.name = a.name ∧ p.assignedBy = kind ∧
      p.default = (u07_defaultTriple fid a argT).1 ∧
      p.isOptional = ((u07_defaultTriple fid a argT).1 != .none || (u07_defaultTriple fid a argT).2.1) ∧
      p.type = (u07_defaultTriple fid a argT).2.2 := by
  unfold parseParameter at h
  have hh := se_bind_ok h; clear h; obtain ⟨argT, s1, h1, h⟩ := hh
  have hh := se_bind_ok h; clear h; obtain ⟨x, s2, h2, h⟩ := hh
  obtain ⟨d, n, t⟩ := x
  dsimp only at h
  have hh := se_bind_ok h; clear h; obtain ⟨kind, s3, h3, h⟩ := hh
  have hh := se_bind_ok h; clear h; obtain ⟨s4, s5, _, h⟩ := hh
  have hh := se_bind_ok h; clear h; obtain ⟨doc, s6, _, h⟩ := hh
  obtain ⟨rfl, _⟩ := se_pure_ok h
  have hk : argumentKind a = .ok kind := by
    cases hk : argumentKind a with
    | error e => rw [hk] at h3; exact absurd h3 (by simp [throwV])
    | ok k => rw [hk] at h3; rw [(se_pure_ok h3).1]
  have ht : (d, n, t) = u07_defaultTriple fid a argT := by
    unfold u07_defaultTriple
    cases hi : a.init with
    | none =>
      rw [hi] at h2
      exact (se_pure_ok h2).1
    | some e =>
      rw [hi] at h2
      dsimp only at h2 ⊢
      generalize defaultOf fid e = tr at h2 ⊢
      obtain ⟨d', n', ws⟩ := tr
      dsimp only at h2 ⊢
      have hh := se_bind_ok h2; clear h2; obtain ⟨_, s7, _, h2⟩ := hh
      split at h2
      · rename_i hc
        rw [u07_exprToType_eq] at h2
        rw [if_pos hc]; exact (se_pure_ok h2).1
      · rename_i hc
        rw [if_neg hc]; exact (se_pure_ok h2).1
  refine ⟨argT, s1, kind, h1, hk, rfl, rfl, rfl, ?_, ?_, ?_⟩ <;> rw [← ht]

/-! ### 7. `createInferredResults`: the two-dimensional result array in closed form -/

/-- textual copy of the local function `stepI` -/
def u07_stepI (st : List (List AType) × Nat × Nat) (ti : AType) : List (List AType) × Nat × Nat :=
  let (arr, longest, i) := st
  if arr.length > i then
    let col := arr.getD i []
    if !typeInSet ti col then
      let col' := col ++ [ti]
      (arr.set i col', if col'.length > longest then col'.length else longest, i + 1)
    else (arr, longest, i + 1)
  else (arr ++ [[ti]], longest, i + 1)

/-- textual copy of the local function `place` -/
def u07_place (acc : Except PyErr (List (List AType) × Nat)) (t : AType) : Except PyErr (List (List AType) × Nat) :=
  match acc with
  | .error e => .error e
  | .ok (arr, longest) =>
    match t with
    | .named .. =>
      (match arr with
       | [] => .ok ([[t]], longest)
       | first :: rest => .ok ((first ++ [t]) :: rest, longest))
    | .tuple ts =>
      let (arr', longest', _) := ts.foldl u07_stepI (arr, longest, 0)
      .ok (arr', longest')
    | _ => .error .typeError

/-- the type of a result from its column: the single member, else the union -/
def u07_colType : List AType → AType
  | [x] => x
  | xs => .union xs

def u07_noneT : AType := .named "None" "builtins.None"

/-- a column shorter than `longest` gets `None`, unless it has it -/
def u07_pad (longest : Nat) (col : List AType) : List AType :=
  if col.length < longest && !typeInSet u07_noneT col then col ++ [u07_noneT] else col

/-- the docstring entry that names a result of type `rtype` (textual copy) -/
def u07_docFor (docs : List ResultDoc) (rtype : AType) : Option ResultDoc :=
  if docs.isEmpty then none
  else match rtype with
    | .union _ =>
      let possible : Option AType :=
        if docs.length > 1 then some (.union (docs.filterMap (·.type))) else (docs.headD {}).type
      (match possible with
       | some p => if p.pyEq rtype then docs.head? else none
       | none => none)
    | _ => docs.find? (fun d => typeHashEq d.type rtype)

/-- textual copy of the local function `build` -/
def u07_build (docs : List ResultDoc) (functionId : String) (acc : List Result × Nat) (col : List AType) :
    List Result × Nat :=
  let (out, k) := acc
  let rtype := match col with
    | [x] => x
    | xs => AType.union xs
  let doc : Option ResultDoc := u07_docFor docs rtype
  let (name, k') := match doc with
    | some d => if d.name != "" then (d.name, k) else (resultNameGen k, k + 1)
    | none => (resultNameGen k, k + 1)
  (out ++ [{ id := functionId ++ "/" ++ name, name := name, type := some rtype }], k')

/-- textual copy of the second half of `createInferredResults` -/
def u07_finish (arr : List (List AType)) (longest : Nat) (docs : List ResultDoc) (functionId : String) :
    Except PyErr (List Result) :=
  let arr := arr.map (u07_pad longest)
  match arr, docs with
  | [[single]], [d] =>
    let name := if d.name != "" then d.name else resultNameGen 1
    .ok [{ id := functionId ++ "/" ++ name, name := name, type := some single }]
  | _, _ => .ok (arr.foldl (u07_build docs functionId) ([], 1)).1

theorem u07_createInferredResults_unfold (types : List AType) (docs : List ResultDoc) (fid : String) :
    createInferredResults types docs fid =
      match types.foldl u07_place (.ok ([], 1)) with
      | .error e => .error e
      | .ok (arr, longest) => u07_finish arr longest docs fid := rfl

/-- the components of a tuple merged into the columns, position by position -/
def u07_merge : List (List AType) → List AType → List (List AType)
  | cols, [] => cols
  | [], t :: ts => [t] :: u07_merge [] ts
  | c :: cs, t :: ts => u07_ins c t :: u07_merge cs ts

/-- `longest` after merging a tuple: the maximum with the new lengths of the EXISTING columns that grew -/
def u07_mergeLongest : Nat → List (List AType) → List AType → Nat
  | m, _, [] => m
  | m, [], _ :: _ => m
  | m, c :: cs, t :: ts => u07_mergeLongest (if typeInSet t c then m else max m (c.length + 1)) cs ts

theorem u07_merge_nil_right (cols : List (List AType)) : u07_merge cols [] = cols := by
  cases cols <;> rfl

theorem u07_mergeLongest_nil_left (m : Nat) (ts : List AType) : u07_mergeLongest m [] ts = m := by
  cases ts <;> rfl

theorem u07_foldl_stepI (ts : List AType) : ∀ (pre rest : List (List AType)) (longest : Nat),
    ts.foldl u07_stepI (pre ++ rest, longest, pre.length)
      = (pre ++ u07_merge rest ts, u07_mergeLongest longest rest ts, pre.length + ts.length) := by
  induction ts with
  | nil =>
    intro pre rest longest
    rw [u07_merge_nil_right]
    cases rest <;> rfl
  | cons t ts ih =>
    intro pre rest longest
    rw [List.foldl_cons]
    cases rest with
    | nil =>
      have h1 : u07_stepI (pre ++ [], longest, pre.length) t = ((pre ++ [[t]]) ++ [], longest, (pre ++ [[t]]).length) := by
        simp [u07_stepI]
      rw [h1, ih, u07_mergeLongest_nil_left, u07_mergeLongest_nil_left]
      simp [u07_merge]
      omega
    | cons c cs =>
      have hlen : (pre ++ c :: cs).length > pre.length := by simp
      have hget : (pre ++ c :: cs).getD pre.length [] = c := by simp [List.getD]
      have hset : ∀ c', (pre ++ c :: cs).set pre.length c' = pre ++ c' :: cs := by
        intro c'; simp
      cases hin : typeInSet t c with
      | true =>
        have h1 : u07_stepI (pre ++ c :: cs, longest, pre.length) t
            = ((pre ++ [c]) ++ cs, longest, (pre ++ [c]).length) := by
          simp only [u07_stepI, hlen, if_true, hget, hin, Bool.not_true, Bool.false_eq_true, if_false]
          simp
        rw [h1, ih]
        simp [u07_merge, u07_mergeLongest, u07_ins, hin]
        omega
      | false =>
        have h1 : u07_stepI (pre ++ c :: cs, longest, pre.length) t
            = ((pre ++ [c ++ [t]]) ++ cs, max longest (c.length + 1), (pre ++ [c ++ [t]]).length) := by
          simp only [u07_stepI, hlen, if_true, hget, hin, Bool.not_false, hset]
          simp only [List.length_append, List.length_cons, List.length_nil, Prod.mk.injEq]
          refine ⟨by simp, ?_, by simp⟩
          split <;> omega
        rw [h1, ih]
        simp [u07_merge, u07_mergeLongest, u07_ins, hin]
        omega

/-- one step of the array, for a class or a tuple -/
def u07_placeP (st : List (List AType) × Nat) (t : AType) : List (List AType) × Nat :=
  match t with
  | .tuple ts => (u07_merge st.1 ts, u07_mergeLongest st.2 st.1 ts)
  | _ => (match st.1 with
      | [] => ([[t]], st.2)
      | first :: rest => ((first ++ [t]) :: rest, st.2))

theorem u07_place_ok (arr : List (List AType)) (longest : Nat) (t : AType) (h : isNamedOrTuple t = true) :
    u07_place (.ok (arr, longest)) t = .ok (u07_placeP (arr, longest) t) := by
  cases t with
  | named n q =>
    cases arr <;> rfl
  | tuple ts =>
    have := u07_foldl_stepI ts [] arr longest
    simp only [List.nil_append, List.length_nil] at this
    simp only [u07_place, u07_placeP, this]
  | _ => cases h

theorem u07_place_err (arr : List (List AType)) (longest : Nat) (t : AType) (h : isNamedOrTuple t = false) :
    u07_place (.ok (arr, longest)) t = .error .typeError := by
  cases t with
  | named n q => cases h
  | tuple ts => cases h
  | _ => rfl

theorem u07_foldl_place_error (types : List AType) (e : PyErr) : types.foldl u07_place (.error e) = .error e := by
  induction types with
  | nil => rfl
  | cons t ts ih => rw [List.foldl_cons]; exact ih

theorem u07_foldl_place_ok (types : List AType) (h : ∀ t ∈ types, isNamedOrTuple t = true)
    (st : List (List AType) × Nat) :
    types.foldl u07_place (.ok st) = .ok (types.foldl u07_placeP st) := by
  induction types generalizing st with
  | nil => rfl
  | cons t ts ih =>
    obtain ⟨arr, longest⟩ := st
    rw [List.foldl_cons, u07_place_ok arr longest t (h t List.mem_cons_self),
      ih (fun x hx => h x (List.mem_cons_of_mem _ hx)), List.foldl_cons]

theorem u07_foldl_place_bad (types : List AType) (h : ∃ t ∈ types, isNamedOrTuple t = false)
    (st : List (List AType) × Nat) :
    types.foldl u07_place (.ok st) = .error .typeError := by
  induction types generalizing st with
  | nil => obtain ⟨t, ht, _⟩ := h; exact absurd ht List.not_mem_nil
  | cons t ts ih =>
    obtain ⟨arr, longest⟩ := st
    rw [List.foldl_cons]
    cases ht : isNamedOrTuple t with
    | false => rw [u07_place_err arr longest t ht, u07_foldl_place_error]
    | true =>
      rw [u07_place_ok arr longest t ht]
      refine ih ?_ _
      obtain ⟨x, hx, hxf⟩ := h
      rcases List.mem_cons.1 hx with rfl | hx
      · rw [ht] at hxf; cases hxf
      · exact ⟨x, hx, hxf⟩

/-! ### 8. number of results, members per position -/

/-- a class counts as a tuple of length 1 -/
def u07_width : AType → Nat
  | .tuple ts => ts.length
  | _ => 1

def u07_maxWidth (types : List AType) : Nat := types.foldl (fun m t => max m (u07_width t)) 0

/-- one step of column `i`: a class goes to column 0 (always appended), the `i`-th component of a tuple
    is appended unless the column has it already -/
def u07_colStep (i : Nat) (col : List AType) (t : AType) : List AType :=
  match t with
  | .tuple ts => (match ts[i]? with
      | none => col
      | some ti => u07_ins col ti)
  | _ => if i = 0 then col ++ [t] else col

/-- column `i` of the result array -/
def u07_colAt (i : Nat) (types : List AType) : List AType := types.foldl (u07_colStep i) []

/-- the final value of the variable `longest_inner_list` (starts at 1) -/
def u07_longest (types : List AType) : Nat := (types.foldl u07_placeP ([], 1)).2

theorem u07_merge_length (cols : List (List AType)) (ts : List AType) :
    (u07_merge cols ts).length = max cols.length ts.length := by
  induction cols generalizing ts with
  | nil =>
    induction ts with
    | nil => rfl
    | cons t ts ih => simp only [u07_merge, List.length_cons, ih]; simp
  | cons c cs ih =>
    cases ts with
    | nil => simp [u07_merge]
    | cons t ts => simp only [u07_merge, List.length_cons, ih]; omega

theorem u07_ins_nil (t : AType) : u07_ins [] t = [t] := rfl

theorem u07_merge_getD (cols : List (List AType)) (ts : List AType) (i : Nat) :
    (u07_merge cols ts).getD i [] =
      match ts[i]? with
      | none => cols.getD i []
      | some t => u07_ins (cols.getD i []) t := by
  induction cols generalizing ts i with
  | nil =>
    induction ts generalizing i with
    | nil => rfl
    | cons t ts ih =>
      cases i with
      | zero => rfl
      | succ i =>
        simp only [u07_merge, List.getD_cons_succ, List.getElem?_cons_succ]
        rw [ih i]; simp
  | cons c cs ih =>
    cases ts with
    | nil => rfl
    | cons t ts =>
      cases i with
      | zero => rfl
      | succ i =>
        simp only [u07_merge, List.getD_cons_succ, List.getElem?_cons_succ]
        exact ih ts i

theorem u07_placeP_length (st : List (List AType) × Nat) (t : AType) :
    (u07_placeP st t).1.length = max st.1.length (u07_width t) := by
  obtain ⟨arr, l⟩ := st
  unfold u07_placeP u07_width
  split
  · exact u07_merge_length arr _
  · cases arr <;> simp

theorem u07_placeP_getD (st : List (List AType) × Nat) (t : AType) (i : Nat) :
    (u07_placeP st t).1.getD i [] = u07_colStep i (st.1.getD i []) t := by
  obtain ⟨arr, l⟩ := st
  unfold u07_placeP u07_colStep
  split
  · exact u07_merge_getD arr _ i
  · cases arr <;> cases i <;> simp

theorem u07_foldl_placeP_length (types : List AType) (st : List (List AType) × Nat) :
    (types.foldl u07_placeP st).1.length = types.foldl (fun m t => max m (u07_width t)) st.1.length := by
  induction types generalizing st with
  | nil => rfl
  | cons t ts ih => rw [List.foldl_cons, ih, u07_placeP_length, List.foldl_cons]

theorem u07_foldl_placeP_getD (types : List AType) (st : List (List AType) × Nat) (i : Nat) :
    (types.foldl u07_placeP st).1.getD i [] = types.foldl (u07_colStep i) (st.1.getD i []) := by
  induction types generalizing st with
  | nil => rfl
  | cons t ts ih => rw [List.foldl_cons, ih, u07_placeP_getD, List.foldl_cons]

/-- the result array: as many columns as the widest type, column `i` is `u07_colAt i` -/
theorem u07_arr_eq (types : List AType) :
    (types.foldl u07_placeP ([], 1)).1 = (List.range (u07_maxWidth types)).map (fun i => u07_colAt i types) := by
  have hl := u07_foldl_placeP_length types ([], 1)
  apply List.ext_getElem
  · rw [hl]; simp [u07_maxWidth]
  · intro i h1 h2
    have := u07_foldl_placeP_getD types ([], 1) i
    have e : (types.foldl u07_placeP ([], 1)).1.getD i [] = (types.foldl u07_placeP ([], 1)).1[i] := by
      simp [List.getD_eq_getElem?_getD, h1]
    rw [← e, this]; simp [u07_colAt]

theorem u07_docFor_mem {docs : List ResultDoc} {rtype : AType} {d : ResultDoc}
    (h : u07_docFor docs rtype = some d) : d ∈ docs := by
  unfold u07_docFor at h
  split at h
  · cases h
  · split at h
    · dsimp only at h
      split at h
      · split at h
        · exact List.mem_of_mem_head? h
        · cases h
      · cases h
    · exact List.mem_of_find?_eq_some h

theorem u07_build_colType (col : List AType) :
    (match col with
      | [x] => x
      | xs => AType.union xs) = u07_colType col := by
  unfold u07_colType; split <;> rfl

/-- what `build` appends -/
theorem u07_build_eq (docs : List ResultDoc) (fid : String) (out : List Result) (k : Nat) (col : List AType) :
    ∃ name k', u07_build docs fid (out, k) col
        = (out ++ [{ id := fid ++ "/" ++ name, name := name, type := some (u07_colType col) }], k') ∧
      ((name = resultNameGen k ∧ k' = k + 1) ∨ (k' = k ∧ name ≠ "" ∧ ∃ d ∈ docs, d.name = name)) ∧
      (docs = [] → name = resultNameGen k ∧ k' = k + 1) := by
  unfold u07_build
  simp only [u07_build_colType]
  cases hd : u07_docFor docs (u07_colType col) with
  | none =>
    exact ⟨resultNameGen k, k + 1, rfl, .inl ⟨rfl, rfl⟩, fun _ => ⟨rfl, rfl⟩⟩
  | some d =>
    have hm := u07_docFor_mem hd
    by_cases hn : (d.name != "") = true
    · refine ⟨d.name, k, by simp only [hn, if_true], .inr ⟨rfl, by simpa using hn, d, hm, rfl⟩, ?_⟩
      rintro rfl; exact absurd hm List.not_mem_nil
    · refine ⟨resultNameGen k, k + 1, by simp only [hn]; rfl, .inl ⟨rfl, rfl⟩, fun _ => ⟨rfl, rfl⟩⟩

/-- the relation between the columns and the results produced from them, with the counter of generated
    names -/
inductive u07_Built (docs : List ResultDoc) (fid : String) : Nat → List (List AType) → List Result → Prop
  | nil (k : Nat) : u07_Built docs fid k [] []
  | gen {k : Nat} {col : List AType} {cols : List (List AType)} {rs : List Result} :
      u07_Built docs fid (k + 1) cols rs →
      u07_Built docs fid k (col :: cols)
        ({ id := fid ++ "/" ++ resultNameGen k, name := resultNameGen k, type := some (u07_colType col) } :: rs)
  | doc {k : Nat} {col : List AType} {cols : List (List AType)} {rs : List Result} (d : ResultDoc) :
      d ∈ docs → d.name ≠ "" →
      u07_Built docs fid k cols rs →
      u07_Built docs fid k (col :: cols)
        ({ id := fid ++ "/" ++ d.name, name := d.name, type := some (u07_colType col) } :: rs)

theorem u07_foldl_build (docs : List ResultDoc) (fid : String) (cols : List (List AType)) (out : List Result) (k : Nat) :
    ∃ rs, (cols.foldl (u07_build docs fid) (out, k)).1 = out ++ rs ∧ u07_Built docs fid k cols rs ∧
      (docs = [] → rs.map (·.name) = (List.range cols.length).map (fun i => resultNameGen (k + i))) := by
  induction cols generalizing out k with
  | nil => exact ⟨[], (List.append_nil _).symm, .nil k, fun _ => rfl⟩
  | cons col cols ih =>
    obtain ⟨name, k', hb, hk, hdn⟩ := u07_build_eq docs fid out k col
    rw [List.foldl_cons, hb]
    obtain ⟨rs, h1, h2, h3⟩ := ih (out ++ [{ id := fid ++ "/" ++ name, name := name, type := some (u07_colType col) }]) k'
    refine ⟨{ id := fid ++ "/" ++ name, name := name, type := some (u07_colType col) } :: rs, ?_, ?_, ?_⟩
    · rw [h1]; simp
    · rcases hk with ⟨rfl, rfl⟩ | ⟨rfl, hne, d, hd, rfl⟩
      · exact .gen h2
      · exact .doc d hd hne h2
    · intro he
      obtain ⟨rfl, rfl⟩ := hdn he
      rw [List.length_cons, List.range_succ_eq_map, List.map_cons, List.map_cons, List.map_map, h3 he]
      refine congrArg₂ _ rfl ?_
      apply List.map_congr_left
      intro i _
      show resultNameGen (k + 1 + i) = resultNameGen (k + (i + 1))
      rw [Nat.add_assoc, Nat.add_comm 1 i]

theorem u07_Built.length {docs : List ResultDoc} {fid : String} {k : Nat} {cols : List (List AType)} {rs : List Result}
    (h : u07_Built docs fid k cols rs) : rs.length = cols.length := by
  induction h with
  | nil => rfl
  | gen _ ih => simp [ih]
  | doc _ _ _ _ ih => simp [ih]

theorem u07_Built.types {docs : List ResultDoc} {fid : String} {k : Nat} {cols : List (List AType)} {rs : List Result}
    (h : u07_Built docs fid k cols rs) : rs.map (·.type) = cols.map (fun c => some (u07_colType c)) := by
  induction h with
  | nil => rfl
  | gen _ ih => simp [ih]
  | doc _ _ _ _ ih => simp [ih]

theorem u07_Built.ids {docs : List ResultDoc} {fid : String} {k : Nat} {cols : List (List AType)} {rs : List Result}
    (h : u07_Built docs fid k cols rs) : ∀ r ∈ rs, r.id = fid ++ "/" ++ r.name := by
  induction h with
  | nil => intro r hr; exact absurd hr List.not_mem_nil
  | gen _ ih =>
    intro r hr
    rcases List.mem_cons.1 hr with rfl | hr
    · rfl
    · exact ih r hr
  | doc _ _ _ _ ih =>
    intro r hr
    rcases List.mem_cons.1 hr with rfl | hr
    · rfl
    · exact ih r hr

/-- a name is a non-empty documented name or a generated one with a number from `k` on, below
    `k + number of results` -/
theorem u07_Built.names {docs : List ResultDoc} {fid : String} {k : Nat} {cols : List (List AType)} {rs : List Result}
    (h : u07_Built docs fid k cols rs) :
    ∀ r ∈ rs, (∃ d ∈ docs, d.name ≠ "" ∧ r.name = d.name) ∨ (∃ j, k ≤ j ∧ j < k + rs.length ∧ r.name = resultNameGen j) := by
  induction h with
  | nil => intro r hr; exact absurd hr List.not_mem_nil
  | @gen k col cols rs _ ih =>
    intro r hr
    rcases List.mem_cons.1 hr with rfl | hr
    · exact .inr ⟨k, Nat.le_refl _, by simp, rfl⟩
    · rcases ih r hr with h | ⟨j, h1, h2, h3⟩
      · exact .inl h
      · exact .inr ⟨j, by omega, by simp only [List.length_cons]; omega, h3⟩
  | @doc k col cols rs d hd hne _ ih =>
    intro r hr
    rcases List.mem_cons.1 hr with rfl | hr
    · exact .inl ⟨d, hd, hne, rfl⟩
    · rcases ih r hr with h | ⟨j, h1, h2, h3⟩
      · exact .inl h
      · exact .inr ⟨j, h1, by simp only [List.length_cons]; omega, h3⟩

theorem u07_finish_ok (arr : List (List AType)) (longest : Nat) (docs : List ResultDoc) (fid : String) :
    ∃ rs, u07_finish arr longest docs fid = .ok rs ∧ u07_Built docs fid 1 (arr.map (u07_pad longest)) rs ∧
      (docs = [] → rs.map (·.name) = (List.range arr.length).map (fun i => resultNameGen (1 + i))) := by
  unfold u07_finish
  dsimp only
  split
  · rename_i _ _ single d heq
    rw [heq]
    by_cases hn : (d.name != "") = true
    · refine ⟨_, rfl, ?_, fun h => by cases h⟩
      simp only [hn, if_true]
      exact .doc d (List.mem_singleton.2 rfl) (by simpa using hn) (.nil 1)
    · refine ⟨_, rfl, ?_, fun h => by cases h⟩
      simp only [hn]
      exact .gen (.nil 2)
  · rename_i docs _ _ _
    obtain ⟨rs, h1, h2, h3⟩ := u07_foldl_build docs fid (arr.map (u07_pad longest)) [] 1
    refine ⟨rs, by rw [h1]; rfl, h2, fun he => ?_⟩
    rw [h3 he, List.length_map]

theorem u07_createInferredResults_ok (types : List AType) (docs : List ResultDoc) (fid : String)
    (h : ∀ t ∈ types, isNamedOrTuple t = true) :
    ∃ rs, createInferredResults types docs fid = .ok rs ∧
      u07_Built docs fid 1
        ((List.range (u07_maxWidth types)).map (fun i => u07_pad (u07_longest types) (u07_colAt i types))) rs ∧
      (docs = [] → rs.map (·.name) = (List.range (u07_maxWidth types)).map (fun i => resultNameGen (1 + i))) := by
  rw [u07_createInferredResults_unfold, u07_foldl_place_ok types h]
  obtain ⟨rs, h1, h2, h3⟩ := u07_finish_ok (types.foldl u07_placeP ([], 1)).1 (types.foldl u07_placeP ([], 1)).2 docs fid
  refine ⟨rs, h1, ?_, ?_⟩
  · rw [u07_arr_eq, List.map_map] at h2
    exact h2
  · intro he
    rw [h3 he, u07_arr_eq]; simp

theorem u07_createInferredResults_err (types : List AType) (docs : List ResultDoc) (fid : String)
    (h : ∃ t ∈ types, isNamedOrTuple t = false) :
    createInferredResults types docs fid = .error .typeError := by
  rw [u07_createInferredResults_unfold, u07_foldl_place_bad types h]

/-! members of a column -/

/-- the `i`-th component of a type: of a tuple its `i`-th member, a class is its own component 0 -/
def u07_comp (i : Nat) : AType → Option AType
  | .tuple ts => ts[i]?
  | t => if i = 0 then some t else none

theorem u07_mem_colStep {i : Nat} {col : List AType} {t x : AType} (h : x ∈ u07_colStep i col t) :
    x ∈ col ∨ u07_comp i t = some x := by
  cases t with
  | tuple ts =>
    simp only [u07_colStep, u07_comp] at h ⊢
    split at h
    · exact .inl h
    · rename_i ti hti
      rcases u07_mem_ins h with h | h
      · exact .inl h
      · exact .inr (by rw [hti, h])
  | _ =>
    simp only [u07_colStep, u07_comp] at h ⊢
    split at h
    · rename_i hi
      rcases List.mem_append.1 h with h | h
      · exact .inl h
      · exact .inr (by rw [if_pos hi, List.mem_singleton.1 h])
    · exact .inl h

theorem u07_subset_colStep (i : Nat) (col : List AType) (t : AType) : ∀ x ∈ col, x ∈ u07_colStep i col t := by
  intro x hx
  cases t with
  | tuple ts =>
    simp only [u07_colStep]
    split
    · exact hx
    · exact u07_subset_ins _ _ x hx
  | _ =>
    simp only [u07_colStep]
    split
    · exact List.mem_append_left _ hx
    · exact hx

theorem u07_colStep_covers {i : Nat} (col : List AType) {t x : AType} (h : u07_comp i t = some x) :
    ∃ y ∈ u07_colStep i col t, y.pyEq x = true := by
  cases t with
  | tuple ts =>
    simp only [u07_comp] at h
    simp only [u07_colStep, h]
    exact (u07_typeInSet_iff _ _).1 (u07_ins_covers col x)
  | _ =>
    simp only [u07_comp] at h
    split at h
    · rename_i hi
      cases h
      simp only [u07_colStep, if_pos hi]
      exact ⟨_, List.mem_append_right _ (List.mem_singleton.2 rfl), u07_pyEq_refl _⟩
    · cases h

theorem u07_mem_foldl_colStep {i : Nat} {types : List AType} {col : List AType} {x : AType}
    (h : x ∈ types.foldl (u07_colStep i) col) : x ∈ col ∨ ∃ t ∈ types, u07_comp i t = some x := by
  induction types generalizing col with
  | nil => exact .inl h
  | cons t ts ih =>
    rcases ih (col := u07_colStep i col t) h with h | ⟨t', ht', hc⟩
    · rcases u07_mem_colStep h with h | h
      · exact .inl h
      · exact .inr ⟨t, List.mem_cons_self, h⟩
    · exact .inr ⟨t', List.mem_cons_of_mem _ ht', hc⟩

theorem u07_subset_foldl_colStep (i : Nat) (types : List AType) (col : List AType) :
    ∀ x ∈ col, x ∈ types.foldl (u07_colStep i) col := by
  induction types generalizing col with
  | nil => exact fun x hx => hx
  | cons t ts ih => exact fun x hx => ih _ x (u07_subset_colStep i col t x hx)

theorem u07_foldl_colStep_covers {i : Nat} {types : List AType} (col : List AType) {t x : AType}
    (ht : t ∈ types) (h : u07_comp i t = some x) : ∃ y ∈ types.foldl (u07_colStep i) col, y.pyEq x = true := by
  induction types generalizing col with
  | nil => exact absurd ht List.not_mem_nil
  | cons a ts ih =>
    rcases List.mem_cons.1 ht with rfl | ht
    · obtain ⟨y, hy, hyx⟩ := u07_colStep_covers col h
      exact ⟨y, u07_subset_foldl_colStep i ts _ y hy, hyx⟩
    · exact ih _ ht

theorem u07_mem_pad (longest : Nat) (col : List AType) (x : AType) :
    x ∈ u07_pad longest col ↔
      x ∈ col ∨ (x = u07_noneT ∧ col.length < longest ∧ typeInSet u07_noneT col = false) := by
  unfold u07_pad
  by_cases h1 : col.length < longest
  · cases h2 : typeInSet u07_noneT col with
    | true => simp [h1]
    | false => simp [h1]
  · simp [h1]

theorem u07_mergeLongest_ge (m : Nat) (cols : List (List AType)) (ts : List AType) :
    m ≤ u07_mergeLongest m cols ts := by
  induction cols generalizing m ts with
  | nil => rw [u07_mergeLongest_nil_left]
  | cons c cs ih =>
    cases ts with
    | nil => exact Nat.le_refl _
    | cons t ts =>
      rw [u07_mergeLongest]
      refine Nat.le_trans ?_ (ih _ ts)
      split
      · exact Nat.le_refl _
      · exact Nat.le_max_left _ _

theorem u07_longest_pos (types : List AType) : 1 ≤ u07_longest types := by
  unfold u07_longest
  suffices h : ∀ st : List (List AType) × Nat, 1 ≤ st.2 → 1 ≤ (types.foldl u07_placeP st).2 from h _ (Nat.le_refl _)
  induction types with
  | nil => exact fun st h => h
  | cons t ts ih =>
    intro st h
    rw [List.foldl_cons]
    apply ih
    obtain ⟨arr, l⟩ := st
    cases t with
    | tuple us => exact Nat.le_trans h (u07_mergeLongest_ge _ _ _)
    | _ => cases arr <;> exact h

theorem u07_foldl_max {α : Type} (f : α → Nat) (l : List α) (a : Nat) :
    a ≤ l.foldl (fun m t => max m (f t)) a ∧ (∀ t ∈ l, f t ≤ l.foldl (fun m t => max m (f t)) a) ∧
      (l.foldl (fun m t => max m (f t)) a = a ∨ ∃ t ∈ l, f t = l.foldl (fun m t => max m (f t)) a) := by
  induction l generalizing a with
  | nil => exact ⟨Nat.le_refl _, fun _ h => absurd h List.not_mem_nil, .inl rfl⟩
  | cons x xs ih =>
    obtain ⟨h1, h2, h3⟩ := ih (max a (f x))
    rw [List.foldl_cons]
    refine ⟨Nat.le_trans (Nat.le_max_left _ _) h1, ?_, ?_⟩
    · intro t ht
      rcases List.mem_cons.1 ht with rfl | ht
      · exact Nat.le_trans (Nat.le_max_right _ _) h1
      · exact h2 t ht
    · rcases h3 with h3 | ⟨t, ht, h3⟩
      · rcases Nat.le_total a (f x) with hle | hle
        · exact .inr ⟨x, List.mem_cons_self, by rw [h3, Nat.max_eq_right hle]⟩
        · exact .inl (by rw [h3, Nat.max_eq_left hle])
      · exact .inr ⟨t, List.mem_cons_of_mem _ ht, h3⟩

theorem u07_cand_namedOrTuple {body : List Stmt} {t : AType} (h : u07_Cand body t) : isNamedOrTuple t = true := by
  rcases h with ⟨_, _, _, _, h⟩ | ⟨_, _, _, _, _, rfl⟩
  · exact h
  · rfl

/-! `longest` is bounded by the length of some column -/

theorem u07_ins_length_ge (c : List AType) (t : AType) : c.length ≤ (u07_ins c t).length := by
  unfold u07_ins; split <;> simp

theorem u07_merge_grows (cols : List (List AType)) (ts : List AType) :
    ∀ c ∈ cols, ∃ c' ∈ u07_merge cols ts, c.length ≤ c'.length := by
  induction cols generalizing ts with
  | nil => intro c hc; exact absurd hc List.not_mem_nil
  | cons a as ih =>
    intro c hc
    cases ts with
    | nil => exact ⟨c, hc, Nat.le_refl _⟩
    | cons t ts =>
      rw [u07_merge]
      rcases List.mem_cons.1 hc with rfl | hc
      · exact ⟨_, List.mem_cons_self, u07_ins_length_ge _ t⟩
      · obtain ⟨c', h1, h2⟩ := ih ts c hc
        exact ⟨c', List.mem_cons_of_mem _ h1, h2⟩

theorem u07_mergeLongest_bound (m : Nat) (cols : List (List AType)) (ts : List AType) :
    u07_mergeLongest m cols ts = m ∨ ∃ c' ∈ u07_merge cols ts, u07_mergeLongest m cols ts ≤ c'.length := by
  induction cols generalizing m ts with
  | nil => exact .inl (u07_mergeLongest_nil_left m ts)
  | cons c cs ih =>
    cases ts with
    | nil => exact .inl rfl
    | cons t ts =>
      rw [u07_mergeLongest, u07_merge]
      rcases ih (if typeInSet t c then m else max m (c.length + 1)) ts with h | ⟨c', h1, h2⟩
      · rw [h]
        cases hin : typeInSet t c with
        | true => exact .inl (by simp)
        | false =>
          simp only [Bool.false_eq_true, if_false]
          rcases Nat.le_total (c.length + 1) m with hle | hle
          · exact .inl (Nat.max_eq_left hle)
          · refine .inr ⟨u07_ins c t, List.mem_cons_self, ?_⟩
            rw [Nat.max_eq_right hle]
            simp [u07_ins, hin]
      · exact .inr ⟨c', List.mem_cons_of_mem _ h1, h2⟩

theorem u07_placeP_bound (st : List (List AType) × Nat) (t : AType)
    (h : st.2 ≤ 1 ∨ ∃ c ∈ st.1, st.2 ≤ c.length) :
    (u07_placeP st t).2 ≤ 1 ∨ ∃ c ∈ (u07_placeP st t).1, (u07_placeP st t).2 ≤ c.length := by
  obtain ⟨arr, l⟩ := st
  have named : ∀ t' : AType, (match arr with
      | [] => (([[t']] : List (List AType)), l)
      | first :: rest => ((first ++ [t']) :: rest, l)).2 ≤ 1 ∨
      ∃ c ∈ (match arr with
        | [] => (([[t']] : List (List AType)), l)
        | first :: rest => ((first ++ [t']) :: rest, l)).1,
        (match arr with
        | [] => (([[t']] : List (List AType)), l)
        | first :: rest => ((first ++ [t']) :: rest, l)).2 ≤ c.length := by
    intro t'
    cases arr with
    | nil =>
      rcases h with h | ⟨c, hc, _⟩
      · exact .inl h
      · exact absurd hc List.not_mem_nil
    | cons first rest =>
      rcases h with h | ⟨c, hc, hl⟩
      · exact .inl h
      · rcases List.mem_cons.1 hc with rfl | hc
        · exact .inr ⟨_, List.mem_cons_self, by simp only [List.length_append]; exact Nat.le_trans hl (Nat.le_add_right _ _)⟩
        · exact .inr ⟨c, List.mem_cons_of_mem _ hc, hl⟩
  cases t with
  | tuple ts =>
    show u07_mergeLongest l arr ts ≤ 1 ∨ ∃ c ∈ u07_merge arr ts, u07_mergeLongest l arr ts ≤ c.length
    rcases u07_mergeLongest_bound l arr ts with hm | hm
    · rw [hm]
      rcases h with h | ⟨c, hc, hl⟩
      · exact .inl h
      · obtain ⟨c', h1, h2⟩ := u07_merge_grows arr ts c hc
        exact .inr ⟨c', h1, Nat.le_trans hl h2⟩
    · exact .inr hm
  | _ => exact named _

theorem u07_longest_bound (types : List AType) :
    u07_longest types ≤ 1 ∨ ∃ i, i < u07_maxWidth types ∧ u07_longest types ≤ (u07_colAt i types).length := by
  have key : ∀ (l : List AType) (st : List (List AType) × Nat),
      (st.2 ≤ 1 ∨ ∃ c ∈ st.1, st.2 ≤ c.length) →
      ((l.foldl u07_placeP st).2 ≤ 1 ∨ ∃ c ∈ (l.foldl u07_placeP st).1, (l.foldl u07_placeP st).2 ≤ c.length) := by
    intro l
    induction l with
    | nil => exact fun st h => h
    | cons t ts ih => intro st h; rw [List.foldl_cons]; exact ih _ (u07_placeP_bound st t h)
  rcases key types ([], 1) (.inl (Nat.le_refl _)) with h | ⟨c, hc, hl⟩
  · exact .inl h
  · rw [u07_arr_eq, List.mem_map] at hc
    obtain ⟨i, hi, rfl⟩ := hc
    exact .inr ⟨i, List.mem_range.1 hi, hl⟩

/-! ### 9. `parseResults` of an un-annotated function -/

theorem u07_parseResults_unannotated (env : AEnv) (f : FuncDef) (fid : String) (docs : List ResultDoc) (s : VSt)
    (hn : (f.name == "__init__") = false) (hc : f.hasCallableType = false) :
    parseResults env f fid docs s =
      (if (findReturns f.body).isEmpty then .ok ([], s)
       else match createInferredResults (sortBy u07_keyLe (u07_collected f.body)) docs fid with
         | .ok rs => .ok (rs, s)
         | .error e => .error e) := by
  unfold parseResults
  have hi := u07_inferFromReturns_eq f.body
  cases he : (findReturns f.body).isEmpty with
  | true =>
    rw [he] at hi
    simp only [hn, hc, Bool.false_eq_true, if_false, hi]
    rfl
  | false =>
    rw [he] at hi
    simp only [hn, hc, Bool.false_eq_true, if_false, hi]
    simp only [bind, StateT.bind, Except.bind, pure, StateT.pure, Except.pure, Option.isSome]
    cases createInferredResults (sortBy u07_keyLe (u07_collected f.body)) docs fid with
    | ok rs => rfl
    | error e => rfl

end StubGen
