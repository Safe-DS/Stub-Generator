/-
`addToImports` (`_add_to_imports`) in closed form: `ValueError` for the empty class path, otherwise the pure state
transformer `q11_effect`, which touches nothing but `imports` and `outside` (`OnlyIO`).  Every fact about
`addToImports` in the other proof files is read off this form (`q11_addToImports_ok`, `inv_addToImports`).
-/
import StubGen.Model.Gen
import StubGen.Proofs.Hoare

namespace StubGen

/-- `s` differs from `st` at most in `imports` and `outside` -/
def OnlyIO (st s : St) : Prop :=
  s.log = st.log ∧ s.todos = st.todos ∧ s.reexports = st.reexports ∧ s.classGenerics = st.classGenerics ∧
    s.moduleId = st.moduleId ∧ s.reexportModuleId = st.reexportModuleId ∧ s.creatingReexport = st.creatingReexport

theorem OnlyIO.refl (st : St) : OnlyIO st st := ⟨rfl, rfl, rfl, rfl, rfl, rfl, rfl⟩

theorem OnlyIO.ite {st a b : St} {c : Prop} [Decidable c] (ha : OnlyIO st a) (hb : OnlyIO st b) :
    OnlyIO st (if c then a else b) := by
  split <;> assumption

theorem OnlyIO.imports {st s : St} (x : List String) (h : OnlyIO st s) :
    OnlyIO st { s with imports := x } := h

theorem OnlyIO.outside {st s : St} (x : List String) (h : OnlyIO st s) :
    OnlyIO st { s with outside := x } := h

/-- class paths `addToImports` ignores without looking at the state: `builtins.X`, `typing.Any`, and names
    without a module path (one dot-segment) -/
def q11_exempt (q : String) : Bool :=
  ((splitDot q).head? == some "builtins" && (splitDot q).length == 2) || q == "typing.Any"
    || (splitDot q).length == 1

/-- the same-module test of `addToImports`: the dotted id of the module being generated is a SUBSTRING of
    the class path -/
def q11_sameModule (st : St) (q : String) : Bool := pyIn (replaceChar st.moduleId '/' ".") q

/-- the class of the package the path is resolved to: the first class (in table order) whose id is connected to
    the path (`isPathConnectedToClass`) -/
def q11_found (env : Env) (q : String) : Option Class :=
  env.api.classes.find? fun c => isPathConnectedToClass env.api.reexportMap (replaceChar q '.' "/") c.id

/-- the path under which a class of the package is imported: below its shortest public re-export if there is
    one, else its own dotted id -/
def q11_classTarget (env : Env) (c : Class) : String :=
  let cq := replaceChar c.id '/' "."
  let name := lastD "" (splitDot cq)
  let sh := (shortestPublicReexport env.api.reexportMap name cq false).1
  if sh != "" then sh ++ "." ++ name else cq

/-- the class path that is registered for the request `q` -/
def q11_target (env : Env) (q : String) : String :=
  match q11_found env q with
  | some c => if q11_classTarget env c != "" then q11_classTarget env c else q
  | none => q

/-- the effect of a successful `addToImports env q` -/
def q11_effect (env : Env) (q : String) (st : St) : St :=
  if q11_exempt q || q11_sameModule st q then st
  else
    let s1 := if (q11_found env q).isNone then { st with outside := insertSet (q11_target env q) st.outside } else st
    if replaceChar (q11_target env q) '.' "/" != getModuleId st
    then { s1 with imports := insertSet (q11_target env q) s1.imports } else s1

theorem q11_getModuleId_true (s : St) : getModuleId s true = s.moduleId := by
  simp [getModuleId]

theorem q11_target_of_none {env : Env} {q : String} (h : q11_found env q = none) : q11_target env q = q := by
  unfold q11_target; rw [h]

theorem q11_addToImports_eq (env : Env) (q : String) (st : St) :
    addToImports env q st = if q = "" then .error .valueError else .ok ((), q11_effect env q st) := by
  unfold addToImports
  by_cases hq : q = ""
  · subst hq; rfl
  · rw [if_neg hq, if_neg (by simpa using hq)]
    dsimp only
    unfold q11_effect q11_exempt q11_sameModule
    by_cases h1 : (((splitDot q).head? == some "builtins" && (splitDot q).length == 2) || q == "typing.Any") = true
    · rw [if_pos h1]
      simp only [h1, Bool.true_or, if_true]
      rfl
    · rw [if_neg h1]
      have h1' : (((splitDot q).head? == some "builtins" && (splitDot q).length == 2) || q == "typing.Any") = false := by
        simpa using h1
      by_cases h2 : ((splitDot q).length == 1) = true
      · rw [if_pos h2]
        simp only [h2, Bool.or_true, Bool.true_or, if_true]
        rfl
      · rw [if_neg h2]
        have h2' : ((splitDot q).length == 1) = false := by simpa using h2
        rw [h1', h2']
        simp only [Bool.false_or]
        have hget : (get : G St) st = .ok (st, st) := rfl
        rw [se_bind_apply, hget]
        dsimp only
        rw [q11_getModuleId_true]
        by_cases h3 : pyIn (replaceChar st.moduleId '/' ".") q = true
        · simp only [h3, Bool.not_true, Bool.false_eq_true, if_false, if_true]
          rfl
        · have h3' : pyIn (replaceChar st.moduleId '/' ".") q = false := by simpa using h3
          simp only [h3', Bool.not_false, if_true, Bool.false_eq_true, if_false]
          unfold q11_target q11_found q11_classTarget
          generalize List.find? (fun c => isPathConnectedToClass env.api.reexportMap (replaceChar q '.' "/") c.id)
            env.api.classes = found
          cases found with
          | none =>
            have he : ("" != "") = false := by decide
            have hg : ∀ x, getModuleId { st with outside := x } = getModuleId st := fun _ => rfl
            simp only [he, Bool.false_eq_true, if_false, Bool.not_false, if_true, Option.isNone_none, hg]
            rfl
          | some c =>
            simp only [Bool.not_true, Bool.false_eq_true, if_false, Option.isNone_some]
            rfl

theorem q11_addToImports_ok {env : Env} {q : String} {st st' : St} {u : Unit}
    (h : addToImports env q st = .ok (u, st')) : q ≠ "" ∧ st' = q11_effect env q st := by
  rw [q11_addToImports_eq] at h
  split at h
  · exact absurd h (by simp)
  · rename_i hq
    simp only [Except.ok.injEq, Prod.mk.injEq] at h
    exact ⟨hq, h.2.symm⟩

/-! #### the fields of `q11_effect` -/

theorem q11_effect_onlyIO (env : Env) (q : String) (st : St) : OnlyIO st (q11_effect env q st) := by
  unfold q11_effect
  apply OnlyIO.ite
  · exact OnlyIO.refl st
  · dsimp only
    apply OnlyIO.ite
    · apply OnlyIO.imports
      apply OnlyIO.ite
      · exact OnlyIO.outside _ (OnlyIO.refl st)
      · exact OnlyIO.refl st
    · apply OnlyIO.ite
      · exact OnlyIO.outside _ (OnlyIO.refl st)
      · exact OnlyIO.refl st

theorem q11_effect_skip {env : Env} {q : String} {st : St}
    (h : q11_exempt q = true ∨ q11_sameModule st q = true) : q11_effect env q st = st := by
  unfold q11_effect
  rw [if_pos (by simpa using h)]

theorem q11_effect_imports {env : Env} {q : String} {st : St}
    (h1 : q11_exempt q = false) (h2 : q11_sameModule st q = false) :
    (q11_effect env q st).imports =
      if replaceChar (q11_target env q) '.' "/" = getModuleId st then st.imports
      else insertSet (q11_target env q) st.imports := by
  unfold q11_effect
  rw [h1, h2]
  simp only [Bool.or_self, Bool.false_eq_true, if_false, bne_iff_ne, ne_eq, ite_not]
  split
  · split <;> rfl
  · split <;> rfl

theorem q11_effect_outside {env : Env} {q : String} {st : St}
    (h1 : q11_exempt q = false) (h2 : q11_sameModule st q = false) :
    (q11_effect env q st).outside =
      if q11_found env q = none then insertSet q st.outside else st.outside := by
  unfold q11_effect
  rw [h1, h2]
  simp only [Bool.or_self, Bool.false_eq_true, if_false, bne_iff_ne, ne_eq, ite_not]
  cases hf : q11_found env q with
  | none =>
    rw [q11_target_of_none hf]
    simp only [Option.isNone_none, if_true]
    split <;> rfl
  | some c =>
    simp only [Option.isNone_some, Bool.false_eq_true, if_false, reduceCtorEq]
    split <;> rfl


/-- `addToImports` maintains what its effect maintains; its only error is the `ValueError` for the empty path -/
theorem inv_addToImports {P : St → Prop} {E : PyErr → Prop} (env : Env) (q : String) (hv : E .valueError)
    (h : ∀ s, P s → P (q11_effect env q s)) : Inv P E (addToImports env q) := by
  refine ⟨fun s hs => ?_⟩
  rw [q11_addToImports_eq]
  by_cases hq : q = ""
  · rw [if_pos hq]; exact hv
  · rw [if_neg hq]; exact h s hs

end StubGen
