/-
Helper lemmas for `StubGen.Theorems.C06` / `C07`: the state-monad computations `createParameter`,
`createParameters`, `createParameterString`, `createResults`, `createResultString` of the generator
model written out as explicit equations on `Except PyErr (α × St)`, and the list inductions on them.
(Helper lemmas added after the model followed the "None result among several" repair carry the prefix `pp_`.)
-/
import StubGen.Model.Gen
import StubGen.Spec.Params
import StubGen.Proofs.Hoare

namespace StubGen

open Spec

/-! ### the receiver -/

theorem wfReceiver_iff (ps : List Parameter) (b : Bool) : wfReceiver ps b = true ↔ WFReceiver ps b := by
  cases b with
  | false => simp [wfReceiver, WFReceiver]
  | true =>
    cases ps with
    | nil => simp [wfReceiver, WFReceiver]
    | cons p rest =>
      simp only [wfReceiver, WFReceiver, if_true, Bool.and_eq_true, beq_iff_eq, List.all_eq_true, bne_iff_ne]
      constructor
      · rintro ⟨h1, h2⟩
        exact ⟨p, rest, rfl, h1, h2⟩
      · rintro ⟨_, _, h, h1, h2⟩
        cases h
        exact ⟨h1, h2⟩

instance (ps : List Parameter) (b : Bool) : Decidable (WFReceiver ps b) :=
  decidable_of_iff _ (wfReceiver_iff ps b)

theorem receiverRemoved_eq_self {ps : List Parameter} (h : ∀ q ∈ ps, q.assignedBy ≠ .implicit) :
    receiverRemoved ps = ps := by
  unfold receiverRemoved
  rw [List.filter_eq_self]
  intro q hq
  simpa using h q hq

theorem receiverRemoved_of_wf {ps : List Parameter} {b : Bool} (h : WFReceiver ps b) :
    (if b then ps.drop 1 else ps) = receiverRemoved ps := by
  cases b with
  | false =>
    simp only [WFReceiver, Bool.false_eq_true, if_false] at h ⊢
    exact (receiverRemoved_eq_self h).symm
  | true =>
    simp only [WFReceiver, if_true] at h ⊢
    obtain ⟨p, rest, rfl, hp, hrest⟩ := h
    have : receiverRemoved (p :: rest) = receiverRemoved rest := by
      simp [receiverRemoved, hp]
    rw [this, receiverRemoved_eq_self hrest]
    rfl

/-! ### markers -/

theorem addTodo_run (k : String) (st : St) :
    addTodo k st = .ok ((), { st with todos := insertSet k st.todos }) := rfl

/-- add marker `k` if `c` -/
def addIf (c : Bool) (k : String) (st : St) : St :=
  if c then { st with todos := insertSet k st.todos } else st

/-- the state after the default value of `p` has been rendered -/
def afterDefault (p : Parameter) (st : St) : St :=
  addIf (p.isOptional && p.default == .unknown) "unknown value" st

/-- the markers `createParameter` adds after the type has been rendered -/
def paramTail (p : Parameter) (st : St) : St :=
  addIf (isVariadic p) "variadic"
    (addIf (p.assignedBy == .nameOnly && !p.isOptional) "REQ_NAME_ONLY"
      (addIf (p.assignedBy == .positionOnly && p.isOptional) "OPT_POS_ONLY" st))

/-! ### one parameter -/

theorem defaultString_run (a : Assign) (d : DefaultVal) (st : St) :
    defaultString a d st = .ok (defaultText a d, addIf (d == .unknown) "unknown value" st) := by
  cases d with
  | none => rfl
  | unknown => rfl
  | int i => rfl
  | float r => rfl
  | bool b => cases b <;> rfl
  | str s =>
    simp only [defaultString, defaultText, beq_iff_eq, Bool.and_eq_true]
    split
    · rfl
    · split <;> rfl

/-- `*args: tuple[T]` is rendered as a list -/
def shownOf (a : Assign) (t : AType) : AType :=
  match a, t with
  | .positionalVararg, .tuple ts => AType.list ts
  | _, t => t

/-- first half of `createParameter`: type text and default value -/
def paramFirst (env : Env) (p : Parameter) : G (String × String) :=
  match p.type with
  | some t => do
    let value ← if p.isOptional then (do let d ← defaultString p.assignedBy p.default; pure (" = " ++ d)) else pure ""
    let ts ← typeStr env (shownOf p.assignedBy t)
    pure (if ts != "" then ": " ++ ts else "", value)
  | none => do
    addTodo "param without type"
    pure (match p.assignedBy with
      | .positionalVararg => ": List<Any>"
      | .namedVararg => ": Map<String, Any>"
      | _ => "", "")

/-- second half: the markers that depend on the kind, and the name -/
def paramFinish (env : Env) (p : Parameter) (tv : String × String) : G ParamOut := do
  if p.assignedBy == .positionOnly && p.isOptional then addTodo "OPT_POS_ONLY"
  else if p.assignedBy == .nameOnly && !p.isOptional then addTodo "REQ_NAME_ONLY"
  if p.assignedBy == .positionalVararg || p.assignedBy == .namedVararg then addTodo "variadic"
  let camel := convertName p.name env.safe
  let ann := if camel != p.name then nameAnnotation p.name ++ " " else ""
  pure { annotation := ann, name := escapeKeyword camel, typeString := tv.1, value := tv.2 }

theorem createParameter_eq (env : Env) (p : Parameter) :
    createParameter env p = paramFirst env p >>= paramFinish env p := rfl

theorem paramFinish_run (env : Env) (p : Parameter) (tv : String × String) (st : St) :
    paramFinish env p tv st = .ok
      ({ annotation := paramAnnotation env.safe p, name := paramName env.safe p,
         typeString := tv.1, value := tv.2 }, paramTail p st) := by
  have hann : (if convertName p.name env.safe != p.name then nameAnnotation p.name ++ " " else "")
      = paramAnnotation env.safe p := by
    simp [paramAnnotation]
  unfold paramFinish
  simp only [hann]
  unfold paramTail isVariadic paramName
  cases p.assignedBy <;> cases p.isOptional <;> rfl

/-- the type the generator renders for a typed parameter is the one the specification shows -/
theorem shownParamType_of_some {p : Parameter} {t : AType} (h : p.type = some t) :
    shownParamType p = some (shownOf p.assignedBy t) := by
  unfold shownParamType
  rw [h]
  cases p.assignedBy <;> cases t <;> rfl

theorem shownParamType_none {p : Parameter} (h : p.type = none) : shownParamType p = none := by
  unfold shownParamType
  rw [h]
  cases p.assignedBy <;> rfl

theorem paramFirst_none (env : Env) (p : Parameter) (st : St) (h : p.type = none) :
    paramFirst env p st = .ok ((untypedParamType p, ""),
      { st with todos := insertSet "param without type" st.todos }) := by
  unfold paramFirst
  rw [h]
  unfold untypedParamType
  cases p.assignedBy <;> rfl

theorem paramFirst_some (env : Env) (p : Parameter) (st : St) {t t' : AType} (h : p.type = some t)
    (hs : shownParamType p = some t') :
    paramFirst env p st =
      match typeStr env t' (afterDefault p st) with
      | .error e => .error e
      | .ok (ts, st₂) => .ok ((typeAnnotation ts, paramValue p), st₂) := by
  rw [shownParamType_of_some h] at hs
  cases hs
  have hta : ∀ ts : String, (if ts != "" then ": " ++ ts else "") = typeAnnotation ts := by
    intro ts; simp [typeAnnotation]
  unfold paramFirst
  rw [h]
  cases hopt : p.isOptional with
  | false =>
    simp only [Bool.false_eq_true, if_false, bind, StateT.bind, Except.bind, pure, StateT.pure, Except.pure, hta,
      afterDefault, hopt, Bool.false_and, addIf, paramValue]
    cases typeStr env (shownOf p.assignedBy t) st with
    | error e => rfl
    | ok x => rfl
  | true =>
    simp only [if_true, bind, StateT.bind, Except.bind, pure, StateT.pure, Except.pure, hta,
      defaultString_run, afterDefault, hopt, Bool.true_and, paramValue]
    cases typeStr env (shownOf p.assignedBy t) (addIf (p.default == DefaultVal.unknown) "unknown value" st) with
    | error e => rfl
    | ok x => rfl

/-- `createParameter` on an untyped parameter: never fails, no default value -/
theorem createParameter_none (env : Env) (p : Parameter) (st : St) (h : p.type = none) :
    createParameter env p st = .ok
      ({ annotation := paramAnnotation env.safe p, name := paramName env.safe p,
         typeString := untypedParamType p, value := "" },
       paramTail p { st with todos := insertSet "param without type" st.todos }) := by
  rw [createParameter_eq]
  simp only [bind, StateT.bind, Except.bind, paramFirst_none env p st h, paramFinish_run]

/-- `createParameter` on a typed parameter: fails exactly when rendering the shown type fails -/
theorem createParameter_some (env : Env) (p : Parameter) (st : St) {t t' : AType} (h : p.type = some t)
    (hs : shownParamType p = some t') :
    createParameter env p st =
      match typeStr env t' (afterDefault p st) with
      | .error e => .error e
      | .ok (ts, st₂) => .ok
        ({ annotation := paramAnnotation env.safe p, name := paramName env.safe p,
           typeString := typeAnnotation ts, value := paramValue p }, paramTail p st₂) := by
  rw [createParameter_eq]
  simp only [bind, StateT.bind, Except.bind, paramFirst_some env p st h hs]
  cases typeStr env t' (afterDefault p st) with
  | error e => rfl
  | ok x => obtain ⟨ts, st₂⟩ := x; simp only [paramFinish_run]

theorem createParameter_name {env : Env} {p : Parameter} {st st' : St} {out : ParamOut}
    (h : createParameter env p st = .ok (out, st')) :
    out.annotation = paramAnnotation env.safe p ∧ out.name = paramName env.safe p := by
  cases ht : p.type with
  | none =>
    rw [createParameter_none env p st ht] at h
    cases h
    exact ⟨rfl, rfl⟩
  | some t =>
    rw [createParameter_some env p st ht (shownParamType_of_some ht)] at h
    split at h
    · cases h
    · cases h
      exact ⟨rfl, rfl⟩

/-! ### the parameter list -/

theorem createParameters_cons (env : Env) (p : Parameter) (ps : List Parameter) (st : St) :
    createParameters env (p :: ps) st =
      match createParameter env p st with
      | .error e => .error e
      | .ok (a, st₁) =>
        match createParameters env ps st₁ with
        | .error e => .error e
        | .ok (as, st₂) => .ok (a :: as, st₂) := by
  simp only [createParameters, bind, StateT.bind, Except.bind, pure, StateT.pure, Except.pure]
  cases createParameter env p st with
  | error e => rfl
  | ok x =>
    obtain ⟨a, st₁⟩ := x
    simp only
    cases createParameters env ps st₁ <;> rfl

/-- a successful run produces one output per parameter, in order, each by a successful
    `createParameter` (in the state threaded so far) -/
theorem createParameters_ok {env : Env} {ps : List Parameter} {st st' : St} {outs : List ParamOut}
    (h : createParameters env ps st = .ok (outs, st')) :
    outs.length = ps.length ∧
    ∀ i (hp : i < ps.length) (ho : i < outs.length),
      ∃ s s', createParameter env ps[i] s = .ok (outs[i], s') := by
  induction ps generalizing st outs with
  | nil =>
    cases h
    exact ⟨rfl, fun i hp => absurd hp (Nat.not_lt_zero i)⟩
  | cons p ps ih =>
    rw [createParameters_cons] at h
    cases h1 : createParameter env p st with
    | error e => rw [h1] at h; cases h
    | ok x =>
      obtain ⟨a, st₁⟩ := x
      rw [h1] at h
      simp only at h
      cases h2 : createParameters env ps st₁ with
      | error e => rw [h2] at h; cases h
      | ok y =>
        obtain ⟨as, st₂⟩ := y
        rw [h2] at h
        cases h
        obtain ⟨hl, hi⟩ := ih h2
        refine ⟨by simp [hl], ?_⟩
        intro i hp ho
        cases i with
        | zero => exact ⟨st, st₁, h1⟩
        | succ i =>
          simp only [List.getElem_cons_succ]
          exact hi i (by simpa using hp) (by simpa using ho)

theorem createParameters_names {env : Env} {ps : List Parameter} {st st' : St} {outs : List ParamOut}
    (h : createParameters env ps st = .ok (outs, st')) :
    outs.map (fun o => (o.annotation, o.name))
      = ps.map (fun p => (paramAnnotation env.safe p, paramName env.safe p)) := by
  obtain ⟨hl, hi⟩ := createParameters_ok h
  apply List.ext_getElem (by simp [hl])
  intro i h1 h2
  simp only [List.getElem_map]
  obtain ⟨s, s', hc⟩ := hi i (by simpa using h2) (by simpa using h1)
  obtain ⟨ha, hn⟩ := createParameter_name hc
  rw [ha, hn]

theorem createParameterString_eq (env : Env) (ps : List Parameter) (indent : String) (b : Bool) (st : St) :
    createParameterString env ps indent b st =
      match createParameters env (if b then ps.drop 1 else ps) st with
      | .error e => .error e
      | .ok (outs, st') => .ok (paramListText indent indentation (outs.map ParamOut.render), st') := by
  simp only [createParameterString, bind, StateT.bind, Except.bind, pure]
  cases createParameters env (if b then ps.drop 1 else ps) st with
  | error e => rfl
  | ok x =>
    obtain ⟨outs, st'⟩ := x
    cases outs with
    | nil => rfl
    | cons o os => simp [paramListText, String.append_assoc, StateT.pure, pure, Except.pure]

/-! ### results -/

theorem isNoneResult_of_none {r : Result} (h : r.type = none) : isNoneResult r = false := by
  simp [isNoneResult, h]

theorem isNoneResult_of_some {r : Result} {t : AType} (h : r.type = some t) : isNoneResult r = isNoneNamed t := by
  unfold isNoneResult
  rw [h]
  cases t <;> rfl

theorem isNoneResult_iff (r : Result) : isNoneResult r = true ↔ ∃ t, r.type = some t ∧ isNoneNamed t = true := by
  cases h : r.type with
  | none => rw [isNoneResult_of_none h]; exact ⟨nofun, nofun⟩
  | some t =>
    rw [isNoneResult_of_some h]
    exact ⟨fun ht => ⟨t, rfl, ht⟩, fun ⟨_, e, ht⟩ => Option.some.inj e ▸ ht⟩

/-- success of `createResults` is `ResultsRendered` — for every result list (a `None` result is a
    result like any other) -/
theorem pp_createResults_iff (env : Env) (rs : List Result) (st st' : St) (texts : List String) :
    createResults env rs st = .ok (texts, st') ↔
      ResultsRendered (typeStr env) (Spec.resultName env.safe) rs st texts st' := by
  induction rs generalizing st texts with
  | nil => exact ⟨fun h => by cases h; exact .nil _, fun hr => by cases hr; rfl⟩
  | cons r rs ih =>
    rw [createResults]
    cases ht : r.type with
    | none =>
      dsimp only
      rw [ih]
      refine ⟨.untyped ht, fun hr => ?_⟩
      cases hr with
      | untyped _ hr => exact hr
      | empty h1 => rw [ht] at h1; cases h1
      | shown h1 => rw [ht] at h1; cases h1
    | some t =>
      dsimp only
      constructor
      · intro h
        obtain ⟨ts, st₁, h1, h⟩ := se_bind_ok h
        obtain ⟨rest, st₂, h2, h⟩ := se_bind_ok h
        cases h
        have hr := (ih _ _).1 h2
        by_cases hts : ts = ""
        · subst hts; exact .empty ht h1 hr
        · rw [if_pos (by simpa using hts)]; exact .shown ht h1 hts hr
      · intro hr
        cases hr with
        | untyped h1 => rw [ht] at h1; cases h1
        | empty h1 h2 h3 =>
          rw [ht] at h1; cases h1
          rw [se_bind_apply, h2]
          dsimp only
          rw [se_bind_apply, (ih _ _).2 h3]
          rfl
        | shown h1 h2 h3 h4 =>
          rw [ht] at h1; cases h1
          rw [se_bind_apply, h2]
          dsimp only
          rw [se_bind_apply, (ih _ _).2 h4]
          dsimp only
          rw [if_pos (by simpa using h3)]
          rfl

theorem pp_onlyNoneResult_iff (rs : List Result) :
    onlyNoneResult rs = true ↔ ∃ r t, rs = [r] ∧ r.type = some t ∧ isNoneNamed t = true := by
  match rs with
  | [] => simp [onlyNoneResult]
  | [r] =>
    simp only [onlyNoneResult, isNoneResult_iff]
    constructor
    · rintro ⟨t, h1, h2⟩
      exact ⟨r, t, rfl, h1, h2⟩
    · rintro ⟨r', t, h, h1, h2⟩
      cases h
      exact ⟨t, h1, h2⟩
  | _ :: _ :: _ => simp [onlyNoneResult]

/-- several results, or none at all, are never "only a `None` result" -/
theorem pp_onlyNoneResult_of_length {rs : List Result} (h : rs.length ≠ 1) : onlyNoneResult rs = false := by
  match rs, h with
  | [], _ => rfl
  | [_], h => exact absurd rfl h
  | _ :: _ :: _, _ => rfl

/-- the part of `createResultString` after the test for a lone `None` result (a copy of the model
    text; tied to the model by `mk_createResultString_eq`) -/
def mk_resultStringBody (env : Env) (results : List Result) : G String := do
  match ← createResults env results with
  | [] => do addTodo "result without type"; pure ""
  | [r] => pure (" -> " ++ r)
  | rs => pure (" -> (" ++ joinWith ", " rs ++ ")")

theorem mk_createResultString_eq (env : Env) (rs : List Result) :
    createResultString env rs =
      if Spec.onlyNoneResult rs then pure "" else mk_resultStringBody env rs := by
  match rs with
  | [] => rfl
  | [r] =>
    obtain ⟨id, name, ty⟩ := r
    cases ty with
    | none => rfl
    | some t => cases t <;> rfl
  | _ :: _ :: _ => rfl

theorem createResultString_eq (env : Env) (rs : List Result) (st : St) :
    createResultString env rs st =
      if onlyNoneResult rs = true then .ok ("", st)
      else
        match createResults env rs st with
        | .error e => .error e
        | .ok (texts, st') =>
          .ok (resultListText texts, addIf texts.isEmpty "result without type" st') := by
  rw [mk_createResultString_eq]
  cases onlyNoneResult rs with
  | true => rfl
  | false =>
    simp only [Bool.false_eq_true, if_false]
    unfold mk_resultStringBody
    rw [se_bind_apply]
    cases createResults env rs st with
    | error e => rfl
    | ok x =>
      obtain ⟨texts, st'⟩ := x
      match texts with
      | [] => rfl
      | [_] => rfl
      | _ :: _ :: _ => rfl

/-! ### `ResultsRendered` on a concatenation -/

theorem pp_resultsRendered_append {σ ε : Type} {render : AType → σ → Except ε (String × σ)}
    {name : Result → String} {rs₁ rs₂ : List Result} {s s₁ s₂ : σ} {t₁ t₂ : List String}
    (h₁ : ResultsRendered render name rs₁ s t₁ s₁) (h₂ : ResultsRendered render name rs₂ s₁ t₂ s₂) :
    ResultsRendered render name (rs₁ ++ rs₂) s (t₁ ++ t₂) s₂ := by
  induction h₁ with
  | nil => exact h₂
  | untyped h1 _ ih => exact .untyped h1 (ih h₂)
  | empty h1 h2 _ ih => exact .empty h1 h2 (ih h₂)
  | shown h1 h2 h3 _ ih => exact .shown h1 h2 h3 (ih h₂)

/-- rendering `rs₁ ++ rs₂` is rendering `rs₁`, then `rs₂` in the state reached; the texts are concatenated -/
theorem pp_resultsRendered_append_iff {σ ε : Type} {render : AType → σ → Except ε (String × σ)}
    {name : Result → String} {rs₁ rs₂ : List Result} {s s₂ : σ} {texts : List String} :
    ResultsRendered render name (rs₁ ++ rs₂) s texts s₂ ↔
      ∃ t₁ s₁ t₂, ResultsRendered render name rs₁ s t₁ s₁ ∧ ResultsRendered render name rs₂ s₁ t₂ s₂ ∧
        texts = t₁ ++ t₂ := by
  constructor
  · intro h
    induction rs₁ generalizing s texts with
    | nil => exact ⟨[], s, texts, .nil s, h, rfl⟩
    | cons r rs₁ ih =>
      cases h with
      | untyped h1 h2 =>
        obtain ⟨t₁, s₁, t₂, ha, hb, rfl⟩ := ih h2
        exact ⟨t₁, s₁, t₂, .untyped h1 ha, hb, rfl⟩
      | empty h1 h2 h3 =>
        obtain ⟨t₁, s₁, t₂, ha, hb, rfl⟩ := ih h3
        exact ⟨t₁, s₁, t₂, .empty h1 h2 ha, hb, rfl⟩
      | shown h1 h2 h3 h4 =>
        obtain ⟨t₁, s₁, t₂, ha, hb, rfl⟩ := ih h4
        exact ⟨_ :: t₁, s₁, t₂, .shown h1 h2 h3 ha, hb, rfl⟩
  · rintro ⟨t₁, s₁, t₂, ha, hb, rfl⟩
    exact pp_resultsRendered_append ha hb

/-- one result whose type renders as a non-empty text -/
theorem pp_resultsRendered_cons_shown_iff {σ ε : Type} {render : AType → σ → Except ε (String × σ)}
    {name : Result → String} {r : Result} {rs : List Result} {t : AType} {s s' : σ} {texts : List String}
    (ht : r.type = some t) (hne : ∀ s tx s₁, render t s = .ok (tx, s₁) → tx ≠ "") :
    ResultsRendered render name (r :: rs) s texts s' ↔
      ∃ tx s₁ rest, render t s = .ok (tx, s₁) ∧ ResultsRendered render name rs s₁ rest s' ∧
        texts = (name r ++ ": " ++ tx) :: rest := by
  constructor
  · intro h
    cases h with
    | untyped h1 => rw [ht] at h1; cases h1
    | empty h1 h2 =>
      rw [ht] at h1; cases h1
      exact absurd rfl (hne _ _ _ h2)
    | shown h1 h2 _ h4 =>
      rw [ht] at h1; cases h1
      exact ⟨_, _, _, h2, h4, rfl⟩
  · rintro ⟨tx, s₁, rest, h1, h2, rfl⟩
    exact .shown ht h1 (hne _ _ _ h1) h2

theorem resultsRendered_length_le {σ ε : Type} {render : AType → σ → Except ε (String × σ)}
    {name : Result → String} {rs : List Result} {s s' : σ} {texts : List String}
    (h : ResultsRendered render name rs s texts s') : texts.length ≤ rs.length := by
  induction h with
  | nil => simp
  | untyped _ _ ih => simp only [List.length_cons]; omega
  | empty _ _ _ ih => simp only [List.length_cons]; omega
  | shown _ _ _ _ ih => simp only [List.length_cons]; omega

theorem resultsRendered_length_eq {σ ε : Type} {render : AType → σ → Except ε (String × σ)}
    {name : Result → String} {rs : List Result} {s s' : σ} {texts : List String}
    (h : ResultsRendered render name rs s texts s')
    (hall : ∀ r ∈ rs, ∃ t, r.type = some t ∧ ∀ s tx s', render t s = .ok (tx, s') → tx ≠ "") :
    texts.length = rs.length := by
  induction h with
  | nil => simp
  | untyped h1 _ _ =>
    obtain ⟨t, ht, _⟩ := hall _ List.mem_cons_self
    rw [h1] at ht; cases ht
  | empty h1 h2 _ _ =>
    obtain ⟨t, ht, hne⟩ := hall _ List.mem_cons_self
    rw [h1] at ht; cases ht
    exact absurd rfl (hne _ _ _ h2)
  | shown _ _ _ _ ih =>
    simp only [List.length_cons]
    rw [ih (fun r hr => hall r (List.mem_cons_of_mem _ hr))]

/-- `ResultsRendered` is a partial function of the results and the start state -/
theorem resultsRendered_unique {σ ε : Type} {render : AType → σ → Except ε (String × σ)}
    {name : Result → String} {rs : List Result} {s s₁ s₂ : σ} {t₁ t₂ : List String}
    (h₁ : ResultsRendered render name rs s t₁ s₁) (h₂ : ResultsRendered render name rs s t₂ s₂) :
    t₁ = t₂ ∧ s₁ = s₂ := by
  induction h₁ generalizing t₂ s₂ with
  | nil => cases h₂; exact ⟨rfl, rfl⟩
  | untyped h1 _ ih =>
    cases h₂ with
    | untyped _ h => exact ih h
    | empty h2 => rw [h1] at h2; cases h2
    | shown h2 => rw [h1] at h2; cases h2
  | empty h1 h2 _ ih =>
    cases h₂ with
    | untyped h3 => rw [h1] at h3; cases h3
    | empty h3 h4 h5 =>
      rw [h1] at h3; cases h3
      rw [h2] at h4; cases h4
      exact ih h5
    | shown h3 h4 h5 h6 =>
      rw [h1] at h3; cases h3
      rw [h2] at h4; cases h4
      exact absurd rfl h5
  | shown h1 h2 h3 _ ih =>
    cases h₂ with
    | untyped h4 => rw [h1] at h4; cases h4
    | empty h4 h5 =>
      rw [h1] at h4; cases h4
      rw [h2] at h5; cases h5
      exact absurd rfl h3
    | shown h4 h5 _ h7 =>
      rw [h1] at h4; cases h4
      rw [h2] at h5; cases h5
      obtain ⟨rfl, rfl⟩ := ih h7
      exact ⟨rfl, rfl⟩

/-- what holds of every value of a table holds of every successful look-up -/
theorem pp_assocGet? {P : String → Prop} (k : String) : (l : List (String × String)) → (∀ kv ∈ l, P kv.2) →
    ∀ v, assocGet? l k = some v → P v
  | [], _, _, hv => by cases hv
  | (k', v') :: l, h, v, hv => by
    rw [assocGet?] at hv
    split at hv
    · cases hv; exact h _ List.mem_cons_self
    · exact pp_assocGet? k l (fun kv hkv => h kv (List.mem_cons_of_mem _ hkv)) v hv

theorem builtinName_ne_empty {n b : String} (h : builtinName n = some b) : b ≠ "" :=
  pp_assocGet? (P := (· ≠ "")) n Generated.builtinTypeNames (by decide +kernel) b h

theorem escapeKeyword_eq_empty (k : String) : escapeKeyword k = "" ↔ k = "" := by
  unfold escapeKeyword
  split
  · rename_i h
    constructor
    · intro h'; simp [Generated.keywordWrap] at h'
    · intro h'; subst h'; revert h; decide
  · rfl

/-- a class or builtin name never renders as the empty string -/
theorem typeStr_named_ne_empty (env : Env) (n q : String) (s s' : St) (tx : String)
    (h : typeStr env (.named n q) s = .ok (tx, s')) : tx ≠ "" := by
  rw [typeStr] at h
  cases hb : builtinName n with
  | some b =>
    rw [hb] at h
    cases h
    exact builtinName_ne_empty hb
  | none =>
    rw [hb] at h
    simp only [bind, StateT.bind, Except.bind] at h
    cases ha : addToImports env q s with
    | error e => rw [ha] at h; cases h
    | ok v =>
      rw [ha] at h
      simp only at h
      cases hn : n.toList with
      | nil => rw [hn] at h; cases h
      | cons c cs =>
        rw [hn] at h
        have hne : n ≠ "" := by
          intro e; subst e; cases hn
        simp only [get, getThe, MonadStateOf.get, StateT.get, pure, Except.pure, StateT.bind, bind,
          Except.bind] at h
        have hne' : escapeKeyword n ≠ "" := fun e => hne ((escapeKeyword_eq_empty n).1 e)
        split at h
        · change Except.ok (escapeKeyword n, _) = _ at h
          cases h; exact hne'
        · change Except.ok (escapeKeyword n, _) = _ at h
          cases h; exact hne'

/-! ### a `None` result that is rendered -/

/-- the qualified name `builtins.None` is a builtin: nothing is imported -/
theorem pp_addToImports_builtinsNone (env : Env) (s : St) :
    addToImports env "builtins.None" s = .ok ((), s) := rfl

theorem pp_append_nothing (x : String) : x ++ ": " ++ "Nothing?" = x ++ ": Nothing?" := by
  rw [String.append_assoc]
  congr 1

theorem pp_isNoneNamed_iff (t : AType) : isNoneNamed t = true ↔ ∃ n, t = .named n "builtins.None" := by
  cases t <;> simp [isNoneNamed]

theorem pp_append_ne_empty {a : String} (ha : a ≠ "") (b : String) : a ++ b ≠ "" :=
  fun e => ha (String.append_eq_empty_iff.1 e).1

theorem pp_resultListText_ne_empty {texts : List String} (h : texts ≠ []) : resultListText texts ≠ "" := by
  match texts, h with
  | [_], _ => exact pp_append_ne_empty (by decide) _
  | a :: b :: t, _ =>
    show " -> (" ++ joinWith ", " (a :: b :: t) ++ ")" ≠ ""
    rw [String.append_assoc]; exact pp_append_ne_empty (by decide) _

end StubGen
