/-
Helpers for C04a (analyser half of C04): what `isPublicV` (`MyPyAstVisitor._is_public`) computes.

* `s04_isPublicV_eq` — `isPublicV` = parent check, then the re-export verdict, then a pure table
  (`s04_table`) of the parent kind, the name and the qualified name;
* `s04_check_core` — `checkPublicityInReexports` reads the state through three fields only;
* Boolean/list plumbing for the existential reading of the nested `any`s.
-/
import StubGen.Model.Analyze
import StubGen.Proofs.Inventory

namespace StubGen

/-! ### small Boolean / list facts -/

theorem s04_all_not_eq_not_any {α : Type} (p : α → Bool) (l : List α) :
    l.all (fun a => !p a) = !l.any p := by
  induction l with
  | nil => rfl
  | cons a l ih => simp only [List.all_cons, List.any_cons, ih, Bool.not_or]

theorem s04_any_iff {α : Type} (p : α → Bool) (l : List α) : l.any p = true ↔ ∃ a, a ∈ l ∧ p a = true := by
  rw [List.any_eq_true]

theorem s04_ite_some_true_iff (b : Bool) : (if b = true then some true else (none : Option Bool)) = some true ↔ b = true := by
  cases b <;> simp

theorem s04_ite_none_iff (b : Bool) : (if b = true then some true else (none : Option Bool)) = none ↔ b = false := by
  cases b <;> simp

theorem s04_ite_ne_some_false (b : Bool) : (if b = true then some true else (none : Option Bool)) ≠ some false := by
  cases b <;> simp

/-! ### the pieces of `_is_public` -/

/-- `isinstance(parent, Module) or parent.is_public`, as `isPublicV` passes it to the re-export check -/
def s04_parentOk : ParentKind → Bool
  | .module => true
  | .publicClass => true
  | _ => false

/-- publicity of the class that owns the declaration (a constructor passes on the class above it) -/
def s04_owner : ParentKind → Option Bool
  | .publicClass => some true
  | .privateClass => some false
  | .initFunction o => o
  | _ => none

/-- the verdict of the re-export check as `isPublicV` consults it (not at all below a constructor) -/
def s04_viaReexport (s : VSt) (name qname : String) : Option Bool :=
  match parentKind s with
  | .initFunction _ => none
  | pk => checkPublicityInReexports s name qname (s04_parentOk pk)

/-- the pure rest of `_is_public`, once no re-export decides -/
def s04_table (pk : ParentKind) (name qname : String) : Bool :=
  if isInternal name && !pyEndsWith name "__" then false
  else match s04_owner pk with
    | some b => if name == "__init__" || !isInternal name then b
                else !(dropLast' (splitDot qname)).any isInternal
    | none => !(dropLast' (splitDot qname)).any isInternal

theorem s04_isPublicV_eq (s : VSt) (name qname : String) :
    isPublicV s name qname =
      match parentKind s with
      | .other => .error .typeError
      | pk => match s04_viaReexport s name qname with
        | some b => .ok b
        | none => .ok (s04_table pk name qname) := by
  unfold isPublicV s04_viaReexport s04_table
  cases hpk : parentKind s with
  | other => rfl
  | module =>
    dsimp only [s04_parentOk, s04_owner]
    cases checkPublicityInReexports s name qname true with
    | some b => rfl
    | none =>
      dsimp only
      split
      · rfl
      · rw [s04_all_not_eq_not_any]
  | publicClass | privateClass =>
    dsimp only [s04_parentOk, s04_owner]
    cases checkPublicityInReexports s name qname _ with
    | some b => rfl
    | none =>
      dsimp only
      split
      · rfl
      · split
        · rfl
        · rw [s04_all_not_eq_not_any]
  | initFunction o =>
    dsimp only [s04_owner]
    split
    · rfl
    · cases o with
      | none => dsimp only; rw [s04_all_not_eq_not_any]
      | some b =>
        dsimp only
        split
        · rfl
        · rw [s04_all_not_eq_not_any]

/-! ### the re-export check reads three fields of the state -/

/-- `_check_publicity_in_reexports` over the three things it reads: the re-export map, the file's
    qualified name and the file's name -/
def s04_checkCore (rm : List (String × List ModRef)) (moduleQname moduleName name qname : String) (parentOk : Bool) :
    Option Bool :=
  let notInternal := !isInternal name
  let packageId := joinWith "/" (dropLast' (splitDot moduleQname))
  let hit := rm.any fun kv =>
    let key := kv.1
    let moduleIsReexported := key == moduleName || key == moduleQname || key == moduleName ++ ".*" || key == moduleQname ++ ".*"
    (pyEndsWith key name || moduleIsReexported) && kv.2.any fun src =>
      let samePkg := src.id == packageId
      let stripped := pyRstrip key ".*"
      let otherPkg := stripped == qname || stripped == moduleQname
      (samePkg || otherPkg) &&
      ((moduleIsReexported &&
          (src.wildcardImports.any (fun w =>
              ((samePkg && w == moduleName) || (otherPkg && w == moduleQname)) && notInternal && parentOk)
           || src.qualifiedImports.any (fun q =>
              (q.qualifiedName == moduleName || q.qualifiedName == moduleQname)
              && ((q.alias.isNone && notInternal) || (match q.alias with | some a => !isInternal a | none => false))
              && notInternal && parentOk)))
       || (pyEndsWith key name &&
           src.qualifiedImports.any (fun q =>
              pyEndsWith qname q.qualifiedName
              && ((match q.alias with | some a => !isInternal a | none => false) || (q.alias.isNone && notInternal)))))
  if hit then some true else none

theorem s04_check_core (s : VSt) (name qname : String) (parentOk : Bool) :
    checkPublicityInReexports s name qname parentOk =
      s04_checkCore s.api.reexportMap s.fileFullname s.fileName name qname parentOk := rfl

open Lean in
macro "s04_fr" "[" ls:term,* "]" : tactic => do
  let alts ← ls.getElems.mapM fun l => `(tacticSeq| apply $l)
  `(tactic| repeat' (first
      | with_reducible exact s04_FrN.pure _
      | with_reducible exact s04_FrN.throw _
      | with_reducible exact s04_FrN.get
      | with_reducible exact s04_warnV_fr _
      | with_reducible exact s04_FrN.withDoc _
      | with_reducible assumption
      | ((with_reducible apply s04_FrN.modify); intro _; exact ⟨rfl, rfl⟩)
      $[| with_reducible $alts:tacticSeq]*
      | with_reducible apply s04_FrN.bind
      | intro _
      | split
      | dsimp only))

/-- the qualified name `_create_attribute` tests -/
def s04_attrQname (name fullname : String) (var : Option VarInfo) : String :=
  match var with
  | some v => if fullname == name || fullname == "" then v.fullname else fullname
  | none => fullname

/-- decidable equality of results, for the kernel-checked examples (`attribute [local instance]` there) -/
@[instance_reducible] def s04_decEqResult : DecidableEq (Except PyErr Bool)
  | .ok a, .ok b => if h : a = b then isTrue (by rw [h]) else isFalse (fun e => h (by cases e; rfl))
  | .error a, .error b => if h : a = b then isTrue (by rw [h]) else isFalse (fun e => h (by cases e; rfl))
  | .ok _, .error _ => isFalse (fun e => by cases e)
  | .error _, .ok _ => isFalse (fun e => by cases e)

end StubGen
