/-
Proof machinery for C14 (type-source preference and the warning option):
closed forms of `reconcileParameter` / `reconcileResults`, and a two-run simulation (`obl_Sim`) showing that the
analyser is oblivious to `opts.warn`, to the warning log (`l14_Sim`) and to the tables of the API object
(`t18_Sim` in `Proofs/TableLocal`).
-/
import StubGen.Model.Analyze

set_option linter.unusedSimpArgs false
set_option linter.unusedVariables false

namespace StubGen

/-! ### parameters -/

/-- the parameter chosen by `reconcileParameter` -/
def l14_paramOut (env : AEnv) (p : Parameter) : Parameter :=
  match p.type, p.doc.type with
  | _, none => p
  | none, some d =>
    { p with isOptional := p.doc.defaultValue != "", default := .str p.doc.defaultValue, type := some d }
  | some _, some d =>
    if env.opts.preferDocstring then
      { p with isOptional := p.doc.defaultValue != "", default := .str p.doc.defaultValue, type := some d }
    else p

/-- the records logged by `reconcileParameter` -/
def l14_paramWarn (env : AEnv) (fid : String) (p : Parameter) : List String :=
  match p.type, p.doc.type with
  | some h, some d =>
    if env.opts.warn = true ∧ h.pyEq d = false then
      ["Different type hint and docstring types for '" ++ fid ++ "'."]
    else []
  | _, _ => []

theorem l14_warnV_run (m : String) (st : VSt) :
    warnV m st = .ok ((), { st with warnings := st.warnings ++ [m] }) := rfl

theorem l14_warn_bind {β : Type} (m : String) (k : PUnit → V β) (st : VSt) :
    (warnV m >>= k) st = k PUnit.unit { st with warnings := st.warnings ++ [m] } := rfl

theorem l14_reconcileParameter_run (env : AEnv) (fid : String) (p : Parameter) (st : VSt) :
    reconcileParameter env fid p st =
      .ok (l14_paramOut env p, { st with warnings := st.warnings ++ l14_paramWarn env fid p }) := by
  obtain ⟨id, name, isOpt, dflt, asg, doc, ty⟩ := p
  obtain ⟨dty, ddef, ddesc⟩ := doc
  unfold reconcileParameter l14_paramOut l14_paramWarn optTypeNe
  have hd : (if ddef = "" then DefaultVal.str "" else DefaultVal.str ddef) = DefaultVal.str ddef := by
    split
    · next h => rw [h]
    · rfl
  cases ty <;> cases dty <;> cases hp : env.opts.preferDocstring <;> cases hw : env.opts.warn <;>
    simp [bind, StateT.bind, Except.bind, pure, StateT.pure, Except.pure, l14_warnV_run, hd]
  all_goals
    next h d =>
    cases he : h.pyEq d <;>
      simp [StateT.bind, Except.bind, StateT.pure, Except.pure, l14_warnV_run, hd] <;> rfl

theorem l14_reconcileParameter_ok {env : AEnv} {fid : String} {p p' : Parameter} {st st' : VSt}
    (h : reconcileParameter env fid p st = .ok (p', st')) :
    p' = l14_paramOut env p ∧ st' = { st with warnings := st.warnings ++ l14_paramWarn env fid p } := by
  rw [l14_reconcileParameter_run] at h
  cases h
  exact ⟨rfl, rfl⟩

/-! ### results -/

/-- the result appended for documented result number `k` (loop counter, 0-based) without a code result;
    unnamed ones are numbered from 1 like all generated result names -/
def l14_newResult (fid : String) (k : Nat) (d : ResultDoc) (dt : AType) : Result :=
  { id := fid ++ "/" ++ (if d.name != "" then d.name else "result_" ++ toString (k + 1)),
    name := (if d.name != "" then d.name else "result_" ++ toString (k + 1)), type := some dt }

/-- the record `reconcileResults` logs per differing position -/
def l14_resMsg (fid : String) : String :=
  "Different type hint and docstring types for the result of '" ++ fid ++ "'."

/-- does position (`r`, `d`) log a record? -/
def l14_resDiffers (env : AEnv) (r : Result) (d : ResultDoc) : Bool :=
  match r.type, d.type with
  | some h, some dt => env.opts.warn && !(h.pyEq dt)
  | _, _ => false

/-- the list returned by `reconcileResults`, following its recursion -/
def l14_resOut (env : AEnv) (fid : String) : Nat → List Result → List Result → List ResultDoc → List Result
  | _, all, _, [] => all
  | i, all, rs, d :: ds =>
    match d.type with
    | none => l14_resOut env fid (i + 1) all (rs.drop 1) ds
    | some dt =>
      match rs.head? with
      | none => l14_resOut env fid (i + 1) (all ++ [l14_newResult fid i d dt]) (rs.drop 1) ds
      | some _ =>
        if env.opts.preferDocstring then
          l14_resOut env fid (i + 1) (all.mapIdx (fun k x => if k == i then { x with type := some dt } else x)) (rs.drop 1) ds
        else l14_resOut env fid (i + 1) all (rs.drop 1) ds

/-- the records logged by `reconcileResults` -/
def l14_resWarn (env : AEnv) (fid : String) : List Result → List ResultDoc → List String
  | _, [] => []
  | [], _ => []
  | r :: rs, d :: ds =>
    (if l14_resDiffers env r d then [l14_resMsg fid] else []) ++ l14_resWarn env fid rs ds

theorem l14_resWarn_nil (env : AEnv) (fid : String) (ds : List ResultDoc) : l14_resWarn env fid [] ds = [] := by
  cases ds <;> rfl

theorem l14_reconcileResults_run (env : AEnv) (fid : String) :
    ∀ (docs : List ResultDoc) (i : Nat) (all rs : List Result) (st : VSt),
      reconcileResults env fid i all rs docs st =
        .ok (l14_resOut env fid i all rs docs, { st with warnings := st.warnings ++ l14_resWarn env fid rs docs })
  | [], i, all, rs, st => by
    unfold reconcileResults l14_resOut
    cases rs <;> simp [l14_resWarn, pure, StateT.pure, Except.pure]
  | d :: ds, i, all, rs, st => by
    unfold reconcileResults l14_resOut
    cases hd : d.type with
    | none =>
      dsimp only
      rw [l14_reconcileResults_run env fid ds]
      cases rs with
      | nil => simp [l14_resWarn, l14_resWarn_nil]
      | cons r rs' => simp [l14_resWarn, l14_resDiffers, hd]
    | some dt =>
      cases rs with
      | nil =>
        dsimp only [List.head?]
        rw [l14_reconcileResults_run env fid ds]
        simp [l14_resWarn, l14_resWarn_nil, l14_newResult]
      | cons r rs' =>
        dsimp only [List.head?]
        have ih := l14_reconcileResults_run env fid ds
        have hdf : l14_resDiffers env r d = (env.opts.warn && reconcileResults.resultDiffers r dt) := by
          unfold l14_resDiffers reconcileResults.resultDiffers optTypeNe
          rw [hd]
          cases r.type <;> simp
        have hw1 : l14_resWarn env fid (r :: rs') (d :: ds) =
            (if l14_resDiffers env r d then [l14_resMsg fid] else []) ++ l14_resWarn env fid rs' ds := rfl
        rw [hw1, hdf]
        cases hp : env.opts.preferDocstring <;> cases hw : env.opts.warn <;>
          cases hx : reconcileResults.resultDiffers r dt
        all_goals
          simp only [Bool.true_and, Bool.false_and, Bool.false_eq_true, if_false, if_true]
        case false.true.true | true.true.true =>
          rw [l14_warn_bind]
          refine (ih _ _ _ _).trans ?_
          unfold l14_resMsg
          simp only [List.drop_one, List.tail_cons, List.append_assoc]
        all_goals
          rw [ih]; simp only [List.drop_one, List.tail_cons, List.nil_append]

theorem l14_reconcileResults_ok {env : AEnv} {fid : String} {i : Nat} {all rs rs' : List Result}
    {docs : List ResultDoc} {st st' : VSt} (h : reconcileResults env fid i all rs docs st = .ok (rs', st')) :
    rs' = l14_resOut env fid i all rs docs ∧
      st' = { st with warnings := st.warnings ++ l14_resWarn env fid rs docs } := by
  rw [l14_reconcileResults_run] at h
  cases h
  exact ⟨rfl, rfl⟩

/-! #### closed form of the result list -/

/-- code result `r` against its documented result `d` -/
def l14_updOne (env : AEnv) (r : Result) (d : ResultDoc) : Result :=
  match d.type with
  | some dt => if env.opts.preferDocstring then { r with type := some dt } else r
  | none => r

/-- position by position: code results against documented results -/
def l14_zipUpd (env : AEnv) : List Result → List ResultDoc → List Result
  | [], _ => []
  | r :: rs, [] => r :: rs
  | r :: rs, d :: ds => l14_updOne env r d :: l14_zipUpd env rs ds

/-- results appended for the documented results beyond the code results; `k` is the loop counter -/
def l14_appended (fid : String) : Nat → List ResultDoc → List Result
  | _, [] => []
  | k, d :: ds =>
    (match d.type with
     | some dt => [l14_newResult fid k d dt]
     | none => []) ++ l14_appended fid (k + 1) ds

theorem l14_resOut_nil (env : AEnv) (fid : String) :
    ∀ (docs : List ResultDoc) (i : Nat) (all : List Result),
      l14_resOut env fid i all [] docs = all ++ l14_appended fid i docs
  | [], i, all => by simp [l14_resOut, l14_appended]
  | d :: ds, i, all => by
    unfold l14_resOut l14_appended
    cases hd : d.type with
    | none => simp [l14_resOut_nil env fid ds]
    | some dt => simp [l14_resOut_nil env fid ds]

theorem l14_mapIdx_at {α : Type} (f : α → α) (pre : List α) (r : α) (rs : List α) :
    (pre ++ r :: rs).mapIdx (fun k x => if k == pre.length then f x else x) = pre ++ f r :: rs := by
  rw [List.mapIdx_eq_iff]
  intro i
  rcases Nat.lt_trichotomy i pre.length with h | h | h
  · rw [List.getElem?_append_left h, List.getElem?_append_left h]
    have : (i == pre.length) = false := by simp; omega
    cases hx : pre[i]? <;> simp [this]
  · subst h
    simp
  · have h1 : pre.length ≤ i := by omega
    rw [List.getElem?_append_right h1, List.getElem?_append_right h1]
    obtain ⟨j, hj⟩ : ∃ j, i - pre.length = j + 1 := ⟨i - pre.length - 1, by omega⟩
    rw [hj]
    have : (i == pre.length) = false := by simp; omega
    cases hx : rs[j]? <;> simp [this, hx]

theorem l14_resOut_closed (env : AEnv) (fid : String) :
    ∀ (docs : List ResultDoc) (i : Nat) (pre rs : List Result), pre.length = i →
      l14_resOut env fid i (pre ++ rs) rs docs =
        pre ++ l14_zipUpd env rs docs ++ l14_appended fid (i + rs.length) (docs.drop rs.length)
  | [], i, pre, rs, _ => by
    cases rs <;> simp [l14_resOut, l14_zipUpd, l14_appended]
  | d :: ds, i, pre, [], _ => by
    rw [l14_resOut_nil]
    simp [l14_zipUpd]
  | d :: ds, i, pre, r :: rs, hi => by
    have ih := l14_resOut_closed env fid ds (i + 1) (pre ++ [l14_updOne env r d]) rs (by simp [hi])
    have ih' := l14_resOut_closed env fid ds (i + 1) (pre ++ [r]) rs (by simp [hi])
    have e1 : i + 1 + rs.length = i + (rs.length + 1) := by omega
    simp only [List.append_assoc, List.singleton_append, e1] at ih ih'
    unfold l14_resOut
    simp only [List.head?, List.drop_one, List.tail_cons, l14_zipUpd, List.length_cons, List.drop_succ_cons,
      List.drop_zero]
    cases hd : d.type with
    | none =>
      simp only [l14_updOne, hd] at ih ⊢
      rw [ih]
      simp
    | some dt =>
      cases hp : env.opts.preferDocstring with
      | false =>
        simp only [l14_updOne, hd, hp] at ih ⊢
        simp only [Bool.false_eq_true, if_false] at ih ⊢
        rw [ih]
        simp
      | true =>
        simp only [l14_updOne, hd, hp, if_true] at ih ⊢
        subst hi
        rw [l14_mapIdx_at (fun x => { x with type := some dt }) pre r rs, ih]
        simp

theorem l14_zipUpd_length (env : AEnv) :
    ∀ (rs : List Result) (docs : List ResultDoc), (l14_zipUpd env rs docs).length = rs.length
  | [], _ => by simp [l14_zipUpd]
  | r :: rs, [] => by simp [l14_zipUpd]
  | r :: rs, d :: ds => by simp [l14_zipUpd, l14_zipUpd_length env rs ds]

theorem l14_zipUpd_getElem? (env : AEnv) :
    ∀ (rs : List Result) (docs : List ResultDoc) (i : Nat),
      (l14_zipUpd env rs docs)[i]? =
        rs[i]?.map (fun r => match docs[i]? with | some d => l14_updOne env r d | none => r)
  | [], _, i => by simp [l14_zipUpd]
  | r :: rs, [], i => by
    simp only [l14_zipUpd, List.getElem?_nil]
    cases (r :: rs)[i]? <;> rfl
  | r :: rs, d :: ds, 0 => by simp [l14_zipUpd]
  | r :: rs, d :: ds, i + 1 => by
    simp only [l14_zipUpd, List.getElem?_cons_succ]
    exact l14_zipUpd_getElem? env rs ds i

theorem l14_appended_eq (fid : String) :
    ∀ (docs : List ResultDoc) (k : Nat),
      l14_appended fid k docs =
        (docs.zipIdx k).filterMap (fun p => p.1.type.map (l14_newResult fid p.2 p.1))
  | [], k => by simp [l14_appended]
  | d :: ds, k => by
    simp only [l14_appended, List.zipIdx_cons, List.filterMap_cons, l14_appended_eq fid ds (k + 1)]
    cases d.type <;> simp

theorem l14_appended_length (fid : String) :
    ∀ (docs : List ResultDoc) (k : Nat),
      (l14_appended fid k docs).length = (docs.filter (fun d => d.type.isSome)).length
  | [], k => by simp [l14_appended]
  | d :: ds, k => by
    simp only [l14_appended, List.length_append, l14_appended_length fid ds (k + 1), List.filter_cons]
    cases d.type <;> simp <;> omega

theorem l14_resWarn_eq (env : AEnv) (fid : String) :
    ∀ (rs : List Result) (docs : List ResultDoc),
      l14_resWarn env fid rs docs =
        ((rs.zip docs).filter (fun p => l14_resDiffers env p.1 p.2)).map (fun _ => l14_resMsg fid)
  | [], docs => by simp [l14_resWarn_nil]
  | r :: rs, [] => by simp [l14_resWarn]
  | r :: rs, d :: ds => by
    simp only [l14_resWarn, List.zip_cons_cons, List.filter_cons, l14_resWarn_eq env fid rs ds]
    cases l14_resDiffers env r d <;> simp

/-! #### names of the returned results: the generator convention `result_<position + 1>` is preserved -/

theorem l14_toString_inj {m n : Nat} (h : toString m = toString n) : m = n := by
  have h1 := congrArg String.toList h
  simp only [Nat.toString_eq_repr, Nat.toList_repr] at h1
  have h2 := congrArg (fun l => Nat.ofDigitChars 10 l 0) h1
  simpa using h2

/-- the generator's result name for the 0-based position `k` -/
def l14_genName (k : Nat) : String := "result_" ++ toString (k + 1)

theorem l14_genName_inj {m n : Nat} (h : l14_genName m = l14_genName n) : m = n := by
  unfold l14_genName at h
  have h1 := congrArg String.toList h
  simp only [String.toList_append, List.append_cancel_left_eq] at h1
  have := l14_toString_inj (String.toList_inj.1 h1)
  omega

theorem l14_genName_nodup (s n : Nat) : ((List.range' s n).map l14_genName).Nodup := by
  have h : (List.range' s n).Nodup := List.nodup_range'
  exact List.Pairwise.map _ (fun a b hab e => hab (l14_genName_inj e)) h

theorem l14_zipUpd_names (env : AEnv) :
    ∀ (rs : List Result) (docs : List ResultDoc), (l14_zipUpd env rs docs).map (·.name) = rs.map (·.name)
  | [], _ => by simp [l14_zipUpd]
  | r :: rs, [] => by simp [l14_zipUpd]
  | r :: rs, d :: ds => by
    have h1 : (l14_updOne env r d).name = r.name := by
      unfold l14_updOne
      split
      · split <;> rfl
      · rfl
    simp only [l14_zipUpd, List.map_cons, h1, l14_zipUpd_names env rs ds]

theorem l14_appended_names (fid : String) :
    ∀ (docs : List ResultDoc) (k : Nat), (∀ d ∈ docs, d.type.isSome → d.name = "") →
      ((l14_appended fid k docs).map (·.name)).Sublist ((List.range' k docs.length).map l14_genName)
  | [], k, _ => by simp [l14_appended]
  | d :: ds, k, h => by
    have ih := l14_appended_names fid ds (k + 1) (fun d hd => h d (List.mem_cons_of_mem _ hd))
    simp only [l14_appended, List.map_append, List.length_cons, List.range'_succ, List.map_cons]
    cases hd : d.type with
    | none => exact List.Sublist.cons _ (by simpa using ih)
    | some dt =>
      have hn : d.name = "" := h d (List.mem_cons_self) (by simp [hd])
      have : (l14_newResult fid k d dt).name = l14_genName k := by
        simp [l14_newResult, hn, l14_genName]
      simp only [List.map_cons, List.map_nil, List.singleton_append, this]
      exact List.Sublist.cons_cons _ ih

theorem l14_names_of_conv :
    ∀ (rs : List Result) (s : Nat), (∀ j r, rs[j]? = some r → r.name = l14_genName (s + j)) →
      rs.map (·.name) = (List.range' s rs.length).map l14_genName
  | [], s, _ => by simp
  | r :: rs, s, h => by
    have h0 := h 0 r rfl
    have ih := l14_names_of_conv rs (s + 1) (fun j r' hj => by
      have := h (j + 1) r' (by simpa using hj)
      rw [this]; congr 1; omega)
    simp only [List.map_cons, List.length_cons, List.range'_succ, ih]
    rw [h0]; rfl

theorem l14_resOut_names_nodup (env : AEnv) (fid : String) (rs : List Result) (docs : List ResultDoc)
    (hrs : ∀ j r, rs[j]? = some r → r.name = "result_" ++ toString (j + 1))
    (hdocs : ∀ d ∈ docs.drop rs.length, d.type.isSome → d.name = "") :
    ((l14_resOut env fid 0 rs rs docs).map (·.name)).Nodup := by
  have hc := l14_resOut_closed env fid docs 0 [] rs rfl
  simp only [List.nil_append, Nat.zero_add] at hc
  rw [hc, List.map_append, l14_zipUpd_names,
    l14_names_of_conv rs 0 (fun j r hj => by rw [hrs j r hj, Nat.zero_add]; rfl)]
  have hs := l14_appended_names fid (docs.drop rs.length) rs.length hdocs
  have hsub := List.Sublist.append (List.Sublist.refl ((List.range' 0 rs.length).map l14_genName)) hs
  rw [← List.map_append] at hsub
  have := List.range'_append_1 (s := 0) (m := rs.length) (n := (docs.drop rs.length).length)
  rw [Nat.zero_add] at this
  rw [this] at hsub
  exact List.Nodup.sublist hsub (l14_genName_nodup _ _)

/-! ### the analyser is oblivious to `opts.warn`, to the warning log and to the API tables: a two-run simulation -/

/-- `env` with the warning option set to `w` -/
@[reducible] def l14_envW (env : AEnv) (w : Bool) : AEnv := { env with opts := { env.opts with warn := w } }

/-- `s` with the warning log replaced -/
@[reducible] def l14_setW (s : VSt) (w : List String) : VSt := { s with warnings := w }

@[simp] theorem l14_envW_aliases (env : AEnv) (w : Bool) : (l14_envW env w).aliases = env.aliases := rfl
@[simp] theorem l14_envW_infoBases (env : AEnv) (w : Bool) : (l14_envW env w).infoBases = env.infoBases := rfl
@[simp] theorem l14_envW_plaintext (env : AEnv) (w : Bool) : (l14_envW env w).opts.plaintext = env.opts.plaintext := rfl
@[simp] theorem l14_envW_style (env : AEnv) (w : Bool) : (l14_envW env w).opts.style = env.opts.style := rfl
@[simp] theorem l14_envW_prefer (env : AEnv) (w : Bool) :
    (l14_envW env w).opts.preferDocstring = env.opts.preferDocstring := rfl
@[simp] theorem l14_envW_warn (env : AEnv) (w : Bool) : (l14_envW env w).opts.warn = w := rfl

@[simp] theorem l14_setW_api (s : VSt) (w : List String) : (l14_setW s w).api = s.api := rfl
@[simp] theorem l14_setW_stack (s : VSt) (w : List String) : (l14_setW s w).stack = s.stack := rfl
@[simp] theorem l14_setW_typeVars (s : VSt) (w : List String) : (l14_setW s w).typeVars = s.typeVars := rfl
@[simp] theorem l14_setW_doc (s : VSt) (w : List String) : (l14_setW s w).doc = s.doc := rfl
@[simp] theorem l14_setW_fileFullname (s : VSt) (w : List String) : (l14_setW s w).fileFullname = s.fileFullname := rfl
@[simp] theorem l14_setW_fileName (s : VSt) (w : List String) : (l14_setW s w).fileName = s.fileName := rfl
@[simp] theorem l14_setW_seenNone (s : VSt) (w : List String) : (l14_setW s w).seenNone = s.seenNone := rfl
@[simp] theorem l14_setW_setW (s : VSt) (w w' : List String) : l14_setW (l14_setW s w) w' = l14_setW s w' := rfl
theorem l14_setW_self (s : VSt) : l14_setW s s.warnings = s := rfl

/-- two outcomes agree up to the warning log -/
def l14_Rel {α : Type} : Except PyErr (α × VSt) → Except PyErr (α × VSt) → Prop
  | .ok (a, t), .ok (a', t') => a = a' ∧ ∃ w, t' = l14_setW t w
  | .error e, .error e' => e = e'
  | _, _ => False

/-- `x` and `x'`, run from states that differ in the warning log only, agree up to the warning log:
    the same value and final states differing in the log only, or the same error -/
structure l14_Sim {α : Type} (x x' : V α) : Prop where
  run : ∀ (s : VSt) (w : List String), l14_Rel (x s) (x' (l14_setW s w))

theorem l14_Sim.warn_left (m : String) : l14_Sim (warnV m) (Pure.pure PUnit.unit) :=
  ⟨fun _ _ => ⟨rfl, _, rfl⟩⟩

theorem l14_Sim.warn_right (m : String) : l14_Sim (Pure.pure PUnit.unit) (warnV m) :=
  ⟨fun _ _ => ⟨rfl, _, rfl⟩⟩

/-! #### functions that read the state or the environment, but neither the log nor `opts.warn` -/

@[simp] theorem l14_createId_w (s : VSt) (w : List String) (n : String) : createId (l14_setW s w) n = createId s n := rfl
@[simp] theorem l14_bottomModule_w (s : VSt) (w : List String) : bottomModule (l14_setW s w) = bottomModule s := rfl
@[simp] theorem l14_findAlias_w (env : AEnv) (s : VSt) (w : List String) (n k : String) :
    findAlias env (l14_setW s w) n k = findAlias env s n k := rfl
@[simp] theorem l14_findAlias_w' (env : AEnv) (b : Bool) (s : VSt) (n k : String) :
    findAlias (l14_envW env b) s n k = findAlias env s n k := rfl
@[simp] theorem l14_isPublicV_w (s : VSt) (w : List String) (n q : String) :
    isPublicV (l14_setW s w) n q = isPublicV s n q := rfl
@[simp] theorem l14_getReexportedBy_w (s : VSt) (w : List String) (q : String) :
    getReexportedBy (l14_setW s w) q = getReexportedBy s q := rfl
@[simp] theorem l14_attributeAlreadyDefined_w (s : VSt) (w : List String) (n : String) :
    attributeAlreadyDefined (l14_setW s w) n = attributeAlreadyDefined s n := rfl

@[simp] theorem l14_inheritsFromException_w (env : AEnv) (b : Bool) :
    ∀ (fuel : Nat) (n : String), inheritsFromException (l14_envW env b) fuel n = inheritsFromException env fuel n
  | 0, _ => rfl
  | fuel + 1, n => by
    unfold inheritsFromException
    have : inheritsFromException (l14_envW env b) fuel = inheritsFromException env fuel :=
      funext (l14_inheritsFromException_w env b fuel)
    rw [this]

/-! #### the simulation, for the log and the tables at once

The analyser reads neither the warning log nor the tables of the API object (only its re-export map).  `kW` and `kT`
say which of the two differs between the two runs; `Proofs/TableLocal` uses the instance "tables only". -/

/-- `s` with the warning log replaced by `w` if `kW`, and the tables of its API object by those of `u` if `kT`
    (the re-export map is kept) -/
@[reducible] def obl_put (kW kT : Bool) (s : VSt) (w : List String) (u : AnaResult) : VSt :=
  { s with warnings := bif kW then w else s.warnings,
           api := { (bif kT then u else s.api) with reexportMap := s.api.reexportMap } }

/-- `env` with the warning option set to `b`, where the log may differ -/
@[reducible] def obl_env (kW : Bool) (env : AEnv) (b : Bool) : AEnv := l14_envW env (bif kW then b else env.opts.warn)

/-- `t'` is `t` up to the log and the tables if they agree on every other field and on the re-export map,
    on the log unless `kW`, and on the API object unless `kT` -/
theorem obl_put_of {kW kT : Bool} {t t' : VSt}
    (h : t' = { t with warnings := t'.warnings, api := { t'.api with reexportMap := t.api.reexportMap } })
    (hw : kW = false → t'.warnings = t.warnings) (ha : kT = false → t'.api = t.api) :
    ∃ w u, t' = obl_put kW kT t w u := by
  refine ⟨t'.warnings, t'.api, ?_⟩
  cases kW <;> cases kT
  · rw [hw rfl, ha rfl] at h; exact h
  · rw [hw rfl] at h; exact h
  · rw [ha rfl] at h; exact h
  · exact h

/-- two outcomes agree up to the log (if `kW`) and the tables (if `kT`) -/
def obl_Rel (kW kT : Bool) {α : Type} : Except PyErr (α × VSt) → Except PyErr (α × VSt) → Prop
  | .ok (a, t), .ok (a', t') => a = a' ∧ ∃ w u, t' = obl_put kW kT t w u
  | .error e, .error e' => e = e'
  | _, _ => False

/-- `x` and `x'`, run from states that differ in the log (if `kW`) and the tables (if `kT`) only, return the same
    value and end in states that again differ in these only, or raise the same error -/
structure obl_Sim (kW kT : Bool) {α : Type} (x x' : V α) : Prop where
  run : ∀ (s : VSt) (w : List String) (u : AnaResult), obl_Rel kW kT (x s) (x' (obl_put kW kT s w u))

theorem obl_Rel.l14 {α : Type} {r r' : Except PyErr (α × VSt)} (h : obl_Rel true false r r') : l14_Rel r r' := by
  cases r <;> cases r' <;> try exact h
  obtain ⟨ha, w, _, ht⟩ := h
  exact ⟨ha, w, ht⟩

theorem obl_Sim.l14 {α : Type} {x x' : V α} (h : obl_Sim true false x x') : l14_Sim x x' :=
  ⟨fun s w => (h.run s w s.api).l14⟩

namespace obl_Sim
variable {kW kT : Bool} {α β : Type}

theorem pure (a : α) : obl_Sim kW kT (Pure.pure a : V α) (Pure.pure a) :=
  ⟨fun _ w u => ⟨rfl, w, u, rfl⟩⟩

theorem throw (e : PyErr) : obl_Sim kW kT (throwV e : V α) (throwV e) :=
  ⟨fun _ _ _ => rfl⟩

theorem bind {x x' : V α} {f f' : α → V β} (hx : obl_Sim kW kT x x') (hf : ∀ a, obl_Sim kW kT (f a) (f' a)) :
    obl_Sim kW kT (x >>= f) (x' >>= f') := by
  refine ⟨fun s w u => ?_⟩
  have h := hx.run s w u
  simp only [Bind.bind, StateT.bind, Except.bind]
  revert h
  cases x s with
  | error e =>
    cases x' (obl_put kW kT s w u) with
    | error e' => exact fun h => h
    | ok r' => exact fun h => h.elim
  | ok r =>
    obtain ⟨a, t⟩ := r
    cases x' (obl_put kW kT s w u) with
    | error e' => exact fun h => h.elim
    | ok r' =>
      obtain ⟨a', t'⟩ := r'
      rintro ⟨rfl, w', u', rfl⟩
      exact (hf a).run t w' u'

theorem get_bind {f f' : VSt → V β} (hf : ∀ s w u, obl_Sim kW kT (f s) (f' (obl_put kW kT s w u))) :
    obl_Sim kW kT (get >>= f) (get >>= f') :=
  ⟨fun s w u => (hf s w u).run s w u⟩

theorem modify {g g' : VSt → VSt} (hg : ∀ s w u, ∃ w' u', g' (obl_put kW kT s w u) = obl_put kW kT (g s) w' u') :
    obl_Sim kW kT (modify g : V PUnit) (modify g') :=
  ⟨fun s w u => ⟨rfl, hg s w u⟩⟩

theorem set {t t' : VSt} (ht : ∃ w' u', t' = obl_put kW kT t w' u') : obl_Sim kW kT (set t : V PUnit) (set t') :=
  ⟨fun _ _ _ => ⟨rfl, ht⟩⟩

theorem warn (m : String) : obl_Sim kW kT (warnV m) (warnV m) :=
  modify fun _ _ _ => obl_put_of rfl (by rintro rfl; rfl) (by rintro rfl; rfl)

theorem ite {c : Prop} {d1 d2 : Decidable c} {x y x' y' : V α} (h1 : c → obl_Sim kW kT x x')
    (h2 : ¬c → obl_Sim kW kT y y') : obl_Sim kW kT (@_root_.ite _ c d1 x y) (@_root_.ite _ c d2 x' y') := by
  by_cases h : c
  · rw [if_pos h, if_pos h]; exact h1 h
  · rw [if_neg h, if_neg h]; exact h2 h

theorem withDoc (f : ParserState → Except PyErr (α × ParserState)) : obl_Sim kW kT (withDoc f) (withDoc f) := by
  refine ⟨fun s w u => ?_⟩
  show obl_Rel kW kT (match f s.doc with | .error e => .error e | .ok (a, d) => .ok (a, { s with doc := d }))
    (match f s.doc with | .error e => .error e | .ok (a, d) => .ok (a, { obl_put kW kT s w u with doc := d }))
  cases f s.doc with
  | error e => exact rfl
  | ok r => exact ⟨rfl, w, u, rfl⟩

end obl_Sim

@[simp] theorem obl_put_reexportMap (kW kT : Bool) (s : VSt) (w : List String) (u : AnaResult) :
    (obl_put kW kT s w u).api.reexportMap = s.api.reexportMap := rfl
@[simp] theorem obl_createId (kW kT : Bool) (s : VSt) (w : List String) (u : AnaResult) (n : String) :
    createId (obl_put kW kT s w u) n = createId s n := rfl
@[simp] theorem obl_bottomModule (kW kT : Bool) (s : VSt) (w : List String) (u : AnaResult) :
    bottomModule (obl_put kW kT s w u) = bottomModule s := rfl
@[simp] theorem obl_findAlias (kW kT : Bool) (env : AEnv) (s : VSt) (w : List String) (u : AnaResult) (n k : String) :
    findAlias env (obl_put kW kT s w u) n k = findAlias env s n k := rfl
@[simp] theorem obl_isPublicV (kW kT : Bool) (s : VSt) (w : List String) (u : AnaResult) (n q : String) :
    isPublicV (obl_put kW kT s w u) n q = isPublicV s n q := rfl
@[simp] theorem obl_attributeAlreadyDefined (kW kT : Bool) (s : VSt) (w : List String) (u : AnaResult) (n : String) :
    attributeAlreadyDefined (obl_put kW kT s w u) n = attributeAlreadyDefined s n := rfl
@[simp] theorem obl_getReexportedBy (kW kT : Bool) (s : VSt) (w : List String) (u : AnaResult) (q : String) :
    getReexportedBy (obl_put kW kT s w u) q = getReexportedBy s q := rfl

open Lean in
macro "l14_sim" "[" ls:term,* "]" : tactic => do
  let alts ← ls.getElems.mapM fun l => `(tacticSeq| apply $l)
  `(tactic| repeat' (first
      | with_reducible exact l14_Sim.pure _
      | with_reducible exact l14_Sim.throw _
      | with_reducible exact l14_Sim.warn _ _
      | with_reducible exact l14_Sim.withDoc _
      | with_reducible assumption
      | ((with_reducible apply l14_Sim.modify); intro _ _; exact ⟨_, rfl⟩)
      | ((with_reducible apply l14_Sim.set); exact ⟨_, rfl⟩)
      | ((with_reducible apply l14_Sim.get_bind); intro _ _)
      $[| with_reducible $alts:tacticSeq]*
      | with_reducible apply l14_Sim.bind
      | with_reducible apply l14_Sim.ite
      | intro _
      | (dsimp only [l14_envW_aliases, l14_envW_infoBases, l14_envW_plaintext, l14_envW_style, l14_envW_prefer,
          l14_envW_warn, l14_setW_api, l14_setW_stack, l14_setW_typeVars, l14_setW_doc, l14_setW_fileFullname,
          l14_setW_fileName, l14_setW_seenNone, l14_createId_w, l14_bottomModule_w, l14_findAlias_w,
          l14_findAlias_w', l14_isPublicV_w, l14_getReexportedBy_w, l14_attributeAlreadyDefined_w,
          l14_inheritsFromException_w])
      | simp only [l14_inheritsFromException_w]
      | split))

/-- Walks through a visitor function: the rules of `obl_Sim` along the structure of the `do` block, the lemmas given
    for the functions it calls; a state update that touches the log or the tables is closed by `obl_put_of`. -/
macro "obl_sim" "[" ls:term,* "]" : tactic =>
  `(tactic| repeat' (first
      | with_reducible exact obl_Sim.pure _
      | ((with_reducible apply obl_Sim.get_bind); intro _ _ _)
      | with_reducible refine obl_Sim.bind ?_ (fun _ => ?_)
      | with_reducible exact obl_Sim.throw _
      | with_reducible refine obl_Sim.ite (fun _ => ?_) (fun _ => ?_)
      | with_reducible assumption
      $[| with_reducible apply $ls]*
      | with_reducible exact obl_Sim.withDoc _
      | with_reducible exact obl_Sim.warn _
      | ((with_reducible apply obl_Sim.modify); intro _ _ _;
          first | exact ⟨_, _, rfl⟩ | exact obl_put_of (by rfl) (by intro h; subst h; rfl) (by intro h; subst h; rfl))
      | ((with_reducible apply obl_Sim.set);
          first | exact ⟨_, _, rfl⟩ | exact obl_put_of (by rfl) (by intro h; subst h; rfl) (by intro h; subst h; rfl))
      | intro _
      | (dsimp only [l14_envW_aliases, l14_envW_infoBases, l14_envW_plaintext, l14_envW_style, l14_envW_prefer,
          l14_findAlias_w', obl_put_reexportMap, obl_createId, obl_bottomModule, obl_findAlias, obl_isPublicV,
          obl_getReexportedBy, obl_attributeAlreadyDefined])
      | split))

section
variable (kW kT : Bool) (env : AEnv) (b : Bool)

theorem obl_classDocumentation_sim (fullname : String) (defs : List Def) :
    obl_Sim kW kT (classDocumentation env fullname defs) (classDocumentation (obl_env kW env b) fullname defs) := by
  unfold classDocumentation
  obl_sim []

theorem obl_functionDocumentation_sim (f : FuncDef) :
    obl_Sim kW kT (functionDocumentation env f) (functionDocumentation (obl_env kW env b) f) := by
  unfold functionDocumentation
  obl_sim []

theorem obl_parameterDocumentation_sim (fq pname parent : String) :
    obl_Sim kW kT (parameterDocumentation env fq pname parent) (parameterDocumentation (obl_env kW env b) fq pname parent) := by
  unfold parameterDocumentation
  obl_sim []

theorem obl_attributeDocumentation_sim (parent name : String) :
    obl_Sim kW kT (attributeDocumentation env parent name) (attributeDocumentation (obl_env kW env b) parent name) := by
  unfold attributeDocumentation
  obl_sim []

theorem obl_resultDocumentation_sim (fq : String) :
    obl_Sim kW kT (resultDocumentation env fq) (resultDocumentation (obl_env kW env b) fq) := by
  unfold resultDocumentation
  obl_sim []

end

mutual
theorem obl_toAbstractNoUn_sim (kW kT : Bool) (env : AEnv) (b : Bool) :
    (t : MType) → obl_Sim kW kT (toAbstractNoUn env t) (toAbstractNoUn (obl_env kW env b) t)
  | .inst name fullname [] | .inst name fullname [k] | .inst name fullname (k :: v :: rest) | .tuple items
  | .union items | .typeVar name ub ubStr | .callable args ret | .any t missing | .none | .literal v
  | .unbound name args | .other _ _ => by
    unfold toAbstractNoUn
    obl_sim [obl_toAbstracts_sim kW kT env b, obl_toAbstractNoUn_sim kW kT env b]
theorem obl_toAbstracts_sim (kW kT : Bool) (env : AEnv) (b : Bool) :
    (ts : List MType) → obl_Sim kW kT (toAbstracts env ts) (toAbstracts (obl_env kW env b) ts)
  | [] => by
    unfold toAbstracts
    obl_sim []
  | t :: ts => by
    unfold toAbstracts
    obl_sim [obl_toAbstracts_sim kW kT env b, obl_toAbstractNoUn_sim kW kT env b]
end

theorem obl_Sim.forIn {kW kT : Bool} {α β : Type} {f f' : α → β → V (ForInStep β)} (hf : ∀ a b, obl_Sim kW kT (f a b) (f' a b)) :
    ∀ (l : List α) (b : β), obl_Sim kW kT (forIn l b f) (forIn l b f')
  | [], b => by
    rw [List.forIn_nil, List.forIn_nil]
    exact obl_Sim.pure _
  | a :: l, b => by
    rw [List.forIn_cons, List.forIn_cons]
    refine obl_Sim.bind (hf a b) (fun r => ?_)
    cases r with
    | done b' => exact obl_Sim.pure _
    | yield b' => exact obl_Sim.forIn hf l b'

theorem obl_Sim.mapM {kW kT : Bool} {α β : Type} {f f' : α → V β} (hf : ∀ a, obl_Sim kW kT (f a) (f' a)) :
    ∀ (l : List α), obl_Sim kW kT (l.mapM f) (l.mapM f')
  | [] => by
    rw [List.mapM_nil, List.mapM_nil]
    exact obl_Sim.pure _
  | a :: l => by
    rw [List.mapM_cons, List.mapM_cons]
    exact obl_Sim.bind (hf a) (fun b => obl_Sim.bind (obl_Sim.mapM hf l) (fun bs => obl_Sim.pure _))

/-- two optional computations: both absent, or both present and in simulation -/
structure obl_OptSim (kW kT : Bool) {α : Type} (o o' : Option (V α)) : Prop where
  run : match o, o' with
    | some v, some v' => obl_Sim kW kT v v'
    | none, none => True
    | _, _ => False

theorem obl_OptSim.none {kW kT : Bool} {α : Type} : obl_OptSim kW kT (none : Option (V α)) none := ⟨trivial⟩
theorem obl_OptSim.some {kW kT : Bool} {α : Type} {v v' : V α} (h : obl_Sim kW kT v v') : obl_OptSim kW kT (some v) (some v') := ⟨h⟩

theorem obl_Sim.optMatch {kW kT : Bool} {o o' : Option (V AType)} {d d' : V AType} (h : obl_OptSim kW kT o o')
    (hd : obl_Sim kW kT d d') :
    obl_Sim kW kT (match (generalizing := false) o with | some v => v | none => d)
      (match (generalizing := false) o' with | some v => v | none => d') := by
  obtain ⟨h⟩ := h
  cases o <;> cases o' <;> first | exact hd | exact h | exact h.elim

section
variable (kW kT : Bool) (env : AEnv) (b : Bool)

theorem obl_toAbstract_sim (t : MType) (un : Option MType) :
    obl_Sim kW kT (toAbstract env t un) (toAbstract (obl_env kW env b) t un) := by
  unfold toAbstract
  dsimp only
  apply obl_Sim.optMatch
  · repeat' (first
      | exact obl_OptSim.none
      | apply obl_OptSim.some
      | split)
    all_goals obl_sim [obl_toAbstractNoUn_sim, obl_toAbstracts_sim]
  · exact obl_toAbstractNoUn_sim kW kT env b t

theorem obl_parseParameter_sim (f : FuncDef) (fid : String) (a : Arg) :
    obl_Sim kW kT (parseParameter env f fid a) (parseParameter (obl_env kW env b) f fid a) := by
  unfold parseParameter
  obl_sim [obl_toAbstract_sim, obl_parameterDocumentation_sim, obl_Sim.forIn]

theorem obl_parseParameters_sim (f : FuncDef) (fid : String) :
    ∀ (as : List Arg), obl_Sim kW kT (parseParameters env f fid as) (parseParameters (obl_env kW env b) f fid as)
  | [] => by
    unfold parseParameters
    obl_sim []
  | a :: as => by
    unfold parseParameters
    obl_sim [obl_parseParameter_sim, obl_parseParameters_sim f fid]

theorem obl_parseResults_sim (f : FuncDef) (fid : String) (docs : List ResultDoc) :
    obl_Sim kW kT (parseResults env f fid docs) (parseResults (obl_env kW env b) f fid docs) := by
  unfold parseResults
  obl_sim [obl_toAbstract_sim]

end

/-! #### the two functions that read `opts.warn` -/

theorem l14_resOut_envW (env : AEnv) (b : Bool) (fid : String) :
    ∀ (docs : List ResultDoc) (i : Nat) (all rs : List Result),
      l14_resOut (l14_envW env b) fid i all rs docs = l14_resOut env fid i all rs docs
  | [], i, all, rs => by unfold l14_resOut; rfl
  | d :: ds, i, all, rs => by
    unfold l14_resOut
    simp only [l14_resOut_envW env b fid ds, l14_envW_prefer]

section
variable (kW kT : Bool) (env : AEnv) (b : Bool)

theorem obl_reconcileParameter_sim (fid : String) (p : Parameter) :
    obl_Sim kW kT (reconcileParameter env fid p) (reconcileParameter (obl_env kW env b) fid p) := by
  refine ⟨fun s w u => ?_⟩
  rw [l14_reconcileParameter_run, l14_reconcileParameter_run]
  exact ⟨rfl, obl_put_of rfl (by rintro rfl; rfl) (by rintro rfl; rfl)⟩

theorem obl_reconcileParameters_sim (fid : String) :
    ∀ (ps : List Parameter), obl_Sim kW kT (reconcileParameters env fid ps) (reconcileParameters (obl_env kW env b) fid ps)
  | [] => by
    unfold reconcileParameters
    obl_sim []
  | p :: ps => by
    unfold reconcileParameters
    obl_sim [obl_reconcileParameter_sim, obl_reconcileParameters_sim fid]

theorem obl_reconcileResults_sim (fid : String) (i : Nat) (all rs : List Result) (docs : List ResultDoc) :
    obl_Sim kW kT (reconcileResults env fid i all rs docs) (reconcileResults (obl_env kW env b) fid i all rs docs) := by
  refine ⟨fun s w u => ?_⟩
  rw [l14_reconcileResults_run, l14_reconcileResults_run, l14_resOut_envW env (bif kW then b else env.opts.warn)]
  exact ⟨rfl, obl_put_of rfl (by rintro rfl; rfl) (by rintro rfl; rfl)⟩

theorem obl_enterFuncdef_sim (f : FuncDef) : obl_Sim kW kT (enterFuncdef env f) (enterFuncdef (obl_env kW env b) f) := by
  unfold enterFuncdef
  obl_sim [obl_functionDocumentation_sim, obl_parseParameters_sim, obl_reconcileParameters_sim,
    obl_resultDocumentation_sim, obl_parseResults_sim, obl_reconcileResults_sim]

theorem obl_leaveFuncdef_sim : obl_Sim kW kT leaveFuncdef leaveFuncdef := by
  unfold leaveFuncdef
  obl_sim []

end

section
variable (kW kT : Bool) (env : AEnv) (b : Bool)

theorem obl_createAttributeV_sim (isMember : Bool) (name fullname : String) (isVar : Bool) (var : Option VarInfo)
    (un : Option MType) (isStatic : Bool) :
    obl_Sim kW kT (createAttributeV env isMember name fullname isVar var un isStatic)
      (createAttributeV (obl_env kW env b) isMember name fullname isVar var un isStatic) := by
  unfold createAttributeV
  obl_sim [obl_toAbstract_sim, obl_attributeDocumentation_sim]

end

/-- a fold over pairs (tables, frames) whose step never lets the tables influence the frames or the re-export map,
    and, started from the same tables, ends in the same tables -/
def obl_PairRel (kT : Bool) (x x' : AnaResult × List Frame) : Prop :=
  x.2 = x'.2 ∧ x'.1.reexportMap = x.1.reexportMap ∧ (kT = false → x'.1 = x.1)

theorem obl_foldl_pair {kT : Bool} {ι : Type} (step : AnaResult × List Frame → ι → AnaResult × List Frame)
    (hstep : ∀ x x' i, obl_PairRel kT x x' → obl_PairRel kT (step x i) (step x' i)) :
    ∀ (items : List ι) (x x' : AnaResult × List Frame), obl_PairRel kT x x' →
      obl_PairRel kT (items.foldl step x) (items.foldl step x')
  | [], _, _, h => h
  | i :: items, x, x', h => obl_foldl_pair step hstep items _ _ (hstep x x' i h)

theorem obl_set_fold {kW kT : Bool} {ι : Type} (step : AnaResult × List Frame → ι → AnaResult × List Frame)
    (hstep : ∀ x x' i, obl_PairRel kT x x' → obl_PairRel kT (step x i) (step x' i))
    (s : VSt) (w : List String) (u : AnaResult) (fr : List Frame) (items : List ι) :
    ∃ w' u', ({ obl_put kW kT s w u with
                  api := (items.foldl step ((obl_put kW kT s w u).api, fr)).1,
                  stack := (items.foldl step ((obl_put kW kT s w u).api, fr)).2 } : VSt)
      = obl_put kW kT { s with api := (items.foldl step (s.api, fr)).1, stack := (items.foldl step (s.api, fr)).2 } w' u' := by
  obtain ⟨h1, h2, h3⟩ := obl_foldl_pair step hstep items (s.api, fr) ((obl_put kW kT s w u).api, fr)
    ⟨rfl, rfl, fun h => by subst h; rfl⟩
  refine obl_put_of ?_ (by rintro rfl; rfl) (fun h => h3 h)
  simp only [← h1, ← h2]

theorem obl_parseAttributes_go_sim {one one' : Bool → String → String → Bool → Option VarInfo → V (List Attribute)}
    (h : ∀ m n fq iv var, obl_Sim kW kT (one m n fq iv var) (one' m n fq iv var)) :
    ∀ (items : List LValue), obl_Sim kW kT (parseAttributes.go one items) (parseAttributes.go one' items)
  | [] => by
    unfold parseAttributes.go
    obl_sim []
  | lv :: rest => by
    have := obl_parseAttributes_go_sim h rest
    cases lv <;> (unfold parseAttributes.go; obl_sim [h])

section
variable (kW kT : Bool) (env : AEnv) (b : Bool)

theorem obl_parseAttributes_sim (lv : LValue) (un : Option MType) (isStatic : Bool) :
    obl_Sim kW kT (parseAttributes env lv un isStatic) (parseAttributes (obl_env kW env b) lv un isStatic) := by
  unfold parseAttributes
  dsimp only
  have h : ∀ (m : Bool) (n fq : String) (iv : Bool) (var : Option VarInfo),
      obl_Sim kW kT (do
          let s ← get
          match attributeAlreadyDefined s n with
            | Except.error e => throwV e
            | Except.ok true => pure []
            | Except.ok false =>
              if (m && !iv) = true then pure []
              else do
                let a ← createAttributeV env m n fq iv var un isStatic
                pure [a] : V (List Attribute))
        (do
          let s ← get
          match attributeAlreadyDefined s n with
            | Except.error e => throwV e
            | Except.ok true => pure []
            | Except.ok false =>
              if (m && !iv) = true then pure []
              else do
                let a ← createAttributeV (obl_env kW env b) m n fq iv var un isStatic
                pure [a]) := by
    intro m n fq iv var
    obl_sim [obl_createAttributeV_sim]
  cases lv with
  | name n fq isVar var => exact h _ _ _ _ _
  | member n fq isVar var => exact h _ _ _ _ _
  | tuple items => exact obl_parseAttributes_go_sim h items
  | other => exact obl_Sim.pure _

theorem obl_enterAssignment_go_sim (a : Assignment) :
    ∀ (lvs : List LValue), obl_Sim kW kT (enterAssignment.go env a lvs) (enterAssignment.go (obl_env kW env b) a lvs)
  | [] => by
    unfold enterAssignment.go
    obl_sim []
  | lv :: rest => by
    unfold enterAssignment.go
    obl_sim [obl_parseAttributes_sim, obl_enterAssignment_go_sim a]

theorem obl_enterAssignment_sim (a : Assignment) :
    obl_Sim kW kT (enterAssignment env a) (enterAssignment (obl_env kW env b) a) := by
  unfold enterAssignment
  obl_sim [obl_enterAssignment_go_sim]

theorem obl_leaveAssignment_sim : obl_Sim kW kT leaveAssignment leaveAssignment := by
  unfold leaveAssignment
  obl_sim []
  all_goals
    apply obl_Sim.set
    refine obl_set_fold _ ?_ _ _ _ _ _
    intro x x' i h
    obtain ⟨A, fr⟩ := x
    obtain ⟨A', fr'⟩ := x'
    obtain ⟨h1, h2, h3⟩ := h
    simp only at h1 h2 h3
    subst h1
    cases i <;> (dsimp only; split <;> exact ⟨rfl, h2, fun h => by rw [h3 h]⟩)

theorem obl_walkAssignment_sim (a : Assignment) :
    obl_Sim kW kT (walkAssignment env a) (walkAssignment (obl_env kW env b) a) := by
  unfold walkAssignment
  obl_sim [obl_enterAssignment_sim, obl_leaveAssignment_sim]

end

section
variable (kW kT : Bool) (env : AEnv) (b : Bool)

theorem obl_typeParameter_sim (tv : TypeVarInfo) :
    obl_Sim kW kT (typeParameter env tv) (typeParameter (obl_env kW env b) tv) := by
  unfold typeParameter
  obl_sim [obl_toAbstract_sim, obl_toAbstracts_sim]

theorem obl_typeParameters_sim :
    ∀ (l : List (Option TypeVarInfo)), obl_Sim kW kT (typeParameters env l) (typeParameters (obl_env kW env b) l)
  | [] => by
    unfold typeParameters
    obl_sim []
  | none :: _ => by
    unfold typeParameters
    obl_sim []
  | some tv :: rest => by
    unfold typeParameters
    obl_sim [obl_typeParameter_sim, obl_typeParameters_sim]

theorem obl_ctorFullDoc_sim :
    ∀ (defs : List Def), obl_Sim kW kT (ctorFullDoc env defs) (ctorFullDoc (obl_env kW env b) defs)
  | [] => by
    unfold ctorFullDoc
    obl_sim []
  | d :: rest => by
    have := obl_ctorFullDoc_sim rest
    cases d <;> (unfold ctorFullDoc; obl_sim [obl_functionDocumentation_sim])

theorem obl_enterClassdef_sim (name fullname : String) (bases removed : List BaseExpr) (defs : List Def) :
    obl_Sim kW kT (enterClassdef env name fullname bases removed defs)
      (enterClassdef (obl_env kW env b) name fullname bases removed defs) := by
  unfold enterClassdef
  simp only [l14_inheritsFromException_w]
  obl_sim [obl_classDocumentation_sim, obl_typeParameters_sim, obl_ctorFullDoc_sim, obl_Sim.mapM]

theorem obl_leaveClassdef_sim : obl_Sim kW kT leaveClassdef leaveClassdef := by
  unfold leaveClassdef
  obl_sim []

theorem obl_enterEnumdef_sim (name fullname : String) (defs : List Def) :
    obl_Sim kW kT (enterEnumdef env name fullname defs) (enterEnumdef (obl_env kW env b) name fullname defs) := by
  unfold enterEnumdef
  obl_sim [obl_classDocumentation_sim]

theorem obl_leaveEnumdef_sim : obl_Sim kW kT leaveEnumdef leaveEnumdef := by
  unfold leaveEnumdef
  obl_sim []

theorem obl_enterModuledef_sim (m : SrcModule) : obl_Sim kW kT (enterModuledef m) (enterModuledef m) := by
  unfold enterModuledef
  refine obl_Sim.modify fun s w u => ?_
  cases pyEndsWith m.path "__init__.py"
  · exact ⟨_, _, rfl⟩
  -- a package: `addReexports` reads and writes the re-export map only
  · exact obl_put_of rfl (by rintro rfl; rfl) (by rintro rfl; rfl)

theorem obl_leaveModuledef_sim : obl_Sim kW kT leaveModuledef leaveModuledef := by
  unfold leaveModuledef
  obl_sim []

theorem obl_walkNone_sim : obl_Sim kW kT walkNone walkNone := by
  unfold walkNone
  obl_sim []

theorem obl_walkFunc_sim (f : FuncDef) : obl_Sim kW kT (walkFunc env f) (walkFunc (obl_env kW env b) f) := by
  unfold walkFunc
  obl_sim [obl_enterFuncdef_sim, obl_leaveFuncdef_sim, obl_walkAssignment_sim, obl_Sim.forIn]

end

mutual
theorem obl_walkDef_sim (kW kT : Bool) (env : AEnv) (b : Bool) (mode : WalkMode) :
    (d : Def) → obl_Sim kW kT (walkDef env mode d) (walkDef (obl_env kW env b) mode d)
  | .func f | .decorator f | .overloaded impl | .cls name fullname bases removed defs | .assign a | .docExpr _ _
  | .other _ => by
    unfold walkDef
    obl_sim [obl_walkFunc_sim, obl_walkNone_sim, obl_walkAssignment_sim, obl_enterEnumdef_sim, obl_leaveEnumdef_sim,
      obl_enterClassdef_sim, obl_leaveClassdef_sim, obl_walkDefs_sim kW kT env b]
theorem obl_walkDefs_sim (kW kT : Bool) (env : AEnv) (b : Bool) (mode : WalkMode) :
    (ds : List Def) → obl_Sim kW kT (walkDefs env mode ds) (walkDefs (obl_env kW env b) mode ds)
  | [] => by
    unfold walkDefs
    obl_sim []
  | d :: ds => by
    unfold walkDefs
    obl_sim [obl_walkDef_sim kW kT env b, obl_walkDefs_sim kW kT env b]
end

section
variable (kW kT : Bool) (env : AEnv) (b : Bool)

theorem obl_walkModule_sim (m : SrcModule) : obl_Sim kW kT (walkModule env m) (walkModule (obl_env kW env b) m) := by
  unfold walkModule
  obl_sim [obl_enterModuledef_sim, obl_walkDefs_sim, obl_leaveModuledef_sim]

theorem obl_walkModules_sim :
    ∀ (ms : List SrcModule), obl_Sim kW kT (walkModules env ms) (walkModules (obl_env kW env b) ms)
  | [] => by
    unfold walkModules
    obl_sim []
  | m :: ms => by
    unfold walkModules
    obl_sim [obl_walkModule_sim, obl_walkModules_sim]
end

/-! #### the instance "log only" -/

theorem l14_walkModules_sim (env : AEnv) (b : Bool) (ms : List SrcModule) :
    l14_Sim (walkModules env ms) (walkModules (l14_envW env b) ms) :=
  (obl_walkModules_sim true false env b ms).l14

theorem l14_walkDef_sim (env : AEnv) (b : Bool) (mode : WalkMode) :
    (d : Def) → l14_Sim (walkDef env mode d) (walkDef (l14_envW env b) mode d) :=
  fun d => (obl_walkDef_sim true false env b mode d).l14

section
variable (env : AEnv) (b : Bool)

/-- the analysis result and the error behaviour do not depend on `opts.warn` -/
theorem l14_analyze_envW (docRoot : GNode) (mods : List SrcModule) :
    (analyze env docRoot mods).map Prod.fst = (analyze (l14_envW env b) docRoot mods).map Prod.fst := by
  unfold analyze
  dsimp only [l14_envW_style]
  have h := (l14_walkModules_sim env b mods).run { doc := { root := docRoot, style := env.opts.style } } []
  revert h
  simp only [StateT.run]
  generalize walkModules env mods { doc := { root := docRoot, style := env.opts.style } } = r
  generalize walkModules (l14_envW env b) mods (l14_setW { doc := { root := docRoot, style := env.opts.style } } []) = r'
  intro h
  cases r with
  | error e =>
    cases r' with
    | error e' => cases (show e = e' from h); rfl
    | ok p' => exact h.elim
  | ok p =>
    obtain ⟨a, t⟩ := p
    cases r' with
    | error e' => exact h.elim
    | ok p' =>
      obtain ⟨a', t'⟩ := p'
      obtain ⟨-, w', rfl⟩ := h
      rfl

end

end StubGen
