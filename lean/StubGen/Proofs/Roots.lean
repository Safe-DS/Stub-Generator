/-
Helper lemmas for `StubGen.Theorems.C15a` (root adjustment `_get_nearest_init_dirs`, the composed
discovery step `discoverFrom`, the AST selection `selectAsts`).

* `x15_loop`: the Python loop of `_get_nearest_init_dirs`, literally, as a left fold with its three
  branches; `x15_reached`: the state it has reached after a list of init files (invariant
  `x15_step_reached`, closed form `x15_loop_closed`).
* `x15_isNearest`: the declarative "is an `__init__.py` with the fewest components" test and the
  filter form of `nearestInitDirs`.
* `isPrefixParts` is `<+:`; init files are determined by their directory.

All new names are prefixed `x15_`.
-/
import StubGen.Model.Discovery
import StubGen.Proofs.Order
import Mathlib.Data.List.Perm.Basic
import Mathlib.Data.List.Nodup
import Mathlib.Data.List.Infix

namespace StubGen

open List

/-! ### 1. the imperative loop -/

/-- One iteration of the loop body of `_get_nearest_init_dirs`.  The state is
    `(shortest_len, shortest_init_paths)`; Python's `shortest_len == -1` is `none`.

    ```
    if shortest_len == -1:           shortest_len = path_len; shortest_init_paths.append(init.parent)
    elif path_len <= shortest_len:
        if path_len == shortest_len: shortest_init_paths.append(init.parent)
        else:                        shortest_len = path_len; shortest_init_paths = [init.parent]
    ```
-/
def x15_step (st : Option Nat × List PathParts) (init : PathParts) : Option Nat × List PathParts :=
  match st.1 with
  | none => (some init.length, st.2 ++ [init.dropLast])
  | some shortest =>
    if init.length ≤ shortest then
      if init.length = shortest then (some shortest, st.2 ++ [init.dropLast])
      else (some init.length, [init.dropLast])
    else st

/-- the loop over `all_inits`, from `shortest_init_paths = []`, `shortest_len = -1` -/
def x15_loop (inits : List PathParts) : Option Nat × List PathParts :=
  inits.foldl x15_step (none, [])

/-- the seeded defect: the branch "a shorter path is found later" removed -/
def x15_stepDefect (st : Option Nat × List PathParts) (init : PathParts) : Option Nat × List PathParts :=
  match st.1 with
  | none => (some init.length, st.2 ++ [init.dropLast])
  | some shortest =>
    if init.length = shortest then (some shortest, st.2 ++ [init.dropLast]) else st

def x15_loopDefect (inits : List PathParts) : Option Nat × List PathParts :=
  inits.foldl x15_stepDefect (none, [])

/-- the state of the loop after the init files `pre`: the least length, the directories of those of that length -/
def x15_reached (pre : List PathParts) : Option Nat × List PathParts :=
  (pre.head?.map fun _ => p08_minLen (pre.map List.length),
    (pre.filter (·.length == p08_minLen (pre.map List.length))).map List.dropLast)

/-- the loop invariant -/
theorem x15_step_reached (pre : List PathParts) (x : PathParts) :
    x15_step (x15_reached pre) x = x15_reached (pre ++ [x]) := by
  cases pre with
  | nil => simp [x15_reached, x15_step, p08_minLen]
  | cons i is =>
    obtain ⟨-, hle⟩ := p08_foldl_min_spec (is.map List.length) i.length
    have hsnoc : p08_minLen ((i :: is ++ [x]).map List.length) =
        min (p08_minLen ((i :: is).map List.length)) x.length := by
      simp only [p08_minLen, List.cons_append, List.map_cons, List.map_append, List.foldl_append, List.map_nil,
        List.foldl_cons, List.foldl_nil]
    unfold x15_reached
    rw [hsnoc, List.filter_append, List.map_append]
    have hle' : ∀ y ∈ i :: is, p08_minLen ((i :: is).map List.length) ≤ y.length :=
      fun y hy => hle _ (List.mem_map_of_mem (f := List.length) hy)
    generalize p08_minLen ((i :: is).map List.length) = m at hle' ⊢
    have hx : ∀ n, [x].filter (·.length == n) = if x.length = n then [x] else [] := fun n => by
      rw [List.filter_cons, List.filter_nil]; simp only [beq_iff_eq]
    rcases Nat.lt_trichotomy x.length m with hlt | heq | hgt
    · -- a shorter path found later: restart
      have hnil : (i :: is).filter (·.length == x.length) = [] :=
        List.filter_eq_nil_iff.2 fun y hy => by have := hle' y hy; simp only [beq_iff_eq]; omega
      rw [Nat.min_eq_right (Nat.le_of_lt hlt), hnil, hx, if_pos rfl]
      simp only [x15_step, List.head?_cons, Option.map_some, if_pos (Nat.le_of_lt hlt), if_neg (Nat.ne_of_lt hlt)]
      rfl
    · -- equally short: append
      subst heq
      rw [Nat.min_self, hx, if_pos rfl]
      simp only [x15_step, List.head?_cons, Option.map_some, Nat.le_refl, if_true]
      rfl
    · -- longer: skip
      rw [Nat.min_eq_left (Nat.le_of_lt hgt), hx, if_neg (Nat.ne_of_gt hgt)]
      simp only [x15_step, List.head?_cons, Option.map_some, if_neg (Nat.not_le_of_gt hgt), List.map_nil,
        List.append_nil]
      rfl

theorem x15_foldl_reached (l : List PathParts) : ∀ pre, l.foldl x15_step (x15_reached pre) = x15_reached (pre ++ l) := by
  induction l with
  | nil => intro pre; rw [List.append_nil]; rfl
  | cons x l ih => intro pre; rw [List.foldl_cons, x15_step_reached, ih, List.append_assoc]; rfl

theorem x15_loop_closed (inits : List PathParts) : x15_loop inits = x15_reached inits :=
  x15_foldl_reached inits []

/-! ### 2. the declarative form -/

/-- `f` is an `__init__.py` with the fewest path components among the `__init__.py` files of `files` -/
def x15_isNearest (files : List PathParts) (f : PathParts) : Bool :=
  isInitFile f && files.all fun g => !isInitFile g || decide (f.length ≤ g.length)

theorem x15_isNearest_iff (files : List PathParts) (f : PathParts) :
    x15_isNearest files f = true ↔
      isInitFile f = true ∧ ∀ g ∈ files, isInitFile g = true → f.length ≤ g.length := by
  simp only [x15_isNearest, Bool.and_eq_true, List.all_eq_true, Bool.or_eq_true, Bool.not_eq_eq_eq_not,
    Bool.not_true, decide_eq_true_eq]
  constructor
  · rintro ⟨h1, h2⟩
    refine ⟨h1, fun g hg hi => ?_⟩
    rcases h2 g hg with h | h
    · rw [hi] at h; cases h
    · exact h
  · rintro ⟨h1, h2⟩
    refine ⟨h1, fun g hg => ?_⟩
    by_cases hi : isInitFile g = true
    · exact Or.inr (h2 g hg hi)
    · exact Or.inl (by simpa using hi)

theorem x15_minLen_spec (ls : List Nat) (hne : ls ≠ []) :
    p08_minLen ls ∈ ls ∧ ∀ x ∈ ls, p08_minLen ls ≤ x := by
  cases ls with
  | nil => exact absurd rfl hne
  | cons l ls => exact p08_foldl_min_spec ls l

/-- `nearestInitDirs` as an order-preserving filter of the enumeration -/
theorem x15_nearest_eq_filter (files : List PathParts) :
    nearestInitDirs files = (files.filter (x15_isNearest files)).map List.dropLast := by
  rw [p08_nearestInitDirs_eq, List.filter_filter]
  congr 1
  apply List.filter_congr
  intro f hf
  rw [Bool.eq_iff_iff, x15_isNearest_iff]
  simp only [Bool.and_eq_true, beq_iff_eq]
  have hne : (files.filter isInitFile).map List.length ≠ [] ∨ isInitFile f = false := by
    by_cases hi : isInitFile f = true
    · left
      intro h
      have : f.length ∈ (files.filter isInitFile).map List.length :=
        List.mem_map.2 ⟨f, List.mem_filter.2 ⟨hf, hi⟩, rfl⟩
      rw [h] at this; cases this
    · right; simpa using hi
  constructor
  · rintro ⟨hl, hi⟩
    rcases hne with hne | hne
    · refine ⟨hi, fun g hg hgi => ?_⟩
      rw [hl]
      exact (x15_minLen_spec _ hne).2 _ (List.mem_map.2 ⟨g, List.mem_filter.2 ⟨hg, hgi⟩, rfl⟩)
    · rw [hne] at hi; cases hi
  · rintro ⟨hi, hmin⟩
    rcases hne with hne | hne
    · refine ⟨?_, hi⟩
      obtain ⟨hmem, hle⟩ := x15_minLen_spec _ hne
      obtain ⟨g, hg, hgl⟩ := List.mem_map.1 hmem
      obtain ⟨hg1, hg2⟩ := List.mem_filter.1 hg
      apply Nat.le_antisymm
      · rw [← hgl]; exact hmin g hg1 hg2
      · exact hle _ (List.mem_map.2 ⟨f, List.mem_filter.2 ⟨hf, hi⟩, rfl⟩)
    · rw [hne] at hi; cases hi

/-! ### 3. paths -/

theorem x15_isPrefixParts_iff : ∀ (a b : PathParts), isPrefixParts a b = true ↔ a <+: b
  | [], b => by simp [isPrefixParts]
  | _ :: _, [] => by simp [isPrefixParts]
  | a :: as, b :: bs => by
    simp only [isPrefixParts, Bool.and_eq_true, beq_iff_eq, x15_isPrefixParts_iff as bs, List.cons_prefix_cons]

theorem x15_init_eq {f : PathParts} (h : isInitFile f = true) : f = f.dropLast ++ ["__init__.py"] := by
  simp only [isInitFile, beq_iff_eq] at h
  exact (List.dropLast_append_getLast? _ (by rw [h]; rfl)).symm

theorem x15_isInitFile_append (d : PathParts) : isInitFile (d ++ ["__init__.py"]) = true := by
  simp [isInitFile]

theorem x15_dropLast_inj {f g : PathParts} (hf : isInitFile f = true) (hg : isInitFile g = true)
    (h : f.dropLast = g.dropLast) : f = g := by
  rw [x15_init_eq hf, x15_init_eq hg, h]

/-! ### 4. `adjustRoot` -/

theorem x15_adjustRoot_single {root : PathParts} {files : List PathParts} {d : PathParts}
    (h : nearestInitDirs files = [d]) : adjustRoot root files = d := by
  unfold adjustRoot; rw [h]

theorem x15_adjustRoot_other {root : PathParts} {files : List PathParts}
    (h : ∀ d, nearestInitDirs files ≠ [d]) : adjustRoot root files = root := by
  unfold adjustRoot
  split
  · rename_i d hd; exact absurd hd (h d)
  · rfl

theorem x15_adjustRoot_cases (root : PathParts) (files : List PathParts) :
    (∃ d, nearestInitDirs files = [d] ∧ adjustRoot root files = d) ∨
    ((∀ d, nearestInitDirs files ≠ [d]) ∧ adjustRoot root files = root) := by
  by_cases h : ∃ d, nearestInitDirs files = [d]
  · obtain ⟨d, hd⟩ := h
    exact Or.inl ⟨d, hd, x15_adjustRoot_single hd⟩
  · have h' : ∀ d, nearestInitDirs files ≠ [d] := fun d hd => h ⟨d, hd⟩
    exact Or.inr ⟨h', x15_adjustRoot_other h'⟩

/-- a duplicate-free list has exactly the member `d` iff it is `[d]` -/
theorem x15_nodup_unique {α : Type} {l : List α} (hn : l.Nodup) (d : α) :
    (∀ x, x ∈ l ↔ x = d) ↔ l = [d] := by
  rw [← List.perm_singleton, List.perm_ext_iff_of_nodup hn (List.nodup_singleton d)]
  simp only [List.mem_singleton]

/-- every nearest init directory of a tree whose init files lie strictly below `root` is below `root` -/
theorem x15_nearest_below {root : PathParts} {files : List PathParts}
    (hbelow : ∀ f ∈ files, isInitFile f = true → root <+: f ∧ f ≠ root)
    {d : PathParts} (hd : d ∈ nearestInitDirs files) : root <+: d := by
  rw [x15_nearest_eq_filter] at hd
  obtain ⟨f, hf, rfl⟩ := List.mem_map.1 hd
  obtain ⟨hf1, hf2⟩ := List.mem_filter.1 hf
  obtain ⟨⟨t, ht⟩, hne⟩ := hbelow f hf1 ((x15_isNearest_iff _ _).1 hf2).1
  have htne : t ≠ [] := by
    intro h; apply hne; rw [← ht, h]; simp
  rw [← ht, List.dropLast_append_of_ne_nil htne]
  exact List.prefix_append _ _

/-- `root` itself is a package and nothing shallower exists: all nearest directories are `root` -/
theorem x15_nearest_root_package {root : PathParts} {files : List PathParts}
    (hin : root ++ ["__init__.py"] ∈ files)
    (hbelow : ∀ f ∈ files, isInitFile f = true → root <+: f ∧ f ≠ root)
    {d : PathParts} (hd : d ∈ nearestInitDirs files) : d = root := by
  rw [x15_nearest_eq_filter] at hd
  obtain ⟨f, hf, rfl⟩ := List.mem_map.1 hd
  obtain ⟨hf1, hf2⟩ := List.mem_filter.1 hf
  obtain ⟨hi, hmin⟩ := (x15_isNearest_iff _ _).1 hf2
  obtain ⟨⟨t, ht⟩, hne⟩ := hbelow f hf1 hi
  have hlen := hmin _ hin (x15_isInitFile_append root)
  have htne : t ≠ [] := by
    intro h; apply hne; rw [← ht, h]; simp
  rw [← ht] at hlen
  simp only [List.length_append, List.length_cons, List.length_nil] at hlen
  have ht1 : t.length = 1 := by
    have : 0 < t.length := List.length_pos_iff.2 htne
    omega
  obtain ⟨x, rfl⟩ := List.length_eq_one_iff.1 ht1
  rw [← ht]; simp

theorem x15_adjustRoot_root_package {root : PathParts} {files : List PathParts}
    (hin : root ++ ["__init__.py"] ∈ files)
    (hbelow : ∀ f ∈ files, isInitFile f = true → root <+: f ∧ f ≠ root) :
    adjustRoot root files = root := by
  rcases x15_adjustRoot_cases root files with ⟨d, hd, h⟩ | ⟨_, h⟩
  · rw [h]; exact x15_nearest_root_package hin hbelow (by rw [hd]; simp)
  · exact h

/-- restricting to the files below a directory that contains a nearest init file keeps the nearest
    init files that are below it -/
theorem x15_filter_isNearest_under (files : List PathParts) (P : PathParts → Bool) {f : PathParts}
    (hf : f ∈ files) (hP : P f = true) (hn : x15_isNearest files f = true) :
    (files.filter P).filter (x15_isNearest (files.filter P)) = (files.filter (x15_isNearest files)).filter P := by
  rw [List.filter_filter, List.filter_filter]
  apply List.filter_congr
  intro g hg
  obtain ⟨hfi, hfmin⟩ := (x15_isNearest_iff _ _).1 hn
  by_cases hPg : P g = true
  · rw [hPg, Bool.and_true, Bool.true_and, Bool.eq_iff_iff, x15_isNearest_iff, x15_isNearest_iff]
    constructor
    · rintro ⟨hi, hmin⟩
      refine ⟨hi, fun k hk hki => ?_⟩
      exact Nat.le_trans (hmin f (List.mem_filter.2 ⟨hf, hP⟩) hfi) (hfmin k hk hki)
    · rintro ⟨hi, hmin⟩
      exact ⟨hi, fun k hk hki => hmin k (List.mem_filter.1 hk).1 hki⟩
  · have : P g = false := by simpa using hPg
    rw [this]; simp

/-! ### 5. `selectAsts` -/

/-- `ast.path.endswith("__init__.py")` -/
def x15_isInitPath (p : String) : Bool := pyEndsWith p "__init__.py"

/-- `ast.path.split("__init__.py")[0][:-1]` -/
def x15_pkgDir (p : String) : String :=
  String.ofList ((pySplitStr p "__init__.py").headD "").toList.dropLast

def x15_selPkg (d : Discovered) (p : String) : Bool :=
  x15_isInitPath p && (d.packages.map pathStr).contains (x15_pkgDir p)

def x15_selMod (d : Discovered) (p : String) : Bool :=
  !x15_isInitPath p && (d.walkable.map pathStr).contains p

theorem x15_selectAsts_eq (graph : List String) (d : Discovered) :
    selectAsts graph d = graph.filter (x15_selPkg d) ++ graph.filter (x15_selMod d) := rfl

theorem x15_sel_disjoint (d : Discovered) (p : String) (h : x15_selPkg d p = true) : x15_selMod d p = false := by
  simp only [x15_selPkg, Bool.and_eq_true] at h
  simp [x15_selMod, h.1]

theorem x15_selectAsts_perm_filter (graph : List String) (d : Discovered) :
    selectAsts graph d ~ graph.filter (fun p => x15_selPkg d p || x15_selMod d p) := by
  rw [x15_selectAsts_eq]
  have h := List.filter_append_perm (x15_selPkg d) (graph.filter (fun p => x15_selPkg d p || x15_selMod d p))
  rw [List.filter_filter, List.filter_filter] at h
  have e1 : graph.filter (fun p => x15_selPkg d p && (x15_selPkg d p || x15_selMod d p)) = graph.filter (x15_selPkg d) := by
    apply List.filter_congr; intro p _; cases x15_selPkg d p <;> simp
  have e2 : graph.filter (fun p => (!x15_selPkg d p) && (x15_selPkg d p || x15_selMod d p)) = graph.filter (x15_selMod d) := by
    apply List.filter_congr; intro p _
    cases hp : x15_selPkg d p
    · simp
    · simp [x15_sel_disjoint d p hp]
  rw [e1, e2] at h
  exact h

end StubGen
