/-
Helper lemmas for `StubGen.Theorems.C01` (the generator never raises on `Spec.Scope01` APIs).

* `o01_Safe P x`: total correctness of a `G` computation relative to the state invariant `o01_Inv P`
  ("every pending TODO key satisfies `P.pT`, every outside-package class path satisfies `P.pO`, every
  queued re-export node satisfies `P.pN`"): from every state satisfying the invariant, `x` returns
  normally in a state satisfying the invariant.  The predicates are parameters, so that the same
  lemmas give totality for *all* states (`o01_PTriv`), totality under "every pending key has a message"
  (`o01_PTodo`) and the full invariant of a generator run (`o01_PFull`).
* the tactic `o01_safe [o01_Safe.ite, lemmas]` walks through a `do` block.
* `…_safe` for every function of the generator, bottom-up; the fuel-indexed class rendering follows
  the fuel-indexed check `Spec.classOk`.
All names are prefixed `o01_`.
-/
import StubGen.Spec.Scope01
import StubGen.Proofs.TypeText
import StubGen.Proofs.Markers
import StubGen.Proofs.Files
import StubGen.Proofs.GenInv

namespace StubGen

open List

/-! ### invariant and total-correctness predicate -/

structure o01_Preds where
  pT : String → Prop
  pO : String → Prop
  pN : Node → Prop

/-- the class path can be split into a module path and a class name -/
@[reducible] def o01_dotted (q : String) : Prop := '.' ∈ q.toList

structure o01_Inv (P : o01_Preds) (s : St) : Prop where
  todos : ∀ k ∈ s.todos, P.pT k
  outside : ∀ q ∈ s.outside, P.pO q
  reexports : ∀ kv ∈ s.reexports, ∀ n ∈ kv.2, P.pN n

/-- the invariant admits every key of the message table and every dotted class path -/
structure o01_Good (P : o01_Preds) : Prop where
  keys : ∀ k, o01_hasMsg k → P.pT k
  dots : ∀ q, o01_dotted q → P.pO q

/-- the invariant admits only keys of the message table (needed where markers are flushed) -/
def o01_Flush (P : o01_Preds) : Prop := ∀ k, P.pT k → o01_hasMsg k

/-- from every state satisfying the invariant, `x` returns normally in such a state -/
structure o01_Safe (P : o01_Preds) {α : Type} (x : G α) : Prop where
  run : ∀ s, o01_Inv P s → ∃ a s', x s = .ok (a, s') ∧ o01_Inv P s'

namespace o01_Safe
variable {α β : Type} {P : o01_Preds}

theorem pure (a : α) : o01_Safe P (Pure.pure a : G α) := ⟨fun s h => ⟨a, s, rfl, h⟩⟩

theorem bind {x : G α} {f : α → G β} (hx : o01_Safe P x) (hf : ∀ a, o01_Safe P (f a)) :
    o01_Safe P (x >>= f) := by
  refine ⟨fun s h => ?_⟩
  obtain ⟨a, s1, h1, hI⟩ := hx.run s h
  obtain ⟨b, s2, h2, hI2⟩ := (hf a).run s1 hI
  refine ⟨b, s2, ?_, hI2⟩
  rw [bind_apply, h1]
  exact h2

/-- `get` followed by a continuation that is safe whatever state it was handed -/
theorem get_bind {f : St → G β} (hf : ∀ s, o01_Safe P (f s)) : o01_Safe P (get >>= f) :=
  ⟨fun s h => (hf s).run s h⟩

/-- `get` followed by a continuation, knowing that the state handed over is the current one -/
theorem get_bind_at {f : St → G β}
    (hf : ∀ s, o01_Inv P s → ∃ b s', f s s = .ok (b, s') ∧ o01_Inv P s') : o01_Safe P (get >>= f) := ⟨hf⟩

theorem modify {g : St → St} (hg : ∀ s, o01_Inv P s → o01_Inv P (g s)) :
    o01_Safe P (modify g : G PUnit) := ⟨fun s h => ⟨⟨⟩, g s, rfl, hg s h⟩⟩

theorem addTodo {k : String} (hk : P.pT k) : o01_Safe P (addTodo k) := by
  unfold StubGen.addTodo
  refine modify fun s h => ⟨?_, h.outside, h.reexports⟩
  intro k' hk'
  rcases (mem_insertSet _ _ _).1 hk' with h' | rfl
  · exact h.todos k' h'
  · exact hk

theorem logEmit (kind id : String) : o01_Safe P (logEmit kind id) := by
  unfold StubGen.logEmit
  exact modify fun s h => ⟨h.todos, h.outside, h.reexports⟩

theorem of_eq {x y : G α} (h : x = y) (hy : o01_Safe P y) : o01_Safe P x := h ▸ hy

theorem ite {c : Prop} [Decidable c] {x y : G α} (hx : c → o01_Safe P x) (hy : ¬c → o01_Safe P y) :
    o01_Safe P (if c then x else y) := by
  by_cases h : c
  · rw [if_pos h]; exact hx h
  · rw [if_neg h]; exact hy h

end o01_Safe

open Lean in
/-- walk through a `do` block: `pure`, `logEmit`, `addTodo` with a literal key, state updates that leave
    `todos`/`outside`/`reexports` alone, `get`, the lemmas given, `bind`, case splits -/
macro "o01_safe" "[" ls:term,* "]" : tactic => do
  let alts ← ls.getElems.mapM fun l => `(tacticSeq| apply $l)
  `(tactic| repeat' (first
      | with_reducible exact o01_Safe.pure _
      | with_reducible exact o01_Safe.logEmit _ _
      | with_reducible assumption
      | ((with_reducible apply o01_Safe.addTodo); exact (o01_Good.keys ‹_› _ (by decide)))
      | ((with_reducible apply o01_Safe.modify); intro _ h; exact ⟨h.1, h.2, h.3⟩)
      | ((with_reducible apply o01_Safe.get_bind); intro _)
      $[| with_reducible $alts:tacticSeq]*
      | with_reducible apply o01_Safe.bind
      | intro _
      | split
      | dsimp only))

/-! ### the three instances of the invariant -/

/-- no constraint: totality from all states -/
def o01_PTriv : o01_Preds := ⟨fun _ => True, fun _ => True, fun _ => True⟩
/-- every pending key has a message -/
def o01_PTodo : o01_Preds := ⟨o01_hasMsg, fun _ => True, fun _ => True⟩

theorem o01_PTriv_good : o01_Good o01_PTriv := ⟨fun _ _ => trivial, fun _ _ => trivial⟩
theorem o01_PTodo_good : o01_Good o01_PTodo := ⟨fun _ h => h, fun _ _ => trivial⟩
theorem o01_PTodo_flush : o01_Flush o01_PTodo := fun _ h => h

theorem o01_inv_triv (s : St) : o01_Inv o01_PTriv s :=
  ⟨fun _ _ => trivial, fun _ _ => trivial, fun _ _ _ _ => trivial⟩

theorem o01_inv_todo {s : St} (h : ∀ k ∈ s.todos, o01_hasMsg k) : o01_Inv o01_PTodo s :=
  ⟨h, fun _ _ => trivial, fun _ _ _ _ => trivial⟩

/-- totality from all states -/
theorem o01_Safe.total {α : Type} {x : G α} (h : o01_Safe o01_PTriv x) (s : St) :
    ∃ a s', x s = .ok (a, s') := by
  obtain ⟨a, s', h1, _⟩ := h.run s (o01_inv_triv s)
  exact ⟨a, s', h1⟩

/-! ### leaves -/

section Leaves
variable {P : o01_Preds}

theorem o01_setModuleId_safe (id : String) : o01_Safe P (setModuleId id) := by
  unfold setModuleId
  refine o01_Safe.modify fun s h => ?_
  split <;> exact ⟨h.1, h.2, h.3⟩

/-- a class path with at least two dot-segments contains a dot -/
theorem o01_dotted_of_length {q : String} (h : (splitDot q).length ≠ 1) : o01_dotted q := by
  by_contra hn
  have h0 := (dropLast'_splitDot_eq_nil q).2 hn
  have hne : splitDot q ≠ [] := pySplit_ne_nil '.' q
  match hq : splitDot q with
  | [] => exact hne hq
  | [_] => rw [hq] at h; exact h rfl
  | a :: b :: r => rw [hq] at h0; simp [dropLast'] at h0

theorem o01_inv_effect (hG : o01_Good P) (env : Env) (q : String) (s : St) (h : o01_Inv P s) :
    o01_Inv P (q11_effect env q s) := by
  obtain ⟨_, h2, h3, _⟩ := q11_effect_onlyIO env q s
  refine ⟨by rw [h2]; exact h.todos, ?_, by rw [h3]; exact h.reexports⟩
  by_cases hs : q11_exempt q = true ∨ q11_sameModule s q = true
  · rw [q11_effect_skip hs]; exact h.outside
  · rw [not_or, Bool.not_eq_true, Bool.not_eq_true] at hs
    rw [q11_effect_outside hs.1 hs.2]
    split
    · -- a class that is not found is queued under the requested path, which has a module part
      intro o ho
      rcases (mem_insertSet _ _ _).1 ho with h' | rfl
      · exact h.outside o h'
      · refine hG.dots _ (o01_dotted_of_length fun hl => ?_)
        simp [q11_exempt, hl] at hs
    · exact h.outside

theorem o01_addToImports_safe (hG : o01_Good P) (env : Env) (q : String) (hq : q ≠ "") :
    o01_Safe P (addToImports env q) :=
  ⟨fun s h => ⟨(), _, by rw [q11_addToImports_eq, if_neg hq], o01_inv_effect hG env q s h⟩⟩

theorem o01_createTodoMsg_safe (hF : o01_Flush P) (indent : String) : o01_Safe P (createTodoMsg indent) := by
  refine ⟨fun s h => ?_⟩
  refine ⟨_, _, (createTodoMsg_ok indent s _).2 ⟨fun k hk => hF k (h.todos k hk), rfl⟩, ?_⟩
  exact o01_Inv.mk (fun _ hk => nomatch hk) h.outside h.reexports

theorem o01_mem_appendReexport {rs : List (String × List Node)} {k : String} {n : Node} {kv : String × List Node}
    (hkv : kv ∈ appendReexport rs k n) {m : Node} (hm : m ∈ kv.2) :
    m = n ∨ ∃ kv' ∈ rs, m ∈ kv'.2 := by
  unfold appendReexport at hkv
  split at hkv
  · rw [List.mem_map] at hkv
    obtain ⟨kv', hkv', rfl⟩ := hkv
    split at hm
    · rcases List.mem_append.1 hm with h | h
      · exact Or.inr ⟨kv', hkv', h⟩
      · exact Or.inl (by simpa using h)
    · exact Or.inr ⟨kv', hkv', hm⟩
  · rcases List.mem_append.1 hkv with h | h
    · exact Or.inr ⟨kv, h, hm⟩
    · have : kv = (k, [n]) := by simpa using h
      subst this
      exact Or.inl (by simpa using hm)

/-- queueing a node for a re-export module: the node, also under a new name, has to satisfy `P.pN` -/
theorem o01_hasNodeShorterReexport_safe (name : String) (r : List ModRef) (node : Node)
    (hn : P.pN node) (hr : ∀ a, P.pN (node.rename a)) : o01_Safe P (hasNodeShorterReexport name r node) := by
  unfold hasNodeShorterReexport
  refine o01_Safe.get_bind_at fun s h => ?_
  dsimp only
  generalize foldl _ (getModuleId s, none) r = acc
  obtain ⟨shortId, shortMod⟩ := acc
  cases shortMod with
  | none => exact ⟨false, s, rfl, h⟩
  | some m =>
    dsimp only
    split
    · refine ⟨true, _, rfl, h.todos, h.outside, ?_⟩
      intro kv hkv m hm
      rcases o01_mem_appendReexport hkv hm with rfl | ⟨kv', hkv', hm'⟩
      · split
        · split
          · exact hr _
          · exact hn
        · exact hn
      · exact h.reexports kv' hkv' m hm'
    · exact ⟨false, s, rfl, h⟩

theorem o01_varianceKeyword_safe (v : Variance) : o01_Safe P (varianceKeyword v) := by
  rw [varianceKeyword_eq]
  exact o01_Safe.pure _

end Leaves

/-! ### types -/

mutual
theorem o01_importable_eq : (t : AType) → Spec.importable t = tt_seqImportable t
  | .namedSeq _ _ ts | .union ts | .list ts | .set ts | .tuple ts => by
    rw [Spec.importable, tt_seqImportable, o01_importableL_eq ts]
  | .dict k v => by rw [Spec.importable, tt_seqImportable, o01_importable_eq k, o01_importable_eq v]
  | .callable ps r => by rw [Spec.importable, tt_seqImportable, o01_importableL_eq ps, o01_importable_eq r]
  | .final t => by rw [Spec.importable, tt_seqImportable, o01_importable_eq t]
  | .named .. | .unknown | .literal _ | .typeVar _ | .typeVarB .. | .enum _ | .boundary .. => rfl
theorem o01_importableL_eq : (ts : List AType) → Spec.importableL ts = tt_seqImportableL ts
  | [] => rfl
  | t :: ts => by rw [Spec.importableL, tt_seqImportableL, o01_importable_eq t, o01_importableL_eq ts]
end

section Types
variable {P : o01_Preds}

mutual
theorem o01_typeStr_safe (hG : o01_Good P) (env : Env) : (t : AType) → Spec.renderable t = true →
    Spec.importable t = true → o01_Safe P (typeStr env t)
  | .named name qname => by
    intro hr _
    rw [Spec.renderable] at hr
    simp only [Bool.and_eq_true, bne_iff_ne, ne_eq] at hr
    rw [typeStr]
    cases builtinName name with
    | some b => exact o01_Safe.pure _
    | none =>
      dsimp only
      refine o01_Safe.bind (o01_addToImports_safe hG env qname hr.2) (fun _ => ?_)
      split
      · rename_i h; exact absurd h (toList_ne_nil_of_ne_empty hr.1)
      · o01_safe [o01_Safe.ite]
  | .final t => by
    intro hr hq
    rw [Spec.renderable] at hr
    rw [Spec.importable] at hq
    rw [typeStr]
    exact o01_typeStr_safe hG env t hr hq
  | .callable params ret => by
    intro hr hq
    rw [Spec.renderable] at hr
    rw [Spec.importable] at hq
    simp only [Bool.and_eq_true] at hr hq
    have ihR := o01_typeStr_safe hG env ret hr.2 hq.2
    rw [typeStr]
    refine o01_Safe.bind (o01_typeStrsNamed_safe hG env params hr.1 hq.1 _ _) (fun ps => ?_)
    cases ret with
    | tuple ts =>
      dsimp only
      rw [Spec.renderable] at hr
      rw [Spec.importable] at hq
      exact o01_Safe.bind (o01_typeStrsNamed_safe hG env ts hr.2 hq.2 _ _) (fun rs => o01_Safe.pure _)
    | _ =>
      dsimp only
      split
      · exact o01_Safe.pure _
      · exact o01_Safe.bind ihR (fun r => o01_Safe.pure _)
  | .set ts => by
    intro hr hq
    rw [Spec.renderable] at hr
    rw [Spec.importable] at hq
    rw [typeStr]
    refine o01_Safe.bind (o01_typeStrs_safe hG env ts hr hq) (fun types => ?_)
    refine o01_Safe.bind (o01_Safe.addTodo (hG.keys _ (by decide))) (fun _ => ?_)
    split
    · exact o01_Safe.pure _
    · o01_safe [o01_Safe.ite]
  | .list ts => by
    intro hr hq
    rw [Spec.renderable] at hr
    rw [Spec.importable] at hq
    rw [typeStr]
    refine o01_Safe.bind (o01_typeStrs_safe hG env ts hr hq) (fun types => ?_)
    split
    · exact o01_Safe.pure _
    · o01_safe [o01_Safe.ite]
  | .namedSeq name qname ts => by
    intro hr hq
    rw [Spec.renderable] at hr
    rw [Spec.importable] at hq
    simp only [Bool.and_eq_true, bne_iff_ne, ne_eq] at hq
    rw [typeStr]
    refine o01_Safe.bind (o01_typeStrs_safe hG env ts hr hq.2) (fun types => ?_)
    refine o01_Safe.bind (o01_addToImports_safe hG env qname hq.1) (fun _ => ?_)
    split
    · exact o01_Safe.pure _
    · dsimp only
      split
      · rename_i hc
        simp only [Bool.and_eq_true, Bool.or_eq_true, beq_iff_eq] at hc
        refine o01_Safe.bind (o01_Safe.addTodo (hG.keys _ ?_)) (fun _ => o01_Safe.pure _)
        rcases hc.2 with h | h <;> rw [h] <;> decide
      · exact o01_Safe.pure _
  | .unknown => by
    intro _ _
    rw [typeStr]
    exact o01_Safe.bind (o01_Safe.addTodo (hG.keys _ (by decide))) (fun _ => o01_Safe.pure _)
  | .union ts => by
    intro hr hq
    rw [Spec.renderable] at hr
    rw [Spec.importable] at hq
    rw [typeStr]
    dsimp only
    split
    · split
      · exact o01_Safe.pure _
      · exact o01_Safe.bind (o01_typeStrsSkipLit_safe hG env ts hr hq) (fun _ => o01_Safe.pure _)
    · split
      · exact o01_Safe.pure _
      · exact o01_Safe.bind (o01_typeStrs_safe hG env ts hr hq) (fun _ => o01_Safe.pure _)
  | .tuple ts => by
    intro hr hq
    rw [Spec.renderable] at hr
    rw [Spec.importable] at hq
    rw [typeStr]
    refine o01_Safe.bind (o01_Safe.addTodo (hG.keys _ (by decide))) (fun _ => ?_)
    exact o01_Safe.bind (o01_typeStrs_safe hG env ts hr hq) (fun _ => o01_Safe.pure _)
  | .dict k v => by
    intro hr hq
    rw [Spec.renderable] at hr
    rw [Spec.importable] at hq
    simp only [Bool.and_eq_true] at hr hq
    rw [typeStr]
    refine o01_Safe.bind (o01_typeStr_safe hG env k hr.1 hq.1) (fun _ => ?_)
    exact o01_Safe.bind (o01_typeStr_safe hG env v hr.2 hq.2) (fun _ => o01_Safe.pure _)
  | .literal _ | .typeVar _ | .typeVarB .. => by
    intro _ _
    rw [typeStr]
    exact o01_Safe.pure _
  | .enum _ | .boundary .. => by
    intro hr
    rw [Spec.renderable] at hr
    cases hr
theorem o01_typeStrs_safe (hG : o01_Good P) (env : Env) : (ts : List AType) → Spec.renderableL ts = true →
    Spec.importableL ts = true → o01_Safe P (typeStrs env ts)
  | [] => by
    intro _ _
    rw [typeStrs]
    exact o01_Safe.pure _
  | t :: ts => by
    intro hr hq
    rw [Spec.renderableL] at hr
    rw [Spec.importableL] at hq
    simp only [Bool.and_eq_true] at hr hq
    rw [typeStrs]
    refine o01_Safe.bind (o01_typeStr_safe hG env t hr.1 hq.1) (fun _ => ?_)
    exact o01_Safe.bind (o01_typeStrs_safe hG env ts hr.2 hq.2) (fun _ => o01_Safe.pure _)
theorem o01_typeStrsSkipLit_safe (hG : o01_Good P) (env : Env) : (ts : List AType) → Spec.renderableL ts = true →
    Spec.importableL ts = true → o01_Safe P (typeStrsSkipLit env ts)
  | [] => by
    intro _ _
    rw [typeStrsSkipLit]
    exact o01_Safe.pure _
  | t :: ts => by
    intro hr hq
    rw [Spec.renderableL] at hr
    rw [Spec.importableL] at hq
    simp only [Bool.and_eq_true] at hr hq
    rw [typeStrsSkipLit]
    split
    · exact o01_typeStrsSkipLit_safe hG env ts hr.2 hq.2
    · refine o01_Safe.bind (o01_typeStr_safe hG env t hr.1 hq.1) (fun _ => ?_)
      exact o01_Safe.bind (o01_typeStrsSkipLit_safe hG env ts hr.2 hq.2) (fun _ => o01_Safe.pure _)
theorem o01_typeStrsNamed_safe (hG : o01_Good P) (env : Env) : (ts : List AType) → Spec.renderableL ts = true →
    Spec.importableL ts = true → ∀ pre i, o01_Safe P (typeStrsNamed env pre i ts)
  | [] => by
    intro _ _ pre i
    rw [typeStrsNamed]
    exact o01_Safe.pure _
  | t :: ts => by
    intro hr hq pre i
    rw [Spec.renderableL] at hr
    rw [Spec.importableL] at hq
    simp only [Bool.and_eq_true] at hr hq
    rw [typeStrsNamed]
    refine o01_Safe.bind (o01_typeStr_safe hG env t hr.1 hq.1) (fun _ => ?_)
    exact o01_Safe.bind (o01_typeStrsNamed_safe hG env ts hr.2 hq.2 _ _) (fun _ => o01_Safe.pure _)
end

theorem o01_typeOk_safe (hG : o01_Good P) (env : Env) (t : AType) (h : Spec.typeOk t = true) :
    o01_Safe P (typeStr env t) := by
  unfold Spec.typeOk at h
  simp only [Bool.and_eq_true] at h
  exact o01_typeStr_safe hG env t h.1 h.2

theorem o01_typeStrOpt_safe (hG : o01_Good P) (env : Env) (t : Option AType) (h : Spec.optTypeOk t = true) :
    o01_Safe P (typeStrOpt env t) := by
  cases t with
  | none => exact o01_Safe.pure _
  | some t => exact o01_typeOk_safe hG env t h

end Types

/-! ### parameters, results, type variables -/

section Decls
variable {P : o01_Preds}

theorem o01_defaultString_safe (hG : o01_Good P) (a : Assign) (d : DefaultVal) : o01_Safe P (defaultString a d) := by
  unfold defaultString
  o01_safe [o01_Safe.ite]

theorem o01_createParameter_safe (hG : o01_Good P) (env : Env) (p : Parameter)
    (hp : Spec.optTypeOk p.type = true) : o01_Safe P (createParameter env p) := by
  unfold createParameter
  refine o01_Safe.bind ?_ fun _ => by o01_safe [o01_Safe.ite]
  cases hpt : p.type with
  | none =>
    dsimp only
    o01_safe [o01_Safe.ite]
  | some t =>
    rw [hpt] at hp
    dsimp only
    o01_safe [o01_Safe.ite, o01_typeOk_safe hG env, o01_defaultString_safe hG]
    all_goals exact hp

theorem o01_createParameters_safe (hG : o01_Good P) (env : Env) :
    (ps : List Parameter) → Spec.paramsOk ps = true → o01_Safe P (createParameters env ps)
  | [], _ => by unfold createParameters; o01_safe [o01_Safe.ite]
  | p :: ps, h => by
    unfold Spec.paramsOk at h
    simp only [List.all_cons, Bool.and_eq_true] at h
    have ih := o01_createParameters_safe hG env ps h.2
    have hp := o01_createParameter_safe hG env p h.1
    unfold createParameters
    o01_safe [o01_Safe.ite]

theorem o01_createParameterString_safe (hG : o01_Good P) (env : Env) (ps : List Parameter) (indent : String)
    (b : Bool) (h : Spec.paramsOk (if b then ps.drop 1 else ps) = true) :
    o01_Safe P (createParameterString env ps indent b) := by
  have := o01_createParameters_safe hG env _ h
  unfold createParameterString
  o01_safe [o01_Safe.ite]

theorem o01_createResults_safe (hG : o01_Good P) (env : Env) :
    (rs : List Result) → Spec.resultsOk rs = true → o01_Safe P (createResults env rs)
  | [], _ => by unfold createResults; o01_safe [o01_Safe.ite]
  | r :: rs, h => by
    unfold Spec.resultsOk at h
    simp only [List.all_cons, Bool.and_eq_true] at h
    have ih := o01_createResults_safe hG env rs h.2
    have hr := h.1
    unfold createResults
    cases hrt : r.type with
    | none => exact ih
    | some t =>
      rw [hrt] at hr
      have := o01_typeOk_safe hG env t hr
      dsimp only
      o01_safe [o01_Safe.ite]

theorem o01_createResultString_safe (hG : o01_Good P) (env : Env) (rs : List Result)
    (h : Spec.resultsOk rs = true) : o01_Safe P (createResultString env rs) := by
  have := o01_createResults_safe hG env rs h
  unfold createResultString
  o01_safe [o01_Safe.ite]

theorem o01_typeVarStrings_safe (hG : o01_Good P) (env : Env) (b : Bool) :
    (tvs : List TypeVar) → Spec.typeVarsOk tvs = true → o01_Safe P (typeVarStrings env b tvs)
  | [], _ => by unfold typeVarStrings; o01_safe [o01_Safe.ite]
  | tv :: tvs, h => by
    unfold Spec.typeVarsOk at h
    simp only [List.all_cons, Bool.and_eq_true] at h
    have ih := o01_typeVarStrings_safe hG env b tvs h.2
    have hb := h.1
    unfold typeVarStrings
    cases hu : tv.upperBound with
    | none =>
      dsimp only
      o01_safe [o01_Safe.ite]
    | some u =>
      rw [hu] at hb
      have := o01_typeOk_safe hG env u hb
      dsimp only
      o01_safe [o01_Safe.ite]

theorem o01_typeParamStrings_safe (hG : o01_Good P) (env : Env) :
    (tps : List TypeParam) → Spec.typeParamsOk tps = true → o01_Safe P (typeParamStrings env tps)
  | [], _ => by unfold typeParamStrings; o01_safe [o01_Safe.ite]
  | tp :: tps, h => by
    unfold Spec.typeParamsOk at h
    simp only [List.all_cons, Bool.and_eq_true] at h
    have ih := o01_typeParamStrings_safe hG env tps h.2
    have hb := h.1
    have hv := o01_varianceKeyword_safe (P := P) tp.variance
    unfold typeParamStrings
    cases hu : tp.type with
    | none =>
      dsimp only
      o01_safe [o01_Safe.ite]
    | some u =>
      rw [hu] at hb
      have := o01_typeOk_safe hG env u hb
      dsimp only
      o01_safe [o01_Safe.ite]

/-- `_create_function_string`; when the function may be queued for a re-export module (a module-level
    function outside a re-export module) the queued node has to satisfy `P.pN` -/
theorem o01_createFunctionString_safe (hG : o01_Good P) (hF : o01_Flush P) (env : Env) (f : Function)
    (indent : String) (isMethod inRe : Bool) (h : Spec.functionOk isMethod f = true)
    (hn : isMethod = false → inRe = false → P.pN (.fn f) ∧ ∀ a, P.pN ((Node.fn f).rename a)) :
    o01_Safe P (createFunctionString env f indent isMethod inRe) := by
  unfold Spec.functionOk at h
  rw [Bool.and_eq_true, Bool.and_eq_true] at h
  have h1 := o01_createParameterString_safe hG env f.params indent (!f.isStatic && isMethod) h.1.1
  have h2 := o01_typeVarStrings_safe hG env isMethod f.typeVars h.1.2
  have h3 := o01_createResultString_safe hG env f.results h.2
  have h4 := o01_createTodoMsg_safe hF indent
  have h5 : (!isMethod && !inRe) = true → o01_Safe P (hasNodeShorterReexport f.name f.reexportedBy (.fn f)) := by
    intro hc
    simp only [Bool.and_eq_true, Bool.not_eq_true'] at hc
    exact o01_hasNodeShorterReexport_safe _ _ _ (hn hc.1 hc.2).1 (hn hc.1 hc.2).2
  unfold createFunctionString
  o01_safe [o01_Safe.ite, h5]

theorem o01_resultTypes_ok : (rs : List Result) → Spec.resultsOk rs = true →
    Spec.renderableL (rs.filterMap (·.type)) = true ∧ Spec.importableL (rs.filterMap (·.type)) = true
  | [], _ => ⟨rfl, rfl⟩
  | r :: rs, h => by
    unfold Spec.resultsOk at h
    simp only [List.all_cons, Bool.and_eq_true] at h
    have ih := o01_resultTypes_ok rs h.2
    have hr := h.1
    cases hrt : r.type with
    | none => simpa [List.filterMap_cons, hrt] using ih
    | some t =>
      rw [hrt] at hr
      unfold Spec.optTypeOk Spec.typeOk at hr
      simp only [Bool.and_eq_true] at hr
      simp only [List.filterMap_cons, hrt, Spec.renderableL, Spec.importableL, Bool.and_eq_true]
      exact ⟨⟨hr.1, ih.1⟩, hr.2, ih.2⟩

theorem o01_createPropertyFunctionString_safe (hG : o01_Good P) (hF : o01_Flush P) (env : Env) (f : Function)
    (indent : String) (h : Spec.resultsOk f.results = true) :
    o01_Safe P (createPropertyFunctionString env f indent) := by
  have h1 : o01_Safe P (typeStr env (.union (f.results.filterMap (·.type)))) := by
    have := o01_resultTypes_ok f.results h
    refine o01_typeStr_safe hG env _ ?_ ?_
    · rw [Spec.renderable]; exact this.1
    · rw [Spec.importable]; exact this.2
  have h4 := o01_createTodoMsg_safe hF indent
  unfold createPropertyFunctionString
  o01_safe [o01_Safe.ite]

theorem o01_createAttribute_safe (hG : o01_Good P) (hF : o01_Flush P) (env : Env) (a : Attribute)
    (inner : String) (h : (!a.isPublic || Spec.optTypeOk a.type) = true) :
    o01_Safe P (createAttribute env a inner) := by
  have h4 := o01_createTodoMsg_safe hF inner
  have h1 : ¬ (!a.isPublic) = true → o01_Safe P (typeStrOpt env a.type) := fun hc =>
    o01_typeStrOpt_safe hG env a.type ((Bool.or_eq_true_iff.1 h).resolve_left hc)
  unfold createAttribute
  o01_safe [o01_Safe.ite, h1]

theorem o01_createAttributes_safe (hG : o01_Good P) (hF : o01_Flush P) (env : Env) (inner : String) :
    (as : List Attribute) → Spec.attributesOk as = true → o01_Safe P (createAttributes env inner as)
  | [], _ => by unfold createAttributes; o01_safe [o01_Safe.ite]
  | a :: as, h => by
    unfold Spec.attributesOk at h
    simp only [List.all_cons, Bool.and_eq_true] at h
    have ih := o01_createAttributes_safe hG hF env inner as h.2
    have ha := o01_createAttribute_safe hG hF env a inner h.1
    unfold createAttributes
    o01_safe [o01_Safe.ite]

theorem o01_createClassAttributeString_safe (hG : o01_Good P) (hF : o01_Flush P) (env : Env)
    (as : List Attribute) (inner : String) (h : Spec.attributesOk as = true) :
    o01_Safe P (createClassAttributeString env as inner) := by
  have := o01_createAttributes_safe hG hF env inner as h
  unfold createClassAttributeString
  o01_safe [o01_Safe.ite]

theorem o01_createMethods_safe (hG : o01_Good P) (hF : o01_Flush P) (env : Env) (inner : String) (b : Bool)
    (ad : List String) : (ms : List Function) →
    (∀ m ∈ ms, methodSkipped m b ad = false → Spec.methodOk m = true) →
    o01_Safe P (createMethods env inner b ad ms)
  | [], _ => by unfold createMethods; o01_safe [o01_Safe.ite]
  | m :: ms, h => by
    have ih := o01_createMethods_safe hG hF env inner b ad ms (fun m' hm' => h m' (List.mem_cons_of_mem _ hm'))
    unfold createMethods
    by_cases hs : methodSkipped m b ad = true
    · rw [if_pos hs]; exact ih
    · rw [if_neg hs]
      have hm := h m (List.mem_cons_self ..) (by simpa using hs)
      unfold Spec.methodOk at hm
      by_cases hp : m.isProperty = true
      · rw [if_pos hp] at hm ⊢
        have := o01_createPropertyFunctionString_safe hG hF env m inner hm
        o01_safe [o01_Safe.ite]
      · rw [if_neg hp] at hm ⊢
        have := o01_createFunctionString_safe hG hF env m inner true false hm (fun h' => nomatch h')
        o01_safe [o01_Safe.ite]

theorem o01_createClassMethodString_safe (hG : o01_Good P) (hF : o01_Flush P) (env : Env) (ms : List Function)
    (inner : String) (b : Bool) (ad : List String)
    (h : ∀ m ∈ ms, methodSkipped m b ad = false → Spec.methodOk m = true) :
    o01_Safe P (createClassMethodString env ms inner b ad) := by
  have := o01_createMethods_safe hG hF env inner b ad ms h
  unfold createClassMethodString
  o01_safe [o01_Safe.ite]

theorem o01_innerClassesG_safe (render : Class → G String) :
    (cs : List Class) → (∀ c ∈ cs, o01_Safe P (render c)) → o01_Safe P (innerClassesG render cs)
  | [], _ => by unfold innerClassesG; o01_safe [o01_Safe.ite]
  | c :: cs, h => by
    have ih := o01_innerClassesG_safe render cs (fun c' hc' => h c' (List.mem_cons_of_mem _ hc'))
    have hc := h c (List.mem_cons_self ..)
    unfold innerClassesG
    o01_safe [o01_Safe.ite]

theorem o01_superclassesG_safe (hG : o01_Good P) (env : Env) (inline : String → G String) :
    (scs : List String) → (∀ sc ∈ scs, Spec.privateSuper sc = true → o01_Safe P (inline sc)) →
    (∀ sc ∈ scs, Spec.privateSuper sc = false → sc ≠ "") → o01_Safe P (superclassesG env inline scs)
  | [], _, _ => by unfold superclassesG; o01_safe [o01_Safe.ite]
  | sc :: scs, h, h' => by
    have ih := o01_superclassesG_safe hG env inline scs (fun c' hc' => h c' (List.mem_cons_of_mem _ hc'))
      (fun c' hc' => h' c' (List.mem_cons_of_mem _ hc'))
    have h1 : ¬ (!isInternal (lastD "" (splitDot sc))) = true → o01_Safe P (inline sc) :=
      fun hi => h sc (List.mem_cons_self ..) (by simpa [Spec.privateSuper] using hi)
    have h2 : (!isInternal (lastD "" (splitDot sc))) = true → o01_Safe P (addToImports env sc) :=
      fun hi => o01_addToImports_safe hG env sc (h' sc (List.mem_cons_self ..) (by simpa [Spec.privateSuper] using hi))
    unfold superclassesG
    o01_safe [o01_Safe.ite, h1, h2]

theorem o01_internalSupersG_safe (inline : String → G String) :
    (scs : List String) → (∀ sc ∈ scs, Spec.privateSuper sc = true → o01_Safe P (inline sc)) →
    o01_Safe P (internalSupersG inline scs)
  | [], _ => by unfold internalSupersG; o01_safe [o01_Safe.ite]
  | sc :: scs, h => by
    have ih := o01_internalSupersG_safe inline scs (fun c' hc' => h c' (List.mem_cons_of_mem _ hc'))
    have hc : isInternal (lastD "" (splitDot sc)) = true → o01_Safe P (inline sc) := h sc (List.mem_cons_self ..)
    unfold internalSupersG
    o01_safe [o01_Safe.ite, hc]

/-! ### classes: the fuel of the generator against the fuel of `Spec.classOk` -/

theorem o01_getClassInPackage_eq (env : Env) (sc : String) :
    getClassInPackage env sc = match Spec.resolveClass env.api sc with
      | some c => .ok c
      | none => .error .lookupError := by
  unfold getClassInPackage Spec.resolveClass
  dsimp only
  cases find? (fun c => c.id == replaceChar sc '.' "/") env.api.classes with
  | some c => rfl
  | none => dsimp only; cases find? _ env.api.classes <;> rfl

theorem o01_notSkipped_public {m : Function} (h : methodSkipped m false [] = false) : m.isPublic = true := by
  cases hp : m.isPublic
  · simp [methodSkipped, hp] at h
  · rfl

theorem o01_notSkipped_inlined {m : Function} {ad : List String} (h : methodSkipped m true ad = false) :
    (m.isPublic || !isInternal m.name) = true := by
  cases hp : m.isPublic <;> cases hi : isInternal m.name <;> simp [methodSkipped, hp, hi] at h ⊢

mutual
theorem o01_createClassString_safe (hG : o01_Good P) (hF : o01_Flush P) (env : Env) :
    (n : Nat) → (c : Class) → (indent : String) → (b : Bool) → Spec.classOk env.api n c = true →
    (b = false → P.pN (.cls c) ∧ ∀ a, P.pN ((Node.cls c).rename a)) →
    o01_Safe P (createClassString env n c indent b)
  | 0, _, _, _ => by
    intro h
    rw [Spec.classOk] at h
    cases h
  | n + 1, c, indent, b => by
    intro h hn
    rw [Spec.classOk] at h
    obtain ⟨h, hsup⟩ := Bool.and_eq_true_iff.1 h
    obtain ⟨h, hmeth⟩ := Bool.and_eq_true_iff.1 h
    obtain ⟨h, hinner⟩ := Bool.and_eq_true_iff.1 h
    obtain ⟨h, hattr⟩ := Bool.and_eq_true_iff.1 h
    obtain ⟨hctor, htp⟩ := Bool.and_eq_true_iff.1 h
    have h1 : ∀ ctor, ¬ c.isAbstract = true → c.ctor = some ctor →
        o01_Safe P (createParameterString env ctor.params indent true) := by
      intro ctor hab hc
      unfold Spec.ctorOk at hctor
      rw [hc] at hctor
      rcases Bool.or_eq_true_iff.1 hctor with h' | h'
      · exact absurd h' hab
      · exact o01_createParameterString_safe hG env ctor.params indent true h'
    have h2 := o01_typeParamStrings_safe hG env c.typeParams htp
    have h3 := o01_createTodoMsg_safe hF indent
    have h4 := o01_createClassAttributeString_safe hG hF env c.attributes (indent ++ indentation) hattr
    have h5 : o01_Safe P (innerClassesG (fun ic => createClassString env n ic (indent ++ indentation) true)
        (c.classes.filter (·.isPublic))) := by
      refine o01_innerClassesG_safe _ _ (fun ic hic => ?_)
      exact o01_createClassString_safe hG hF env n ic _ true (List.all_eq_true.1 hinner ic hic)
        (fun h' => nomatch h')
    have h6 : o01_Safe P (createClassMethodString env c.methods (indent ++ indentation)) := by
      refine o01_createClassMethodString_safe hG hF env _ _ _ _ (fun m hm hs => ?_)
      have := List.all_eq_true.1 hmeth m hm
      simpa [o01_notSkipped_public hs] using this
    have h7 : (!c.renderedSupers.isEmpty && !c.isAbstract) = true → ∀ ad,
        o01_Safe P (superclassesG env (fun sc => createInternalClassString env n sc (indent ++ indentation) ad)
          c.renderedSupers) := by
      intro hc ad
      simp only [Bool.and_eq_true, Bool.not_eq_true'] at hc
      have hne : c.superclasses.isEmpty = false := by
        cases hs : c.superclasses with
        | nil => simp [Class.renderedSupers, hs] at hc
        | cons _ _ => rfl
      simp only [hne, hc.2, Bool.false_or] at hsup
      refine o01_superclassesG_safe hG env _ _ (fun sc hsc hp => ?_) (fun sc hsc hp => ?_)
      · have := List.all_eq_true.1 hsup sc (List.mem_filter.mp hsc).1
        rw [if_pos hp] at this
        exact o01_createInternalClassString_safe hG hF env n sc _ ad this
      · have := List.all_eq_true.1 hsup sc (List.mem_filter.mp hsc).1
        rw [if_neg (by simp [hp])] at this
        simpa using this
    have hbody : o01_Safe P (classBody env n c indent) := by
      unfold classBody
      o01_safe [o01_Safe.ite, h7]
      all_goals exact h1 _ ‹_› ‹_›
    have h8 : (!b) = true → o01_Safe P (hasNodeShorterReexport c.name c.reexportedBy (.cls c)) := fun hc =>
      have hb : b = false := by simpa using hc
      o01_hasNodeShorterReexport_safe _ _ _ (hn hb).1 (hn hb).2
    rw [createClassString_eq]
    o01_safe [o01_Safe.ite, h8]
theorem o01_createInternalClassString_safe (hG : o01_Good P) (hF : o01_Flush P) (env : Env) :
    (n : Nat) → (sc inner : String) → (ad : List String) → Spec.inlinedOk env.api n sc = true →
    o01_Safe P (createInternalClassString env n sc inner ad)
  | 0, _, _, _ => by
    intro h
    rw [Spec.inlinedOk] at h
    cases h
  | n + 1, sc, inner, ad => by
    intro h
    rw [Spec.inlinedOk] at h
    cases hres : Spec.resolveClass env.api sc with
    | none => rw [hres] at h; cases h
    | some c =>
      rw [hres] at h
      unfold createInternalClassString
      rw [o01_getClassInPackage_eq, hres]
      dsimp only at h ⊢
      rw [pure_bind]
      obtain ⟨h, hsup⟩ := Bool.and_eq_true_iff.1 h
      obtain ⟨hmeth, hinner⟩ := Bool.and_eq_true_iff.1 h
      have h1 : o01_Safe P (createClassMethodString env c.methods inner true ad) := by
        refine o01_createClassMethodString_safe hG hF env _ _ _ _ (fun m hm hs => ?_)
        have := List.all_eq_true.1 hmeth m hm
        simpa [o01_notSkipped_inlined hs] using this
      have h2 : o01_Safe P (innerClassesG (fun ic => createClassString env n ic inner true)
          (c.classes.filter (fun ic => !isInternal ic.name && !ad.contains ic.name))) := by
        refine o01_innerClassesG_safe _ _ (fun ic hic => ?_)
        have hic' : ic ∈ c.classes.filter (fun ic => !isInternal ic.name) := by
          rw [List.mem_filter] at hic ⊢
          exact ⟨hic.1, by simpa using (Bool.and_eq_true_iff.1 hic.2).1⟩
        exact o01_createClassString_safe hG hF env n ic _ true (List.all_eq_true.1 hinner ic hic')
          (fun h' => nomatch h')
      have h3 : ∀ ad', o01_Safe P (internalSupersG
          (fun ss => createInternalClassString env n ss inner ad') c.superclasses) := by
        intro ad'
        refine o01_internalSupersG_safe _ _ (fun ss hss hp => ?_)
        have := List.all_eq_true.1 hsup ss hss
        rw [hp] at this
        exact o01_createInternalClassString_safe hG hF env n ss inner ad' (by simpa using this)
      o01_safe [o01_Safe.ite, h3]
end

theorem o01_createImportsString_safe (env : Env) : o01_Safe P (createImportsString env) := by
  unfold createImportsString
  o01_safe [o01_Safe.ite]

end Decls

/-! ### the invariant of a whole run -/

/-- a queued re-export node can be rendered with the full fuel -/
def o01_nodeOk (api : API) : Node → Prop
  | .cls c => Spec.classOk api (Spec.fuel01 api) c = true
  | .fn f => Spec.functionOk false f = true

def o01_PFull (api : API) : o01_Preds := ⟨o01_hasMsg, o01_dotted, o01_nodeOk api⟩

theorem o01_PFull_good (api : API) : o01_Good (o01_PFull api) := ⟨fun _ h => h, fun _ h => h⟩
theorem o01_PFull_flush (api : API) : o01_Flush (o01_PFull api) := fun _ h => h

theorem o01_classOk_rename (api : API) (n : Nat) (c : Class) (a : String) :
    Spec.classOk api n { c with name := a } = Spec.classOk api n c := by
  cases n with
  | zero => rw [Spec.classOk, Spec.classOk]
  | succ n => rw [Spec.classOk, Spec.classOk]; rfl

theorem o01_nodeOk_rename (api : API) (n : Node) (a : String) (h : o01_nodeOk api n) :
    o01_nodeOk api (n.rename a) := by
  cases n with
  | cls c =>
    show Spec.classOk api _ { c with name := a } = true
    rw [o01_classOk_rename]; exact h
  | fn f => exact h

section Modules
variable (env : Env)

theorem o01_createFunctions_safe (inRe : Bool) : (fs : List Function) →
    (∀ f ∈ fs, f.isPublic = true → Spec.functionOk false f = true) →
    o01_Safe (o01_PFull env.api) (createFunctions env inRe fs)
  | [], _ => by unfold createFunctions; o01_safe [o01_Safe.ite]
  | f :: fs, h => by
    have ih := o01_createFunctions_safe inRe fs (fun f' hf' => h f' (List.mem_cons_of_mem _ hf'))
    have hf : f.isPublic = true → o01_Safe (o01_PFull env.api) (createFunctionString env f "" false inRe) := fun hp =>
      o01_createFunctionString_safe (o01_PFull_good _) (o01_PFull_flush _) env f "" false inRe
        (h f (List.mem_cons_self ..) hp)
        (fun _ _ => ⟨h f (List.mem_cons_self ..) hp,
          fun a => o01_nodeOk_rename env.api (.fn f) a (h f (List.mem_cons_self ..) hp)⟩)
    unfold createFunctions
    o01_safe [o01_Safe.ite, hf]

theorem o01_createClasses_safe (inRe : Bool) : (cs : List Class) →
    (∀ c ∈ cs, (c.isPublic && !c.inheritsFromException) = true → Spec.classOk env.api (Spec.fuel01 env.api) c = true) →
    o01_Safe (o01_PFull env.api) (createClasses env inRe cs)
  | [], _ => by unfold createClasses; o01_safe [o01_Safe.ite]
  | c :: cs, h => by
    have ih := o01_createClasses_safe inRe cs (fun c' hc' => h c' (List.mem_cons_of_mem _ hc'))
    have hc : (c.isPublic && !c.inheritsFromException) = true →
        o01_Safe (o01_PFull env.api) (createClassString env (classFuel env) c "" inRe) := fun hp =>
      o01_createClassString_safe (o01_PFull_good _) (o01_PFull_flush _) env _ c "" inRe
        (h c (List.mem_cons_self ..) hp)
        (fun _ => ⟨h c (List.mem_cons_self ..) hp,
          fun a => o01_nodeOk_rename env.api (.cls c) a (h c (List.mem_cons_self ..) hp)⟩)
    unfold createClasses
    o01_safe [o01_Safe.ite, hc]

/-- the conditions `Spec.moduleOk` puts on a module that is rendered -/
def o01_modOk (m : Module) : Prop :=
  (∀ f ∈ m.functions, f.isPublic = true → Spec.functionOk false f = true) ∧
  (∀ c ∈ m.classes, (c.isPublic && !c.inheritsFromException) = true →
    Spec.classOk env.api (Spec.fuel01 env.api) c = true)

theorem o01_modOk_of_moduleOk {m : Module} (h : Spec.moduleOk env.api m = true) (hn : ¬ (m.name == "__init__") = true) :
    o01_modOk env m := by
  unfold Spec.moduleOk at h
  rcases Bool.or_eq_true_iff.1 h with h | h
  · exact absurd h hn
  · obtain ⟨h1, h2⟩ := Bool.and_eq_true_iff.1 h
    refine ⟨fun f hf hp => ?_, fun c hc hp => ?_⟩
    · have := List.all_eq_true.1 h1 f hf
      simpa [hp] using this
    · have := List.all_eq_true.1 h2 c hc
      rw [hp] at this
      simpa using this

theorem o01_createModuleString_safe (m : Module) (h : o01_modOk env m) :
    o01_Safe (o01_PFull env.api) (createModuleString env m) := by
  have h1 := fun b => o01_createFunctions_safe env b m.functions h.1
  have h2 := fun b => o01_createClasses_safe env b m.classes h.2
  have h3 := o01_createImportsString_safe (P := o01_PFull env.api) env
  unfold createModuleString
  o01_safe [o01_Safe.ite, h1, h2]

theorem o01_callGenerator_safe (m : Module) (h : o01_modOk env m) :
    o01_Safe (o01_PFull env.api) (callGenerator env m) := by
  have h1 := o01_createModuleString_safe env m h
  have h2 := o01_setModuleId_safe (P := o01_PFull env.api) m.id
  have h3 : o01_Safe (o01_PFull env.api) (modify fun s =>
      { s with reexportModuleId := "", classGenerics := [], imports := [], todos := [] } : G PUnit) :=
    o01_Safe.modify fun s hI => o01_Inv.mk (fun _ hk => nomatch hk) hI.outside hI.reexports
  unfold callGenerator
  o01_safe [o01_Safe.ite]

theorem o01_generateModules_safe : (ms : List Module) → (∀ m ∈ ms, Spec.moduleOk env.api m = true) →
    o01_Safe (o01_PFull env.api) (generateModules env ms)
  | [], _ => by unfold generateModules; o01_safe [o01_Safe.ite]
  | m :: ms, h => by
    have ih := o01_generateModules_safe ms (fun m' hm' => h m' (List.mem_cons_of_mem _ hm'))
    unfold generateModules
    by_cases hn : (m.name == "__init__") = true
    · rw [if_pos hn]; exact ih
    · rw [if_neg hn]
      have := o01_callGenerator_safe env m (o01_modOk_of_moduleOk env (h m (List.mem_cons_self ..)) hn)
      o01_safe [o01_Safe.ite]

theorem o01_createReexportElements_safe (moduleId : String) : (els : List Node) →
    (∀ n ∈ els, o01_nodeOk env.api n) → o01_Safe (o01_PFull env.api) (createReexportElements env moduleId els)
  | [], _ => by unfold createReexportElements; o01_safe [o01_Safe.ite]
  | el :: els, h => by
    have ih := o01_createReexportElements_safe moduleId els (fun n hn => h n (List.mem_cons_of_mem _ hn))
    have hel := h el (List.mem_cons_self ..)
    have h2 := fun id => o01_setModuleId_safe (P := o01_PFull env.api) id
    have h3 := o01_createImportsString_safe (P := o01_PFull env.api) env
    have h4 : o01_Safe (o01_PFull env.api) (match el with
        | .cls c => createClassString env (classFuel env) c "" true
        | .fn f => createFunctionString env f "" false true : G String) := by
      cases el with
      | cls c =>
        exact o01_createClassString_safe (o01_PFull_good _) (o01_PFull_flush _) env _ c "" true hel
          (fun h' => nomatch h')
      | fn f =>
        exact o01_createFunctionString_safe (o01_PFull_good _) (o01_PFull_flush _) env f "" false true hel
          (fun _ h' => nomatch h')
    unfold createReexportElements
    o01_safe [o01_Safe.ite, h2]

theorem o01_createReexportModules_safe : (rs : List (String × List Node)) →
    (∀ kv ∈ rs, ∀ n ∈ kv.2, o01_nodeOk env.api n) → o01_Safe (o01_PFull env.api) (createReexportModules env rs)
  | [], _ => by unfold createReexportModules; o01_safe [o01_Safe.ite]
  | (moduleId, elements) :: rest, h => by
    have ih := o01_createReexportModules_safe rest (fun kv hkv => h kv (List.mem_cons_of_mem _ hkv))
    have h1 := o01_createReexportElements_safe env moduleId
      (sortBy nodeLe elements)
      (fun n hn => h _ (List.mem_cons_self ..) n ((mem_sortBy _ n elements).1 hn))
    have h2 := fun id => o01_setModuleId_safe (P := o01_PFull env.api) id
    unfold createReexportModules
    o01_safe [o01_Safe.ite, h2]

theorem o01_createReexportModuleStrings_safe : o01_Safe (o01_PFull env.api) (createReexportModuleStrings env) := by
  unfold createReexportModuleStrings
  refine o01_Safe.get_bind_at fun s h => ?_
  exact (o01_createReexportModules_safe env s.reexports h.reexports).run s h

theorem o01_generateStubData_safe (h : Spec.Scope01 env.api = true) :
    o01_Safe (o01_PFull env.api) (generateStubData env) := by
  have h1 := o01_generateModules_safe env env.api.modules (List.all_eq_true.1 h)
  have h2 := o01_createReexportModuleStrings_safe env
  unfold generateStubData
  o01_safe [o01_Safe.ite]

end Modules

/-! ### writing the files -/

theorem o01_createOutsidePackageClass_ok (safe : Bool) (c : String) (created existing : List String)
    (hc : o01_dotted c) : ∃ r, createOutsidePackageClass safe c created existing = .ok r := by
  rw [createOutsidePackageClass_eq, if_neg (fun h => (dropLast'_splitDot_eq_nil c).1 h hc)]
  dsimp only
  split <;> exact ⟨_, rfl⟩

theorem o01_outsideWrites_ok (safe : Bool) : (cs created existing : List String) → (∀ c ∈ cs, o01_dotted c) →
    ∃ ops, outsideWrites safe cs created existing = .ok ops
  | [], _, _, _ => ⟨[], rfl⟩
  | c :: cs, created, existing, h => by
    obtain ⟨⟨op, created'⟩, h1⟩ := o01_createOutsidePackageClass_ok safe c created existing (h c (List.mem_cons_self ..))
    obtain ⟨ops, h2⟩ := o01_outsideWrites_ok safe cs created' (insertSet op.path existing)
      (fun c' hc' => h c' (List.mem_cons_of_mem _ hc'))
    refine ⟨op :: ops, ?_⟩
    rw [outsideWrites, h1]
    dsimp only
    rw [h2]

theorem o01_createStubFiles_ok (safe : Bool) (stubs : List StubData) (outside pre : List String)
    (h : ∀ c ∈ outside, o01_dotted c) : ∃ ops, createStubFiles safe stubs outside pre = .ok ops := by
  unfold createStubFiles
  dsimp only
  obtain ⟨ops, h1⟩ := o01_outsideWrites_ok safe (sortStrings outside) []
    (foldl (fun acc op => insertSet op.path acc) pre
      (stubs.map fun d => ({ path := stubPath d, mode := .write, text := d.text } : WriteOp)))
    (fun c hc => h c ((mem_sortStrings c outside).1 hc))
  rw [h1]
  exact ⟨_, rfl⟩

theorem o01_inv_init (P : o01_Preds) : o01_Inv P {} :=
  o01_Inv.mk (fun _ hk => absurd hk List.not_mem_nil) (fun _ hk => absurd hk List.not_mem_nil)
    (fun _ hk => absurd hk List.not_mem_nil)

/-! ### fuel: monotonicity, and nesting depth as a sufficient budget -/

mutual
theorem o01_classOk_succ (api : API) : (n : Nat) → (c : Class) → Spec.classOk api n c = true →
    Spec.classOk api (n + 1) c = true
  | 0, c, h => by rw [Spec.classOk] at h; cases h
  | n + 1, c, h => by
    rw [Spec.classOk] at h ⊢
    obtain ⟨h, hsup⟩ := Bool.and_eq_true_iff.1 h
    obtain ⟨h, hmeth⟩ := Bool.and_eq_true_iff.1 h
    obtain ⟨h, hinner⟩ := Bool.and_eq_true_iff.1 h
    refine Bool.and_eq_true_iff.2 ⟨Bool.and_eq_true_iff.2 ⟨Bool.and_eq_true_iff.2 ⟨h, ?_⟩, hmeth⟩, ?_⟩
    · exact List.all_eq_true.2 fun ic hic => o01_classOk_succ api n ic (List.all_eq_true.1 hinner ic hic)
    · rcases Bool.or_eq_true_iff.1 hsup with h' | h'
      · exact Bool.or_eq_true_iff.2 (Or.inl h')
      · refine Bool.or_eq_true_iff.2 (Or.inr (List.all_eq_true.2 fun sc hsc => ?_))
        have := List.all_eq_true.1 h' sc hsc
        by_cases hp : Spec.privateSuper sc = true
        · rw [if_pos hp] at this ⊢
          exact o01_inlinedOk_succ api n sc this
        · rw [if_neg hp] at this ⊢
          exact this
theorem o01_inlinedOk_succ (api : API) : (n : Nat) → (sc : String) → Spec.inlinedOk api n sc = true →
    Spec.inlinedOk api (n + 1) sc = true
  | 0, sc, h => by rw [Spec.inlinedOk] at h; cases h
  | n + 1, sc, h => by
    rw [Spec.inlinedOk] at h ⊢
    cases hres : Spec.resolveClass api sc with
    | none => rw [hres] at h; cases h
    | some c =>
      rw [hres] at h
      dsimp only at h ⊢
      obtain ⟨h, hsup⟩ := Bool.and_eq_true_iff.1 h
      obtain ⟨hmeth, hinner⟩ := Bool.and_eq_true_iff.1 h
      refine Bool.and_eq_true_iff.2 ⟨Bool.and_eq_true_iff.2 ⟨hmeth, ?_⟩, ?_⟩
      · exact List.all_eq_true.2 fun ic hic => o01_classOk_succ api n ic (List.all_eq_true.1 hinner ic hic)
      · refine List.all_eq_true.2 fun ss hss => ?_
        have := List.all_eq_true.1 hsup ss hss
        rcases Bool.or_eq_true_iff.1 this with h' | h'
        · exact Bool.or_eq_true_iff.2 (Or.inl h')
        · exact Bool.or_eq_true_iff.2 (Or.inr (o01_inlinedOk_succ api n ss h'))
end

/-- the check is monotone in the fuel -/
theorem o01_classOk_mono (api : API) {n m : Nat} (hnm : n ≤ m) (c : Class) (h : Spec.classOk api n c = true) :
    Spec.classOk api m c = true := by
  induction hnm with
  | refl => exact h
  | step _ ih => exact o01_classOk_succ api _ c ih

theorem o01_inlinedOk_mono (api : API) {n m : Nat} (hnm : n ≤ m) (sc : String)
    (h : Spec.inlinedOk api n sc = true) : Spec.inlinedOk api m sc = true := by
  induction hnm with
  | refl => exact h
  | step _ ih => exact o01_inlinedOk_succ api _ sc ih

theorem o01_nestDepth_le {c : Class} : {cs : List Class} → c ∈ cs → Spec.nestDepth c ≤ Spec.nestDepthL cs
  | [], h => nomatch h
  | c' :: cs, h => by
    rw [Spec.nestDepthL]
    rcases List.mem_cons.1 h with rfl | h
    · exact Nat.le_max_left _ _
    · exact Nat.le_trans (o01_nestDepth_le h) (Nat.le_max_right _ _)

theorem o01_localOk_mem {c : Class} : {cs : List Class} → Spec.localOkL cs = true → c ∈ cs → c.isPublic = true →
    Spec.localOk c = true
  | [], _, h, _ => nomatch h
  | c' :: cs, hl, h, hp => by
    rw [Spec.localOkL] at hl
    obtain ⟨h1, h2⟩ := Bool.and_eq_true_iff.1 hl
    rcases List.mem_cons.1 h with rfl | h
    · simpa [hp] using h1
    · exact o01_localOk_mem h2 h hp

/-- without private superclasses the nesting depth is all the fuel that is needed -/
theorem o01_classOk_of_depth (api : API) : (n : Nat) → (c : Class) → Spec.localOk c = true →
    Spec.nestDepth c ≤ n → Spec.classOk api n c = true
  | 0, c, _, hd => by
    obtain ⟨_, _, _, _, _, _, _, _, _, _, cs, _⟩ := c
    rw [Spec.nestDepth] at hd
    omega
  | n + 1, c, hl, hd => by
    obtain ⟨id, name, supers, isPublic, doc, ctor, exc, reex, attrs, methods, cs, tps⟩ := c
    rw [Spec.nestDepth] at hd
    rw [Spec.localOk] at hl
    obtain ⟨hl, hcs⟩ := Bool.and_eq_true_iff.1 hl
    obtain ⟨hl, hsup⟩ := Bool.and_eq_true_iff.1 hl
    obtain ⟨hl, hmeth⟩ := Bool.and_eq_true_iff.1 hl
    rw [Spec.classOk]
    refine Bool.and_eq_true_iff.2 ⟨Bool.and_eq_true_iff.2 ⟨Bool.and_eq_true_iff.2 ⟨hl, ?_⟩, hmeth⟩, ?_⟩
    · refine List.all_eq_true.2 fun ic hic => ?_
      obtain ⟨hic1, hic2⟩ := List.mem_filter.1 hic
      have hic1 : ic ∈ cs := hic1
      refine o01_classOk_of_depth api n ic (o01_localOk_mem hcs hic1 (by simpa using hic2)) ?_
      have := o01_nestDepth_le hic1
      omega
    · rcases Bool.or_eq_true_iff.1 hsup with h' | h'
      · exact Bool.or_eq_true_iff.2 (Or.inl h')
      · refine Bool.or_eq_true_iff.2 (Or.inr (List.all_eq_true.2 fun sc hsc => ?_))
        have := List.all_eq_true.1 h' sc hsc
        obtain ⟨hp, hne⟩ := Bool.and_eq_true_iff.1 this
        rw [if_neg (by simpa using hp)]
        exact hne

/-! ### without hypotheses: which errors are possible, and what every function preserves

`o01_Keeps P x`, for an invariant that admits exactly the keys of the message table and puts no
condition on queued nodes (`o01_Nice P`): from a state satisfying the invariant, `x` either returns in
such a state or raises one of `o01_errs` — never `KeyError`.  Instances: `o01_PTodo` ("every pending
key has a message") and `o01_P0` (… and every outside-package class path is dotted). -/

structure o01_Nice (P : o01_Preds) : Prop where
  good : o01_Good P
  flush : o01_Flush P
  nodes : ∀ n, P.pN n

def o01_P0 : o01_Preds := ⟨o01_hasMsg, o01_dotted, fun _ => True⟩

instance o01_P0_nice : Fact (o01_Nice o01_P0) := ⟨⟨⟨fun _ h => h, fun _ h => h⟩, fun _ h => h, fun _ => trivial⟩⟩
instance o01_PTodo_nice : Fact (o01_Nice o01_PTodo) := ⟨⟨o01_PTodo_good, o01_PTodo_flush, fun _ => trivial⟩⟩

def o01_outOk (P : o01_Preds) {α : Type} : Except PyErr (α × St) → Prop
  | .ok (_, s') => o01_Inv P s'
  | .error e => e ∈ o01_errs

structure o01_Keeps (P : o01_Preds) {α : Type} (x : G α) : Prop where
  run : ∀ s, o01_Inv P s → o01_outOk P (x s)

namespace o01_Keeps
variable {α : Type} {P : o01_Preds}

theorem set {t : St} (ht : o01_Inv P t) : o01_Keeps P (MonadStateOf.set t : G PUnit) := ⟨fun _ _ => ht⟩

theorem of_inv {x : G α} (h : Inv (o01_Inv P) (· ∈ o01_errs) x) : o01_Keeps P x := by
  refine ⟨fun s hs => ?_⟩
  have := h.run s hs
  revert this
  cases x s <;> exact id

end o01_Keeps

open Lean in
macro "o01_keeps" "[" ls:term,* "]" : tactic => do
  let alts ← ls.getElems.mapM fun l => `(tacticSeq| apply $l)
  `(tactic| repeat' (first
      | with_reducible exact o01_Keeps.pure _
      | ((with_reducible apply o01_Keeps.throw); decide)
      | with_reducible assumption
      | ((with_reducible apply o01_addTodo_keeps); decide)
      | with_reducible exact o01_logEmit_keeps _ _
      | ((with_reducible apply o01_Keeps.modify); intro _ h; exact ⟨h.1, h.2, h.3⟩)
      | ((with_reducible apply o01_Keeps.get_bind); intro _ _)
      $[| with_reducible $alts:tacticSeq]*
      | with_reducible apply o01_Keeps.bind
      | intro _
      | split
      | dsimp only))

theorem o01_Safe.inv {α : Type} {P : o01_Preds} {x : G α} (h : o01_Safe P x) : Inv (o01_Inv P) (· ∈ o01_errs) x := by
  refine ⟨fun s hs => ?_⟩
  obtain ⟨a, s', h1, h2⟩ := h.run s hs
  rw [h1]
  exact h2

section KeepsAll
set_option linter.unusedSectionVars false
variable {P : o01_Preds} [hP : Fact (o01_Nice P)]

/-- a nice invariant is maintained by every primitive of the generator, so (`Proofs/GenInv`) by every function -/
theorem o01_runInv (env : Env) : RunInv env (o01_Inv P) (· ∈ o01_errs) where
  errs _ he := he
  addTodo _ hk := (o01_Safe.addTodo (hP.out.good.keys _ hk)).inv
  log _ _ hI := ⟨hI.todos, hI.outside, hI.reexports⟩
  addToImports q := inv_addToImports env q (by decide) (o01_inv_effect hP.out.good env q)
  hasNode n r node := (o01_hasNodeShorterReexport_safe n r node (hP.out.nodes _) (fun _ => hP.out.nodes _)).inv
  todoMsg i := (o01_createTodoMsg_safe hP.out.flush i).inv
  generics _ _ hI := ⟨hI.todos, hI.outside, hI.reexports⟩
  setModuleId id := (o01_setModuleId_safe id).inv
  reset _ hI := o01_Inv.mk (fun _ hk => nomatch hk) hI.outside hI.reexports
  resetImports _ hI := ⟨hI.todos, hI.outside, hI.reexports⟩
  flag _ _ hI := ⟨hI.todos, hI.outside, hI.reexports⟩

theorem o01_typeStrs_keeps (env : Env) : (ts : List AType) → o01_Keeps P (typeStrs env ts) :=
  fun ts => .of_inv (inv_typeStrs (o01_runInv env).toGenInv ts)

theorem o01_typeStrsSkipLit_keeps (env : Env) : (ts : List AType) → o01_Keeps P (typeStrsSkipLit env ts) :=
  fun ts => .of_inv (inv_typeStrsSkipLit (o01_runInv env).toGenInv ts)

theorem o01_typeStrsNamed_keeps (env : Env) (pre : String) (i : Nat) :
    (ts : List AType) → o01_Keeps P (typeStrsNamed env pre i ts) :=
  fun ts => .of_inv (inv_typeStrsNamed (o01_runInv env).toGenInv pre i ts)

theorem o01_generateStubData_keeps (env : Env) : o01_Keeps P (generateStubData env) :=
  .of_inv (inv_generateStubData (o01_runInv env))

end KeepsAll

end StubGen
