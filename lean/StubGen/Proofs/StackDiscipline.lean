/-
Stack discipline of the analyser (C01, analyser half).

`_ast_visitor.py` keeps a declaration stack and guards it with `assert`s / "unexpected parent" `AssertionError`s
(T3 lists them).  This file proves that none of them can fire: every helper leaves the stack exactly as it found it,
every `enter_*` pushes exactly one frame, every `leave_*` pops the frame its `enter_*` pushed and keeps the KINDS of
the frames below, and the walker calls them in an order in which every guard holds.  The statements are about
`Model/Analyze.lean`; S-A / S-P tie the model to the code.
-/
import StubGen.Model.Analyze
import StubGen.Proofs.Reconcile
import StubGen.Proofs.Inference

namespace StubGen

/-! ### errors of the `Except`-valued helpers: never an `AssertionError` -/

theorem sd_griffeStep_err (n : GNode) (p : String) (b : Bool) (e : PyErr) (h : griffeStep n p b = .error e) :
    e ≠ .assertionError := by
  unfold griffeStep at h
  grind

theorem sd_griffeWalk_err : ∀ (ps : List String) (n : GNode) (e : PyErr), griffeWalk n ps = .error e → e ≠ .assertionError
  | [], n, e, h => by simp [griffeWalk] at h
  | p :: ps, n, e, h => by
    have := sd_griffeStep_err n p false
    have ih := sd_griffeWalk_err ps
    unfold griffeWalk at h
    grind

theorem sd_getGriffeNode_err (root : GNode) (q : String) (e : PyErr) (h : getGriffeNode root q = .error e) :
    e ≠ .assertionError := by
  have h1 := sd_griffeStep_err root
  have h2 := sd_griffeWalk_err
  unfold getGriffeNode at h
  grind

theorem sd_getCached_err (root : GNode) (c : Cache) (q : String) (e : PyErr) (h : getCached root c q = .error e) :
    e ≠ .assertionError := by
  have h1 := sd_getGriffeNode_err root
  unfold getCached lookupDoc at h
  grind

theorem sd_getClassDocumentation_err (s : ParserState) (q : String) (e : PyErr)
    (h : getClassDocumentation s q = .error e) : e ≠ .assertionError := by
  have h1 := sd_getGriffeNode_err s.root
  unfold getClassDocumentation at h
  grind

theorem sd_getFunctionDocumentation_err (s : ParserState) (q : String) (e : PyErr)
    (h : getFunctionDocumentation s q = .error e) : e ≠ .assertionError := by
  have h1 := sd_getCached_err s.root
  unfold getFunctionDocumentation at h
  grind

theorem sd_getParameterDocumentation_err (s : ParserState) (a b c : String) (e : PyErr)
    (h : getParameterDocumentation s a b c = .error e) : e ≠ .assertionError := by
  have h1 := sd_getCached_err s.root
  unfold getParameterDocumentation at h
  grind

theorem sd_getAttributeDocumentation_err (s : ParserState) (a b : String) (e : PyErr)
    (h : getAttributeDocumentation s a b = .error e) : e ≠ .assertionError := by
  have h1 := sd_getCached_err s.root
  unfold getAttributeDocumentation at h
  grind

theorem sd_getResultDocumentation_err (s : ParserState) (q : String) (e : PyErr)
    (h : getResultDocumentation s q = .error e) : e ≠ .assertionError := by
  have h1 := sd_getCached_err s.root
  unfold getResultDocumentation at h
  grind

theorem sd_findAlias_err (env : AEnv) (s : VSt) (n k : String) (e : PyErr) (h : findAlias env s n k = .error e) :
    e ≠ .assertionError := by
  unfold findAlias at h
  grind

theorem sd_isPublicV_err (s : VSt) (n q : String) (e : PyErr) (h : isPublicV s n q = .error e) :
    e ≠ .assertionError := by
  unfold isPublicV at h
  grind

theorem sd_argumentKind_err (a : Arg) (e : PyErr) (h : argumentKind a = .error e) : e ≠ .assertionError := by
  unfold argumentKind at h
  grind

theorem sd_varianceOf_err (n : Nat) (e : PyErr) (h : varianceOf n = .error e) : e ≠ .assertionError := by
  unfold varianceOf at h
  grind

theorem sd_lvalueNames_err (lv : LValue) (e : PyErr) (h : lvalueNames lv = .error e) : e ≠ .assertionError := by
  unfold lvalueNames at h
  grind

theorem sd_attributeAlreadyDefined_err (s : VSt) (n : String) (e : PyErr) (h : attributeAlreadyDefined s n = .error e) :
    e ≠ .assertionError := by
  unfold attributeAlreadyDefined at h
  grind

theorem sd_exprToType_ok (x : Expr) : ∃ t, exprToType x = .ok t := ⟨_, u07_exprToType_eq x⟩

theorem sd_exprsToTypes_ok : ∀ (xs : List Expr), ∃ ts, exprsToTypes xs = .ok ts :=
  fun xs => ⟨_, u07_exprsToTypes_eq xs⟩

theorem sd_exprToType_err (x : Expr) (e : PyErr) (h : exprToType x = .error e) : e ≠ .assertionError := by
  obtain ⟨t, ht⟩ := sd_exprToType_ok x
  rw [ht] at h
  cases h

/-- an `Except` value whose error, if any, is not an `AssertionError` -/
def sd_NoAE {α : Type} (x : Except PyErr α) : Prop := ∀ e, x = .error e → e ≠ .assertionError

theorem sd_foldl_noAE {α ι : Type} (step : Except PyErr α → ι → Except PyErr α)
    (h : ∀ acc i, sd_NoAE acc → sd_NoAE (step acc i)) :
    ∀ (l : List ι) (acc : Except PyErr α), sd_NoAE acc → sd_NoAE (l.foldl step acc)
  | [], _, ha => ha
  | i :: l, acc, ha => sd_foldl_noAE step h l (step acc i) (h acc i ha)

theorem sd_inferFromReturns_ok (body : List Stmt) : ∃ r, inferFromReturns body = .ok r := by
  rw [u07_inferFromReturns_eq]
  split <;> exact ⟨_, rfl⟩

theorem sd_inferFromReturns_err (body : List Stmt) (e : PyErr) (h : inferFromReturns body = .error e) :
    e ≠ .assertionError := by
  obtain ⟨r, hr⟩ := sd_inferFromReturns_ok body
  rw [hr] at h
  cases h

theorem sd_createInferredResults_err (ts : List AType) (docs : List ResultDoc) (fid : String) (e : PyErr)
    (h : createInferredResults ts docs fid = .error e) : e ≠ .assertionError := by
  unfold createInferredResults at h
  dsimp only at h
  split at h
  · rename_i e' he
    cases h
    refine sd_foldl_noAE _ ?_ _ _ ?_ e he
    · intro acc t ha
      unfold sd_NoAE at *
      grind
    · intro e h; cases h
  · split at h <;> cases h

/-! ### the frame-preserving fragment of the visitor -/

/-- the outcome `r` of a run is no `AssertionError`, and if it is a state, that state satisfies `post`: the common
    form of `sd_Q`, `sd_Push`, `sd_Pop` and `sd_Bal` -/
def sd_Post {α : Type} (r : Except PyErr (α × VSt)) (post : VSt → Prop) : Prop :=
  match r with
  | .error e => e ≠ PyErr.assertionError
  | .ok (_, t) => post t

theorem sd_Post.mono {α : Type} {r : Except PyErr (α × VSt)} {p q : VSt → Prop} (h : sd_Post r p)
    (hpq : ∀ t, p t → q t) : sd_Post r q := by
  cases r with
  | error e => exact h
  | ok r => exact hpq _ h

theorem sd_Post.bind {α β : Type} {x : V α} {f : α → V β} {s : VSt} {mid post : VSt → Prop}
    (hx : sd_Post (x s) mid) (hf : ∀ a t, mid t → sd_Post (f a t) post) : sd_Post ((x >>= f) s) post := by
  simp only [Bind.bind, StateT.bind, Except.bind]
  revert hx
  cases x s with
  | error e => exact id
  | ok r => exact hf r.1 r.2

/-- run from a state whose stack satisfies `P`, `x` raises no `AssertionError` and leaves the stack as it is -/
structure sd_Q {α : Type} (P : List Frame → Prop) (x : V α) : Prop where
  run : ∀ s : VSt, P s.stack →
    match x s with
    | .error e => e ≠ PyErr.assertionError
    | .ok (_, t) => t.stack = s.stack

namespace sd_Q
variable {α β : Type} {P : List Frame → Prop}

theorem pure (a : α) : sd_Q P (Pure.pure a : V α) := ⟨fun _ _ => rfl⟩

theorem throw {e : PyErr} (h : e ≠ .assertionError) : sd_Q P (throwV e : V α) := ⟨fun _ _ => h⟩

theorem absurd {x : V α} (h : ∀ st, ¬ P st) : sd_Q P x := ⟨fun _ hs => (h _ hs).elim⟩

theorem mono {Q : List Frame → Prop} {x : V α} (hx : sd_Q P x) (h : ∀ st, Q st → P st) : sd_Q Q x :=
  ⟨fun s hs => hx.run s (h _ hs)⟩

theorem bind {x : V α} {f : α → V β} (hx : sd_Q P x) (hf : ∀ a, sd_Q P (f a)) : sd_Q P (x >>= f) :=
  ⟨fun s hs => sd_Post.bind (hx.run s hs) fun a t ht =>
    sd_Post.mono ((hf a).run t (by rw [ht]; exact hs)) fun _ h => h.trans ht⟩

theorem get_bind {f : VSt → V β} (hf : ∀ s0, P s0.stack → sd_Q (fun st => st = s0.stack) (f s0)) :
    sd_Q P (get >>= f) :=
  ⟨fun s hs => (hf s hs).run s rfl⟩

theorem modify {g : VSt → VSt} (hg : ∀ s, (g s).stack = s.stack) : sd_Q P (modify g : V PUnit) :=
  ⟨fun s _ => hg s⟩

theorem set {t : VSt} (ht : ∀ st, P st → t.stack = st) : sd_Q P (set t : V PUnit) :=
  ⟨fun _ hs => ht _ hs⟩

theorem warn (m : String) : sd_Q P (warnV m) := ⟨fun _ _ => rfl⟩

theorem ite {c : Prop} {d : Decidable c} {x y : V α} (h1 : c → sd_Q P x) (h2 : ¬c → sd_Q P y) :
    sd_Q P (@_root_.ite _ c d x y) := by
  by_cases h : c
  · rw [if_pos h]; exact h1 h
  · rw [if_neg h]; exact h2 h

theorem withDoc (f : ParserState → Except PyErr (α × ParserState)) (hf : ∀ p e, f p = .error e → e ≠ .assertionError) :
    sd_Q P (withDoc f) := by
  refine ⟨fun s _ => ?_⟩
  show (match (match f s.doc with | .error e => .error e | .ok (a, d) => .ok (a, { s with doc := d }) :
      Except PyErr (α × VSt)) with
    | .error e => e ≠ PyErr.assertionError
    | .ok (_, t) => t.stack = s.stack)
  cases hfd : f s.doc with
  | error e => exact hf s.doc e hfd
  | ok r => rfl

end sd_Q

open Lean in
macro "sd_q" "[" ls:term,* "]" : tactic => do
  let alts ← ls.getElems.mapM fun l => `(tacticSeq| apply $l)
  `(tactic| repeat' (first
      | with_reducible exact sd_Q.pure _
      | with_reducible exact sd_Q.warn _
      | with_reducible assumption
      | ((with_reducible apply sd_Q.throw); first
          | decide
          | (apply sd_isPublicV_err; assumption)
          | (apply sd_findAlias_err; assumption)
          | (apply sd_argumentKind_err; assumption)
          | (apply sd_varianceOf_err; assumption)
          | (apply sd_lvalueNames_err; assumption)
          | (apply sd_attributeAlreadyDefined_err; assumption)
          | (apply sd_exprToType_err; assumption)
          | (apply sd_inferFromReturns_err; assumption)
          | (apply sd_createInferredResults_err; assumption))
      | ((with_reducible apply sd_Q.modify); intro _; rfl)
      | ((with_reducible apply sd_Q.get_bind); intro _ _)
      $[| with_reducible $alts:tacticSeq]*
      | with_reducible apply sd_Q.bind
      | with_reducible apply sd_Q.ite
      | intro _
      | split))

section
variable (env : AEnv) {P : List Frame → Prop}

theorem sd_classDocumentation (fullname : String) (defs : List Def) : sd_Q P (classDocumentation env fullname defs) := by
  unfold classDocumentation
  split
  · exact sd_Q.pure _
  · exact sd_Q.withDoc _ (fun p e h => sd_getClassDocumentation_err p fullname e h)

theorem sd_functionDocumentation (f : FuncDef) : sd_Q P (functionDocumentation env f) := by
  unfold functionDocumentation
  split
  · exact sd_Q.pure _
  · exact sd_Q.withDoc _ (fun p e h => sd_getFunctionDocumentation_err p _ e h)

theorem sd_parameterDocumentation (fq pname parent : String) : sd_Q P (parameterDocumentation env fq pname parent) := by
  unfold parameterDocumentation
  split
  · exact sd_Q.pure _
  · exact sd_Q.withDoc _ (fun p e h => sd_getParameterDocumentation_err p _ _ _ e h)

theorem sd_attributeDocumentation (parent name : String) : sd_Q P (attributeDocumentation env parent name) := by
  unfold attributeDocumentation
  split
  · exact sd_Q.pure _
  · exact sd_Q.withDoc _ (fun p e h => sd_getAttributeDocumentation_err p _ _ e h)

theorem sd_resultDocumentation (fq : String) : sd_Q P (resultDocumentation env fq) := by
  unfold resultDocumentation
  split
  · exact sd_Q.pure _
  · exact sd_Q.withDoc _ (fun p e h => sd_getResultDocumentation_err p _ e h)

end


mutual
theorem sd_toAbstractNoUn (env : AEnv) {P : List Frame → Prop} :
    (t : MType) → sd_Q P (toAbstractNoUn env t)
  | .inst name fullname [] | .inst name fullname [k] | .inst name fullname (k :: v :: rest) | .tuple items
  | .union items | .typeVar name ub ubStr | .callable args ret | .any t missing | .none | .literal v
  | .unbound name args | .other _ _ => by
    unfold toAbstractNoUn
    sd_q [sd_toAbstracts env, sd_toAbstractNoUn env]
theorem sd_toAbstracts (env : AEnv) {P : List Frame → Prop} :
    (ts : List MType) → sd_Q P (toAbstracts env ts)
  | [] => by
    unfold toAbstracts
    sd_q []
  | t :: ts => by
    unfold toAbstracts
    sd_q [sd_toAbstracts env, sd_toAbstractNoUn env]
end

theorem sd_Q.forIn {α β : Type} {P : List Frame → Prop} {f : α → β → V (ForInStep β)} (hf : ∀ a b, sd_Q P (f a b)) :
    ∀ (l : List α) (b : β), sd_Q P (forIn l b f)
  | [], b => by
    rw [List.forIn_nil]
    exact sd_Q.pure _
  | a :: l, b => by
    rw [List.forIn_cons]
    refine sd_Q.bind (hf a b) (fun r => ?_)
    cases r with
    | done b' => exact sd_Q.pure _
    | yield b' => exact sd_Q.forIn hf l b'

theorem sd_Q.mapM {α β : Type} {P : List Frame → Prop} {f : α → V β} (hf : ∀ a, sd_Q P (f a)) :
    ∀ (l : List α), sd_Q P (l.mapM f)
  | [] => by
    rw [List.mapM_nil]
    exact sd_Q.pure _
  | a :: l => by
    rw [List.mapM_cons]
    exact sd_Q.bind (hf a) (fun b => sd_Q.bind (sd_Q.mapM hf l) (fun bs => sd_Q.pure _))

theorem sd_Q.optMatch {P : List Frame → Prop} {o : Option (V AType)} {d : V AType}
    (h : ∀ v, o = some v → sd_Q P v) (hd : sd_Q P d) :
    sd_Q P (match (generalizing := false) o with | some v => v | none => d) := by
  cases o with
  | none => exact hd
  | some v => exact h v rfl

section
variable (env : AEnv) {P : List Frame → Prop}

theorem sd_toAbstract (t : MType) (un : Option MType) : sd_Q P (toAbstract env t un) := by
  unfold toAbstract
  dsimp only
  apply sd_Q.optMatch
  · intro v hv
    repeat' split at hv
    all_goals first
      | (injection hv with hv; subst hv; sd_q [sd_toAbstractNoUn, sd_toAbstracts]; done)
      | cases hv
  · exact sd_toAbstractNoUn env t

theorem sd_parseParameter (f : FuncDef) (fid : String) (a : Arg) : sd_Q P (parseParameter env f fid a) := by
  have h1 := fun Q => sd_parameterDocumentation env (P := Q)
  unfold parseParameter
  sd_q [sd_toAbstract, h1, sd_Q.forIn]

theorem sd_parseParameters (f : FuncDef) (fid : String) :
    ∀ (as : List Arg), sd_Q P (parseParameters env f fid as)
  | [] => by
    unfold parseParameters
    sd_q []
  | a :: as => by
    unfold parseParameters
    sd_q [sd_parseParameter, sd_parseParameters f fid]

theorem sd_parseResults (f : FuncDef) (fid : String) (docs : List ResultDoc) :
    sd_Q P (parseResults env f fid docs) := by
  unfold parseResults
  sd_q [sd_toAbstract]

theorem sd_reconcileParameter (fid : String) (p : Parameter) : sd_Q P (reconcileParameter env fid p) := by
  refine ⟨fun s _ => ?_⟩
  rw [l14_reconcileParameter_run]

theorem sd_reconcileParameters (fid : String) :
    ∀ (ps : List Parameter), sd_Q P (reconcileParameters env fid ps)
  | [] => by
    unfold reconcileParameters
    sd_q []
  | p :: ps => by
    unfold reconcileParameters
    sd_q [sd_reconcileParameter, sd_reconcileParameters fid]

theorem sd_reconcileResults (fid : String) (i : Nat) (all rs : List Result) (docs : List ResultDoc) :
    sd_Q P (reconcileResults env fid i all rs docs) := by
  refine ⟨fun s _ => ?_⟩
  rw [l14_reconcileResults_run]

theorem sd_typeParameter (tv : TypeVarInfo) : sd_Q P (typeParameter env tv) := by
  unfold typeParameter
  sd_q [sd_toAbstract, sd_toAbstracts]

theorem sd_typeParameters : ∀ (l : List (Option TypeVarInfo)), sd_Q P (typeParameters env l)
  | [] => by
    unfold typeParameters
    sd_q []
  | none :: _ => by
    unfold typeParameters
    sd_q []
  | some tv :: rest => by
    unfold typeParameters
    sd_q [sd_typeParameter, sd_typeParameters]

theorem sd_ctorFullDoc : ∀ (defs : List Def), sd_Q P (ctorFullDoc env defs)
  | [] => by
    unfold ctorFullDoc
    sd_q []
  | d :: rest => by
    have := sd_ctorFullDoc rest
    cases d <;> (unfold ctorFullDoc; sd_q [sd_functionDocumentation])

end


/-! ### attribute creation: the only guarded helper -/

/-- where `_create_attribute` may be called: in a class body, or in the constructor of a class -/
def sd_AttrCtx (st : List Frame) : Prop :=
  (∃ c up, st = .cls c :: up) ∨ (∃ f c up, st = .fn f :: .cls c :: up ∧ (f.name == "__init__") = true)

theorem sd_AttrCtx.init_of_fn {st : List Frame} {f : Function} {c : Class} {up : List Frame} (h : sd_AttrCtx st)
    (hst : st = .fn f :: .cls c :: up) : (f.name == "__init__") = true := by
  subst hst
  rcases h with ⟨_, _, h⟩ | ⟨_, _, _, h, hi⟩
  · cases h
  · cases h; exact hi

theorem sd_AttrCtx.top {st : List Frame} (h : sd_AttrCtx st)
    (h1 : ∀ f c up, st = .fn f :: .cls c :: up → False) (h2 : ∀ c up, st = .cls c :: up → False) : False :=
  h.elim (fun ⟨c, up, h⟩ => h2 c up h) fun ⟨f, c, up, h, _⟩ => h1 f c up h

section
variable (env : AEnv)

theorem sd_createAttributeV (isMember : Bool) (name fullname : String) (isVar : Bool) (var : Option VarInfo)
    (un : Option MType) (isStatic : Bool) :
    sd_Q sd_AttrCtx (createAttributeV env isMember name fullname isVar var un isStatic) := by
  have h1 := fun Q => sd_attributeDocumentation env (P := Q)
  have h2 := fun Q => sd_toAbstract env (P := Q)
  unfold createAttributeV
  sd_q [h1, h2]
  -- what is left are the two guards: they hold in an attribute context
  all_goals first
    | exact absurd (sd_AttrCtx.init_of_fn ‹_› ‹_›) ‹_›
    | exact (sd_AttrCtx.top ‹_› ‹_› ‹_›).elim

theorem sd_createAttributeV' {Q : List Frame → Prop} (hQ : ∀ st, Q st → sd_AttrCtx st)
    (isMember : Bool) (name fullname : String) (isVar : Bool) (var : Option VarInfo) (un : Option MType) (isStatic : Bool) :
    sd_Q Q (createAttributeV env isMember name fullname isVar var un isStatic) :=
  (sd_createAttributeV env isMember name fullname isVar var un isStatic).mono hQ

end

theorem sd_parseAttributes_go {P : List Frame → Prop}
    {one : Bool → String → String → Bool → Option VarInfo → V (List Attribute)}
    (h : ∀ m n fq iv var, sd_Q P (one m n fq iv var)) :
    ∀ (items : List LValue), sd_Q P (parseAttributes.go one items)
  | [] => by
    unfold parseAttributes.go
    sd_q []
  | lv :: rest => by
    have := sd_parseAttributes_go h rest
    cases lv <;> (unfold parseAttributes.go; sd_q [h])

section
variable (env : AEnv)

theorem sd_parseAttributes (lv : LValue) (un : Option MType) (isStatic : Bool) :
    sd_Q sd_AttrCtx (parseAttributes env lv un isStatic) := by
  unfold parseAttributes
  dsimp only
  have h : ∀ (m : Bool) (n fq : String) (iv : Bool) (var : Option VarInfo),
      sd_Q sd_AttrCtx (do
          let s ← get
          match attributeAlreadyDefined s n with
            | Except.error e => throwV e
            | Except.ok true => pure []
            | Except.ok false =>
              if (m && !iv) = true then pure []
              else do
                let a ← createAttributeV env m n fq iv var un isStatic
                pure [a] : V (List Attribute)) := by
    intro m n fq iv var
    sd_q [sd_createAttributeV' env]
    all_goals (subst_vars; assumption)
  cases lv with
  | name n fq isVar var => exact h _ _ _ _ _
  | member n fq isVar var => exact h _ _ _ _ _
  | tuple items => exact sd_parseAttributes_go h items
  | other => exact sd_Q.pure _

theorem sd_parseAttributes' {Q : List Frame → Prop} (hQ : ∀ st, Q st → sd_AttrCtx st)
    (lv : LValue) (un : Option MType) (isStatic : Bool) : sd_Q Q (parseAttributes env lv un isStatic) :=
  (sd_parseAttributes env lv un isStatic).mono hQ

theorem sd_enterAssignment_go (a : Assignment) :
    ∀ (lvs : List LValue) (P : List Frame → Prop), sd_Q P (enterAssignment.go env a lvs)
  | [], P => by
    unfold enterAssignment.go
    sd_q []
  | lv :: rest, P => by
    have ih := fun Q => sd_enterAssignment_go a rest Q
    unfold enterAssignment.go
    sd_q [sd_parseAttributes' env, ih]
    -- the two calls of `parseAttributes`: in a class body, and in the constructor of a class
    all_goals
      subst_vars
      rw [‹VSt.stack _ = _›]
      first
        | exact .inl ⟨_, _, rfl⟩
        | exact .inr ⟨_, _, _, rfl, (Bool.and_eq_true_iff.1 ‹_›).1⟩

end


/-! ### kinds of frames; what `enter_*` and `leave_*` do to the stack -/

inductive FK where
  | module | cls | fn | enum | assigns
  deriving DecidableEq, Repr

def kindOf : Frame → FK
  | .module _ => .module
  | .cls _ => .cls
  | .fn _ => .fn
  | .enum _ => .enum
  | .assigns _ => .assigns

/-- the kinds of the frames of a declaration stack, top first -/
def sd_shape (st : List Frame) : List FK := st.map kindOf

/-- `x` raises no `AssertionError` and pushes exactly one frame of kind `k` -/
structure sd_Push {α : Type} (P : List Frame → Prop) (k : FK) (x : V α) : Prop where
  run : ∀ s : VSt, P s.stack →
    match x s with
    | .error e => e ≠ PyErr.assertionError
    | .ok (_, t) => ∃ fr, kindOf fr = k ∧ t.stack = fr :: s.stack

namespace sd_Push
variable {α β : Type} {P : List Frame → Prop} {k : FK}

theorem throw {e : PyErr} (h : e ≠ .assertionError) : sd_Push P k (throwV e : V α) := ⟨fun _ _ => h⟩

theorem bind_q {x : V α} {f : α → V β} (hx : sd_Q P x) (hf : ∀ a, sd_Push P k (f a)) : sd_Push P k (x >>= f) :=
  ⟨fun s hs => sd_Post.bind (hx.run s hs) fun a t ht =>
    sd_Post.mono ((hf a).run t (by rw [ht]; exact hs)) fun _ ⟨fr, hk, h⟩ => ⟨fr, hk, by rw [h, ht]⟩⟩

theorem get_bind {f : VSt → V β} (hf : ∀ s0, P s0.stack → sd_Push (fun st => st = s0.stack) k (f s0)) :
    sd_Push P k (get >>= f) :=
  ⟨fun s hs => (hf s hs).run s rfl⟩

theorem modify {g : VSt → VSt} (hg : ∀ s, ∃ fr, kindOf fr = k ∧ (g s).stack = fr :: s.stack) :
    sd_Push P k (modify g : V PUnit) :=
  ⟨fun s _ => hg s⟩

theorem ite {c : Prop} {d : Decidable c} {x y : V α} (h1 : c → sd_Push P k x) (h2 : ¬c → sd_Push P k y) :
    sd_Push P k (@_root_.ite _ c d x y) := by
  by_cases h : c
  · rw [if_pos h]; exact h1 h
  · rw [if_neg h]; exact h2 h

end sd_Push

open Lean in
macro "sd_push" "[" ls:term,* "]" : tactic => do
  let alts ← ls.getElems.mapM fun l => `(tacticSeq| apply $l)
  `(tactic| repeat' (first
      | with_reducible exact sd_Q.pure _
      | with_reducible exact sd_Q.warn _
      | with_reducible assumption
      | ((with_reducible apply sd_Q.throw); first
          | decide
          | (apply sd_isPublicV_err; assumption)
          | (apply sd_findAlias_err; assumption)
          | (apply sd_argumentKind_err; assumption)
          | (apply sd_varianceOf_err; assumption)
          | (apply sd_lvalueNames_err; assumption)
          | (apply sd_attributeAlreadyDefined_err; assumption)
          | (apply sd_exprToType_err; assumption)
          | (apply sd_inferFromReturns_err; assumption)
          | (apply sd_createInferredResults_err; assumption))
      | ((with_reducible apply sd_Push.throw); first
          | decide
          | (apply sd_isPublicV_err; assumption)
          | (apply sd_findAlias_err; assumption))
      | ((with_reducible apply sd_Q.modify); intro _; rfl)
      | ((with_reducible apply sd_Push.modify); intro _; exact ⟨_, rfl, rfl⟩)
      | ((with_reducible apply sd_Q.get_bind); intro _ _)
      | ((with_reducible apply sd_Push.get_bind); intro _ _)
      $[| with_reducible $alts:tacticSeq]*
      | with_reducible apply sd_Q.bind
      | with_reducible apply sd_Push.bind_q
      | with_reducible apply sd_Q.ite
      | with_reducible apply sd_Push.ite
      | intro _
      | split))

section
variable (env : AEnv) {P : List Frame → Prop}

theorem sd_enterFuncdef (f : FuncDef) : sd_Push P .fn (enterFuncdef env f) := by
  have h1 := fun Q => sd_functionDocumentation env (P := Q)
  have h2 := fun Q => sd_parseParameters env (P := Q)
  have h3 := fun Q => sd_reconcileParameters env (P := Q)
  have h4 := fun Q => sd_resultDocumentation env (P := Q)
  have h5 := fun Q => sd_parseResults env (P := Q)
  have h6 := fun Q => sd_reconcileResults env (P := Q)
  unfold enterFuncdef
  sd_push [h1, h2, h3, h4, h5, h6]

theorem sd_enterAssignment (a : Assignment) : sd_Push P .assigns (enterAssignment env a) := by
  have h1 := fun Q => sd_enterAssignment_go env a a.lvalues Q
  unfold enterAssignment
  sd_push [h1]

theorem sd_enterClassdef (name fullname : String) (bases removed : List BaseExpr) (defs : List Def) :
    sd_Push P .cls (enterClassdef env name fullname bases removed defs) := by
  have h1 := fun Q => sd_classDocumentation env (P := Q)
  have h2 := fun Q => sd_typeParameters env (P := Q)
  have h3 := fun Q => sd_ctorFullDoc env (P := Q)
  unfold enterClassdef
  sd_push [h1, h2, h3, sd_Q.mapM]

theorem sd_enterEnumdef (name fullname : String) (defs : List Def) :
    sd_Push P .enum (enterEnumdef env name fullname defs) := by
  have h1 := fun Q => sd_classDocumentation env (P := Q)
  unfold enterEnumdef
  sd_push [h1]

theorem sd_enterModuledef (m : SrcModule) : sd_Push P .module (enterModuledef m) := by
  unfold enterModuledef
  sd_push []

end


/-! ### `leave_*`: pops the frame its `enter_*` pushed, keeps the kinds below -/

/-- `x` raises no `AssertionError` and pops the top frame; the kinds of the frames below stay -/
structure sd_Pop {α : Type} (P : List Frame → Prop) (x : V α) : Prop where
  run : ∀ s : VSt, P s.stack →
    match x s with
    | .error e => e ≠ PyErr.assertionError
    | .ok (_, t) => sd_shape t.stack = (sd_shape s.stack).tail

namespace sd_Pop
variable {α β : Type} {P : List Frame → Prop}

theorem absurd {x : V α} (h : ∀ st, ¬ P st) : sd_Pop P x := ⟨fun _ hs => (h _ hs).elim⟩

theorem bind_q {x : V α} {f : α → V β} (hx : sd_Q P x) (hf : ∀ a, sd_Pop P (f a)) : sd_Pop P (x >>= f) :=
  ⟨fun s hs => sd_Post.bind (hx.run s hs) fun a t ht =>
    sd_Post.mono ((hf a).run t (by rw [ht]; exact hs)) fun _ h => by rw [h, ht]⟩

theorem get_bind {f : VSt → V β} (hf : ∀ s0, P s0.stack → sd_Pop (fun st => st = s0.stack) (f s0)) :
    sd_Pop P (get >>= f) :=
  ⟨fun s hs => (hf s hs).run s rfl⟩

theorem set {t : VSt} (ht : ∀ st, P st → sd_shape t.stack = (sd_shape st).tail) : sd_Pop P (set t : V PUnit) :=
  ⟨fun _ hs => ht _ hs⟩

end sd_Pop

theorem sd_foldl_shape {ι : Type} (step : AnaResult × List Frame → ι → AnaResult × List Frame)
    (h : ∀ x i, sd_shape (step x i).2 = sd_shape x.2) :
    ∀ (items : List ι) (x : AnaResult × List Frame), sd_shape (items.foldl step x).2 = sd_shape x.2
  | [], _ => rfl
  | i :: items, x => by
    rw [List.foldl_cons, sd_foldl_shape step h items, h]

def sd_TopFn (st : List Frame) : Prop := ∃ f rest, st = Frame.fn f :: rest
def sd_TopCls (st : List Frame) : Prop := ∃ c rest, st = Frame.cls c :: rest
def sd_TopEnum (st : List Frame) : Prop := ∃ e rest, st = Frame.enum e :: rest
def sd_TopModule (st : List Frame) : Prop := ∃ m rest, st = Frame.module m :: rest
/-- an assignment frame on top of a class, a function or an enum -/
def sd_TopAssign (st : List Frame) : Prop :=
  ∃ items parent up, st = Frame.assigns items :: parent :: up ∧
    (kindOf parent = .cls ∨ kindOf parent = .fn ∨ kindOf parent = .enum)

theorem sd_leaveFuncdef : sd_Pop sd_TopFn leaveFuncdef := by
  unfold leaveFuncdef
  refine sd_Pop.get_bind (fun s0 hP => ?_)
  obtain ⟨f, rest, hs⟩ := hP
  rw [hs]
  dsimp only
  cases rest with
  | nil => exact sd_Pop.set (fun st h => by subst h; rfl)
  | cons parent up =>
    dsimp only
    refine sd_Pop.set (fun st h => ?_)
    subst h
    cases parent <;> first | rfl | (simp only [sd_shape, List.map_cons, List.tail_cons]; split <;> rfl)

theorem sd_leaveClassdef : sd_Pop sd_TopCls leaveClassdef := by
  unfold leaveClassdef
  refine sd_Pop.get_bind (fun s0 hP => ?_)
  obtain ⟨c, rest, hs⟩ := hP
  rw [hs]
  dsimp only
  split <;> exact sd_Pop.set (fun st h => by subst h; rfl)

theorem sd_leaveEnumdef : sd_Pop sd_TopEnum leaveEnumdef := by
  unfold leaveEnumdef
  refine sd_Pop.get_bind (fun s0 hP => ?_)
  obtain ⟨c, rest, hs⟩ := hP
  rw [hs]
  dsimp only
  split <;> exact sd_Pop.set (fun st h => by subst h; rfl)

theorem sd_leaveModuledef : sd_Pop sd_TopModule leaveModuledef := by
  unfold leaveModuledef
  refine sd_Pop.get_bind (fun s0 hP => ?_)
  obtain ⟨c, rest, hs⟩ := hP
  rw [hs]
  dsimp only
  exact sd_Pop.set (fun st h => by subst h; rfl)

theorem sd_leaveAssignment : sd_Pop sd_TopAssign leaveAssignment := by
  unfold leaveAssignment
  refine sd_Pop.get_bind (fun s0 hP => ?_)
  obtain ⟨items, parent, up, hs, hk⟩ := hP
  rw [hs]
  dsimp only
  have closer : ∀ (p : Frame) (t : VSt),
      sd_shape t.stack = sd_shape (p :: up) →
      sd_Pop (fun st => st = Frame.assigns items :: p :: up) (set t : V PUnit) := by
    intro p t ht
    refine sd_Pop.set (fun st h => ?_)
    subst h
    exact ht
  have hstep : ∀ (x : AnaResult × List Frame) (i : AssignItem), sd_shape ((fun (st : AnaResult × List Frame) (i : AssignItem) =>
      match i with
      | .attr a =>
        (match st.2 with
          | .fn f :: .cls c :: up' =>
            ({ st.1 with attributes := dictSet (·.id) st.1.attributes a }, Frame.fn f :: .cls { c with attributes := c.attributes ++ [a] } :: up')
          | .cls c :: up' =>
            ({ st.1 with attributes := dictSet (·.id) st.1.attributes a }, Frame.cls { c with attributes := c.attributes ++ [a] } :: up')
          | fr => (st.1, fr))
      | .inst e =>
        (match st.2 with
          | .enum en :: up' =>
            ({ st.1 with enumInstances := dictSet (·.id) st.1.enumInstances e }, Frame.enum { en with instances := en.instances ++ [e] } :: up')
          | fr => (st.1, fr))) x i).2 = sd_shape x.2 := by
    intro x i
    obtain ⟨A, fr⟩ := x
    cases i <;> (dsimp only; split <;> rfl)
  cases parent with
  | module m => simp [kindOf] at hk
  | assigns _ => simp [kindOf] at hk
  | cls c =>
    dsimp only
    refine sd_Pop.bind_q (sd_Q.pure _) (fun _ => closer _ _ ?_)
    exact sd_foldl_shape _ hstep items (s0.api, Frame.cls c :: up)
  | enum e =>
    dsimp only
    refine sd_Pop.bind_q (sd_Q.pure _) (fun _ => closer _ _ ?_)
    exact sd_foldl_shape _ hstep items (s0.api, Frame.enum e :: up)
  | fn f =>
    dsimp only
    refine sd_Pop.bind_q ?_ (fun _ => closer _ _ ?_)
    · sd_q []
    · exact sd_foldl_shape _ hstep items (s0.api, Frame.fn f :: up)


/-! ### the walker: every enter is matched by its leave, and every guard holds -/

/-- run from a stack whose kinds satisfy `P`, `x` raises no `AssertionError` and leaves the kinds of the stack as they are -/
structure sd_Bal {α : Type} (P : List FK → Prop) (x : V α) : Prop where
  run : ∀ s : VSt, P (sd_shape s.stack) →
    match x s with
    | .error e => e ≠ PyErr.assertionError
    | .ok (_, t) => sd_shape t.stack = sd_shape s.stack

namespace sd_Bal
variable {α β : Type} {P : List FK → Prop}

theorem pure (a : α) : sd_Bal P (Pure.pure a : V α) := ⟨fun _ _ => rfl⟩

theorem mono {Q : List FK → Prop} {x : V α} (hx : sd_Bal P x) (h : ∀ sh, Q sh → P sh) : sd_Bal Q x :=
  ⟨fun s hs => hx.run s (h _ hs)⟩

theorem bind {x : V α} {f : α → V β} (hx : sd_Bal P x) (hf : ∀ a, sd_Bal P (f a)) : sd_Bal P (x >>= f) :=
  ⟨fun s hs => sd_Post.bind (hx.run s hs) fun a t ht =>
    sd_Post.mono ((hf a).run t (by rw [ht]; exact hs)) fun _ h => h.trans ht⟩

theorem ite {c : Prop} {d : Decidable c} {x y : V α} (h1 : c → sd_Bal P x) (h2 : ¬c → sd_Bal P y) :
    sd_Bal P (@_root_.ite _ c d x y) := by
  by_cases h : c
  · rw [if_pos h]; exact h1 h
  · rw [if_neg h]; exact h2 h

theorem forIn {ι : Type} {f : ι → PUnit → V (ForInStep PUnit)} (hf : ∀ a b, sd_Bal P (f a b)) :
    ∀ (l : List ι) (b : PUnit), sd_Bal P (forIn l b f)
  | [], b => by
    rw [List.forIn_nil]
    exact sd_Bal.pure _
  | a :: l, b => by
    rw [List.forIn_cons]
    refine sd_Bal.bind (hf a b) (fun r => ?_)
    cases r with
    | done b' => exact sd_Bal.pure _
    | yield b' => exact sd_Bal.forIn hf l b'

/-- `enter; body; leave` -/
theorem bracket {γ δ : Type} {enter : V α} {body : V γ} {leave : V δ} {k : FK} {P' : List FK → Prop}
    {L : List Frame → Prop}
    (he : sd_Push (fun _ => True) k enter)
    (hb : sd_Bal P' body)
    (hP' : ∀ sh, P sh → P' (k :: sh))
    (hl : sd_Pop L leave)
    (hL : ∀ st sh, sd_shape st = k :: sh → P sh → L st) :
    sd_Bal P (enter >>= fun _ => body >>= fun _ => leave) := by
  refine ⟨fun s hs => sd_Post.bind (he.run s trivial) fun _ t1 ⟨fr, hk, ht1⟩ => ?_⟩
  have hsh1 : sd_shape t1.stack = k :: sd_shape s.stack := by rw [ht1]; simp [sd_shape, hk]
  refine sd_Post.bind (hb.run t1 (by rw [hsh1]; exact hP' _ hs)) fun _ t2 ht2 => ?_
  have hsh2 : sd_shape t2.stack = k :: sd_shape s.stack := ht2.trans hsh1
  exact sd_Post.mono (hl.run t2 (hL _ _ hsh2 hs)) fun _ h => by rw [h, hsh2]; rfl

/-- `enter; leave` -/
theorem bracket0 {δ : Type} {enter : V α} {leave : V δ} {k : FK} {L : List Frame → Prop}
    (he : sd_Push (fun _ => True) k enter)
    (hl : sd_Pop L leave)
    (hL : ∀ st sh, sd_shape st = k :: sh → P sh → L st) :
    sd_Bal P (enter >>= fun _ => leave) := by
  refine ⟨fun s hs => sd_Post.bind (he.run s trivial) fun _ t1 ⟨fr, hk, ht1⟩ => ?_⟩
  have hsh1 : sd_shape t1.stack = k :: sd_shape s.stack := by rw [ht1]; simp [sd_shape, hk]
  exact sd_Post.mono (hl.run t1 (hL _ _ hsh1 hs)) fun _ h => by rw [h, hsh1]; rfl

end sd_Bal

def sd_topIn (ks : List FK) (sh : List FK) : Prop := ∃ k rest, sh = k :: rest ∧ k ∈ ks

section
variable (env : AEnv)

theorem sd_walkAssignment (a : Assignment) : sd_Bal (sd_topIn [.cls, .fn, .enum]) (walkAssignment env a) := by
  unfold walkAssignment
  refine sd_Bal.bracket0 (sd_enterAssignment env a) sd_leaveAssignment ?_
  intro st sh hst hP
  obtain ⟨k, rest, rfl, hk⟩ := hP
  rcases st with _ | ⟨fr, _ | ⟨parent, up⟩⟩
  · simp [sd_shape] at hst
  · simp [sd_shape] at hst
  · simp only [sd_shape, List.map_cons, List.cons.injEq] at hst
    obtain ⟨h1, h2, _⟩ := hst
    cases fr <;> simp [kindOf] at h1
    refine ⟨_, parent, up, rfl, ?_⟩
    rw [h2]
    simp at hk
    rcases hk with rfl | rfl | rfl <;> simp

end


theorem sd_topFn_of_shape (st : List Frame) (sh : List FK) (h : sd_shape st = .fn :: sh) : sd_TopFn st := by
  rcases st with _ | ⟨fr, rest⟩
  · simp [sd_shape] at h
  · simp only [sd_shape, List.map_cons, List.cons.injEq] at h
    cases fr <;> simp [kindOf] at h
    exact ⟨_, _, rfl⟩

theorem sd_topCls_of_shape (st : List Frame) (sh : List FK) (h : sd_shape st = .cls :: sh) : sd_TopCls st := by
  rcases st with _ | ⟨fr, rest⟩
  · simp [sd_shape] at h
  · simp only [sd_shape, List.map_cons, List.cons.injEq] at h
    cases fr <;> simp [kindOf] at h
    exact ⟨_, _, rfl⟩

theorem sd_topEnum_of_shape (st : List Frame) (sh : List FK) (h : sd_shape st = .enum :: sh) : sd_TopEnum st := by
  rcases st with _ | ⟨fr, rest⟩
  · simp [sd_shape] at h
  · simp only [sd_shape, List.map_cons, List.cons.injEq] at h
    cases fr <;> simp [kindOf] at h
    exact ⟨_, _, rfl⟩

theorem sd_topModule_of_shape (st : List Frame) (sh : List FK) (h : sd_shape st = .module :: sh) : sd_TopModule st := by
  rcases st with _ | ⟨fr, rest⟩
  · simp [sd_shape] at h
  · simp only [sd_shape, List.map_cons, List.cons.injEq] at h
    cases fr <;> simp [kindOf] at h
    exact ⟨_, _, rfl⟩

section
variable (env : AEnv)

theorem sd_walkFunc (f : FuncDef) {P : List FK → Prop} : sd_Bal P (walkFunc env f) := by
  unfold walkFunc
  by_cases hc : (f.name == "__init__") = true
  · simp only [hc, if_true]
    refine sd_Bal.bracket (P' := sd_topIn [.cls, .fn, .enum]) (sd_enterFuncdef env f) ?_
      (fun sh _ => ⟨_, _, rfl, by simp⟩) sd_leaveFuncdef (fun st sh h _ => sd_topFn_of_shape st sh h)
    apply sd_Bal.forIn
    intro a b
    exact sd_Bal.bind (sd_walkAssignment env a) (fun _ => sd_Bal.pure _)
  · simp only [hc, Bool.false_eq_true, if_false]
    exact sd_Bal.bracket0 (sd_enterFuncdef env f) sd_leaveFuncdef (fun st sh h _ => sd_topFn_of_shape st sh h)

end

/-! the node `None` of an `OverloadedFuncDef` without items cannot come out of mypy; the walker's "Node visited twice"
guard is the only `AssertionError` the model can raise, and only on such input -/
mutual
def sd_noNone : Def → Bool
  | .overloaded none => false
  | .cls _ _ _ _ defs => sd_noNoneL defs
  | _ => true
def sd_noNoneL : List Def → Bool
  | [] => true
  | d :: ds => sd_noNone d && sd_noNoneL ds
end

/-- what the walker guarantees about the top of the stack when it walks the children of a node -/
def sd_ModeOk : WalkMode → List FK → Prop
  | .module, _ => True
  | .cls, sh => sd_topIn [.cls] sh
  | .enum, sh => sd_topIn [.enum] sh

theorem sd_modeOk_assign (mode : WalkMode) (hm : mode ≠ .module) (sh : List FK) (h : sd_ModeOk mode sh) :
    sd_topIn [.cls, .fn, .enum] sh := by
  cases mode with
  | module => exact (hm rfl).elim
  | cls => obtain ⟨k, rest, rfl, hk⟩ := h; exact ⟨k, rest, rfl, by simp at hk; simp [hk]⟩
  | enum => obtain ⟨k, rest, rfl, hk⟩ := h; exact ⟨k, rest, rfl, by simp at hk; simp [hk]⟩

mutual
theorem sd_walkDef (env : AEnv) (mode : WalkMode) :
    (d : Def) → sd_noNone d = true → sd_Bal (sd_ModeOk mode) (walkDef env mode d)
  | .func f, _ => by
    unfold walkDef
    split
    · exact sd_Bal.pure _
    · exact sd_walkFunc env f
  | .decorator f, _ => by
    unfold walkDef
    split
    · exact sd_Bal.pure _
    · exact sd_walkFunc env f
  | .overloaded (some f), _ => by
    unfold walkDef
    split
    · exact sd_Bal.pure _
    · exact sd_walkFunc env f
  | .overloaded none, h => by simp [sd_noNone] at h
  | .cls name fullname bases removed defs, h => by
    have hd : sd_noNoneL defs = true := by simpa [sd_noNone] using h
    have h1 := sd_walkDefs env .enum defs hd
    have h2 := sd_walkDefs env .cls defs hd
    unfold walkDef
    split
    · exact sd_Bal.pure _
    · split
      · exact sd_Bal.bracket (sd_enterEnumdef env name fullname defs) h1 (fun sh _ => ⟨_, _, rfl, by simp⟩)
          sd_leaveEnumdef (fun st sh h _ => sd_topEnum_of_shape st sh h)
      · exact sd_Bal.bracket (sd_enterClassdef env name fullname bases removed defs) h2 (fun sh _ => ⟨_, _, rfl, by simp⟩)
          sd_leaveClassdef (fun st sh h _ => sd_topCls_of_shape st sh h)
  | .assign a, _ => by
    unfold walkDef
    split
    · exact sd_Bal.pure _
    · rename_i hm
      exact (sd_walkAssignment env a).mono (sd_modeOk_assign mode (by intro e; subst e; simp at hm))
  | .docExpr _ _, _ => by
    unfold walkDef
    exact sd_Bal.pure _
  | .other _, _ => by
    unfold walkDef
    exact sd_Bal.pure _
theorem sd_walkDefs (env : AEnv) (mode : WalkMode) :
    (ds : List Def) → sd_noNoneL ds = true → sd_Bal (sd_ModeOk mode) (walkDefs env mode ds)
  | [], _ => by
    unfold walkDefs
    exact sd_Bal.pure _
  | d :: ds, h => by
    have hd : sd_noNone d = true ∧ sd_noNoneL ds = true := by simpa [sd_noNoneL] using h
    have h1 := sd_walkDef env mode d hd.1
    have h2 := sd_walkDefs env mode ds hd.2
    unfold walkDefs
    exact sd_Bal.bind h1 (fun _ => h2)
end

section
variable (env : AEnv)

theorem sd_walkModule (m : SrcModule) (h : sd_noNoneL m.defs = true) {P : List FK → Prop} :
    sd_Bal P (walkModule env m) := by
  unfold walkModule
  refine sd_Bal.bind (P := P) ⟨fun s _ => rfl⟩ (fun _ => ?_)
  exact sd_Bal.bracket (sd_enterModuledef m) (sd_walkDefs env .module m.defs h) (fun _ _ => trivial)
    sd_leaveModuledef (fun st sh h _ => sd_topModule_of_shape st sh h)

theorem sd_walkModules {P : List FK → Prop} :
    ∀ (ms : List SrcModule), (∀ m ∈ ms, sd_noNoneL m.defs = true) → sd_Bal P (walkModules env ms)
  | [], _ => by
    unfold walkModules
    exact sd_Bal.pure _
  | m :: ms, h => by
    have h1 := sd_walkModule env m (h m (by simp)) (P := P)
    have h2 := sd_walkModules (P := P) ms (fun x hx => h x (by simp [hx]))
    unfold walkModules
    exact sd_Bal.bind h1 (fun _ => h2)

end

end StubGen
