/-
Helper lemmas for `StubGen.Theorems.C20` (TODO markers).

* `createTodoMsg` (`createTodoMsg_ok`: exact text and final state);
* the relation `Grows K b st st'`: `st'` has the keys `K` added to the pending set (and the
  state-dependent key only if `b`), nothing but `todos`, `imports`, `outside` changed; its algebra;
* `Grows` for `addToImports`, the `typeStr` family (mutual structural recursion), `createParameter(s)`,
  `createParameterString`, `createResults`/`createResultString`, `typeVarStrings`, `typeParamStrings`;
* flushing (`…_flushed`) and `Keeps` (started with an empty pending set, ends with one) for every
  declaration-emitting function up to `createModuleString`;
* `rendersEmptyM`: exactly the types the model renders as `""` (`typeStr_empty`), and the key sets
  `resultKeysM`, `functionKeysM`, `attributeKeysM` built on it, with their relation to `Spec.*`:
  `rendersEmptyM = Spec.rendersEmpty` on `mk_tvNonempty` types (no type variable with an empty
  converted name under unions / `Final`s), in particular on types without type variables;
* the closed forms of `createParameter` and `createResultString` come from `Proofs/Params.lean`
  (`createParameter_none/_some`, `mk_createResultString_eq`);
* marker-iff-feature for `createFunctionString`, `createAttribute`, `createClassString`, and the
  lemmas that the text after a marker block does not start with the marker prefix.

`functionBody` / `classBody` are copies of the model text after the early return of
`createFunctionString` / `createClassString`; `createFunctionString_eq` / `createClassString_eq`
(both `rfl`) tie them to the model.
-/
import StubGen.Model.Gen
import StubGen.Spec.Markers
import StubGen.Proofs.PyLemmas
import StubGen.Proofs.GenMonad
import StubGen.Proofs.AddToImports
import StubGen.Proofs.Params
import Mathlib.Data.List.Nodup
import Mathlib.Data.List.Perm.Basic
import Mathlib.Data.String.Basic

namespace StubGen

open List

/-! ### `createTodoMsg` -/

/-- the marker line of one key (the table lookup, with `""` for a key outside the table) -/
def todoMsgOf (k : String) : String :=
  Generated.todoPrefix ++ (assocGet? Generated.todoMessages k).getD ""

/-- the marker block `createTodoMsg` prints for a pending set -/
def renderTodos (indent : String) (keys : List String) : String :=
  if keys = [] then "" else indent ++ joinWith ("\n" ++ indent) (sortStrings (keys.map todoMsgOf)) ++ "\n"

def todoLookup (k : String) : G String :=
  match assocGet? Generated.todoMessages k with
  | some m => pure (Generated.todoPrefix ++ m)
  | none => throwG .keyError

theorem todoLookup_ok (k : String) (st : St) (r : String × St) :
    todoLookup k st = .ok r ↔ (assocGet? Generated.todoMessages k).isSome ∧ r = (todoMsgOf k, st) := by
  unfold todoLookup todoMsgOf
  cases assocGet? Generated.todoMessages k <;> simp [throwG_ok, pure_ok]

theorem mapM_todoLookup_ok (l : List String) (st : St) (r : List String × St) :
    l.mapM todoLookup st = .ok r ↔
      (∀ k ∈ l, (assocGet? Generated.todoMessages k).isSome) ∧ r = (l.map todoMsgOf, st) := by
  induction l generalizing st r with
  | nil => simp [pure_ok]
  | cons k ks ih =>
    simp only [List.mapM_cons, bind_ok, pure_ok, todoLookup_ok, ih, List.forall_mem_cons, List.map_cons, Prod.mk.injEq]
    constructor
    · rintro ⟨_, _, ⟨h1, rfl, rfl⟩, _, _, ⟨h2, rfl, rfl⟩, rfl⟩
      exact ⟨⟨h1, h2⟩, rfl⟩
    · rintro ⟨⟨h1, h2⟩, rfl⟩
      exact ⟨_, _, ⟨h1, rfl, rfl⟩, _, _, ⟨h2, rfl, rfl⟩, rfl⟩

theorem createTodoMsg_ok (indent : String) (st : St) (r : String × St) :
    createTodoMsg indent st = .ok r ↔
      (∀ k ∈ st.todos, (assocGet? Generated.todoMessages k).isSome) ∧
        r = (renderTodos indent st.todos, { st with todos := [] }) := by
  unfold createTodoMsg
  show (if st.todos.isEmpty then _ else _ : G String) st = .ok r ↔ _
  rw [ite_run]
  by_cases he : st.todos = []
  · -- nothing pending: the empty text, the state as it is
    have hst : ({ st with todos := [] } : St) = st := by cases st; simp_all
    simp only [he, List.isEmpty_nil, if_true, pure_ok, renderTodos, hst, List.not_mem_nil, false_imp_iff,
      implies_true, true_and]
  · have hne : st.todos.isEmpty = false := by simpa using he
    simp only [hne, Bool.false_eq_true, if_false, bind_ok, set_ok, pure_ok, renderTodos, if_neg he, Prod.mk.injEq]
    constructor
    · rintro ⟨msgs, s1, h3, _, _, ⟨_, rfl⟩, rfl⟩
      obtain ⟨h5, h6⟩ := (mapM_todoLookup_ok st.todos st (msgs, s1)).1 h3
      cases h6
      exact ⟨h5, rfl⟩
    · rintro ⟨h1, rfl⟩
      exact ⟨_, st, (mapM_todoLookup_ok _ _ _).2 ⟨h1, rfl⟩, ⟨⟩, _, ⟨trivial, rfl⟩, rfl⟩

theorem addToImports_wp (env : Env) (q : String) (st : St) :
    wp (addToImports env q) (fun _ st' => OnlyIO st st') st := by
  intro _ st' h
  rw [(q11_addToImports_ok h).2]
  exact q11_effect_onlyIO env q st

/-! ### the `Grows` relation -/

/-- `st'` arises from `st` by adding the keys `K` to the pending markers (and, only if `b`, possibly
    the state-dependent key `"internal class as type"`), touching nothing but `todos`, `imports`,
    `outside`. -/
structure Grows (K : List String) (b : Bool) (st st' : St) : Prop where
  log : st'.log = st.log
  reexports : st'.reexports = st.reexports
  classGenerics : st'.classGenerics = st.classGenerics
  moduleId : st'.moduleId = st.moduleId
  reexportModuleId : st'.reexportModuleId = st.reexportModuleId
  creatingReexport : st'.creatingReexport = st.creatingReexport
  nodup : st.todos.Nodup → st'.todos.Nodup
  mem : ∀ k, k ≠ "internal class as type" → (k ∈ st'.todos ↔ k ∈ st.todos ∨ k ∈ K)
  internal : "internal class as type" ∈ st'.todos → "internal class as type" ∈ st.todos ∨ b = true

theorem Grows.refl (st : St) : Grows [] false st st :=
  ⟨rfl, rfl, rfl, rfl, rfl, rfl, id, by simp, Or.inl⟩

theorem Grows.trans {K1 K2 : List String} {b1 b2 : Bool} {s0 s1 s2 : St}
    (h1 : Grows K1 b1 s0 s1) (h2 : Grows K2 b2 s1 s2) : Grows (K1 ++ K2) (b1 || b2) s0 s2 := by
  refine ⟨h2.log.trans h1.log, h2.reexports.trans h1.reexports, h2.classGenerics.trans h1.classGenerics,
    h2.moduleId.trans h1.moduleId, h2.reexportModuleId.trans h1.reexportModuleId,
    h2.creatingReexport.trans h1.creatingReexport, fun h => h2.nodup (h1.nodup h), ?_, ?_⟩
  · intro k hk
    rw [h2.mem k hk, h1.mem k hk, List.mem_append, or_assoc]
  · intro h
    rcases h2.internal h with h | h
    · rcases h1.internal h with h | h
      · exact Or.inl h
      · exact Or.inr (by simp [h])
    · exact Or.inr (by simp [h])

theorem Grows.mono {K K' : List String} {b b' : Bool} {st st' : St} (h : Grows K b st st')
    (hK : ∀ k, k ∈ K ↔ k ∈ K') (hb : b = true → b' = true) : Grows K' b' st st' :=
  ⟨h.log, h.reexports, h.classGenerics, h.moduleId, h.reexportModuleId, h.creatingReexport, h.nodup,
    fun k hk => by rw [h.mem k hk, hK], fun hi => (h.internal hi).imp id hb⟩

theorem Grows.addTodo {k : String} (hk : k ≠ "internal class as type") (st : St) :
    Grows [k] false st { st with todos := insertSet k st.todos } :=
  ⟨rfl, rfl, rfl, rfl, rfl, rfl, nodup_insertSet k _, fun k' _ => by simp [mem_insertSet],
    fun h => by
      rcases (mem_insertSet _ _ _).1 h with h | h
      · exact Or.inl h
      · exact absurd h.symm hk⟩

theorem Grows.addInternal (st : St) :
    Grows [] true st { st with todos := insertSet "internal class as type" st.todos } :=
  ⟨rfl, rfl, rfl, rfl, rfl, rfl, nodup_insertSet _ _, fun k' hk => by simp [mem_insertSet, hk],
    fun _ => Or.inr rfl⟩

theorem Grows.of_onlyIO {st s : St} (h : OnlyIO st s) : Grows [] false st s := by
  obtain ⟨h1, h2, h3, h4, h5, h6, h7⟩ := h
  exact ⟨h1, h3, h4, h5, h6, h7, by rw [h2]; exact id, by simp [h2], by rw [h2]; exact Or.inl⟩

/-- the tail shared by the renderings of `set`, `list` and named sequences: the key `k` is added iff `c`, and `c`
    fails when there are no members (`e`) -/
theorem Grows.seqTail {K K' : List String} {b b' : Bool} {st s1 : St} {k : String} {e c : Prop}
    (h1 : Grows K b st s1) (hk : c → k ≠ "internal class as type") (hec : e → ¬c)
    (hK : ∀ x, x ∈ K' ↔ x ∈ K ∨ (c ∧ x = k)) (hb : b = true → b' = true) :
    (e → Grows K' b' st s1) ∧
    (¬e → (c → Grows K' b' st { s1 with todos := insertSet k s1.todos }) ∧ (¬c → Grows K' b' st s1)) := by
  have hn : ¬c → Grows K' b' st s1 := fun hc => h1.mono (fun x => by rw [hK]; simp [hc]) hb
  refine ⟨fun he => hn (hec he), fun _ => ⟨fun hc => ?_, hn⟩⟩
  exact (h1.trans (Grows.addTodo (hk hc) s1)).mono (fun x => by rw [hK]; simp [hc]) (by simpa using hb)

theorem addToImports_grows (env : Env) (q : String) (st : St) :
    wp (addToImports env q) (fun _ st' => Grows [] false st st') st :=
  wp_conseq (addToImports_wp env q st) fun _ _ h => Grows.of_onlyIO h

/-! ### the `typeStr` family -/

theorem typeKeys_of_isLiteral {t : AType} (h : isLiteral t = true) : Spec.typeKeys t = [] := by
  cases t <;> simp [isLiteral] at h
  simp [Spec.typeKeys]

theorem typeKeys_of_isNoneNamed {t : AType} (h : isNoneNamed t = true) : Spec.typeKeys t = [] := by
  cases t <;> simp [isNoneNamed] at h
  simp [Spec.typeKeys]

theorem not_isLiteral_of_isNoneNamed {t : AType} (h : isNoneNamed t = true) : isLiteral t = false := by
  cases t <;> simp [isNoneNamed] at h
  simp [isLiteral]

theorem typeKeysL_eq_nil {ts : List AType} (h : ∀ t ∈ ts, isLiteral t = true ∨ isNoneNamed t = true) :
    Spec.typeKeysL ts = [] := by
  induction ts with
  | nil => simp [Spec.typeKeysL]
  | cons t ts ih =>
    have ht : Spec.typeKeys t = [] := by
      rcases h t (by simp) with h | h
      · exact typeKeys_of_isLiteral h
      · exact typeKeys_of_isNoneNamed h
    simp [Spec.typeKeysL, ht, ih (fun t' h' => h t' (by simp [h']))]

/-- first literal shortcut of the union rendering: one non-literal member, which is `None` -/
theorem union_case1 {ts : List AType}
    (h : ((ts.filter (fun t => !isLiteral t)).length == 1 &&
      (ts.filter (fun t => !isLiteral t)).any isNoneNamed) = true) : Spec.typeKeysL ts = [] := by
  simp only [Bool.and_eq_true, beq_iff_eq] at h
  obtain ⟨h1, h2⟩ := h
  apply typeKeysL_eq_nil
  intro t ht
  cases hl : isLiteral t with
  | true => exact Or.inl rfl
  | false =>
    right
    have hm : t ∈ ts.filter (fun t => !isLiteral t) := by simp [ht, hl]
    match hf : ts.filter (fun t => !isLiteral t), h1 with
    | [x], _ =>
      rw [hf] at hm h2
      simp at hm h2
      rw [hm]; exact h2

/-- second literal shortcut: exactly two members, one literal, one `None` -/
theorem union_case2 {ts : List AType}
    (h : (ts.length == 2 && (ts.filter isLiteral).length == 1 && ts.any isNoneNamed) = true) :
    Spec.typeKeysL ts = [] := by
  simp only [Bool.and_eq_true, beq_iff_eq] at h
  obtain ⟨⟨h1, h2⟩, h3⟩ := h
  match ts, h1 with
  | [a, b], _ =>
    apply typeKeysL_eq_nil
    simp only [List.any_cons, List.any_nil, Bool.or_false, Bool.or_eq_true] at h3
    simp only [List.filter_cons, List.filter_nil] at h2
    intro t ht
    simp only [List.mem_cons, List.not_mem_nil, or_false] at ht
    cases ha : isLiteral a <;> cases hb : isLiteral b <;> simp [ha, hb] at h2
    · rcases h3 with h3 | h3
      · have := not_isLiteral_of_isNoneNamed h3
        rcases ht with rfl | rfl
        · exact Or.inr h3
        · exact Or.inl hb
      · have := not_isLiteral_of_isNoneNamed h3
        simp [hb] at this
    · rcases h3 with h3 | h3
      · have := not_isLiteral_of_isNoneNamed h3
        simp [ha] at this
      · rcases ht with rfl | rfl
        · exact Or.inl ha
        · exact Or.inr h3

mutual
theorem typeStr_grows (env : Env) : (t : AType) → ∀ st,
    wp (typeStr env t) (fun _ st' => Grows (Spec.typeKeys t) (Spec.mentionsInternal t) st st') st
  | .named name qname, st => by
    rw [typeStr]
    split
    · rw [wp_pure]; exact (Grows.refl st).mono (by simp [Spec.typeKeys]) (by simp)
    · rw [wp_bind]
      refine wp_conseq (addToImports_grows env qname st) ?_; intro _ s1 h1
      split
      · exact wp_throwG.2 trivial
      · rename_i c tl hc
        simp only [wp_bind, wp_get, wp_ite, wp_addTodo, wp_pure]
        constructor
        · intro hcond
          refine (h1.trans (Grows.addInternal s1)).mono (by simp [Spec.typeKeys]) ?_
          intro _
          simp only [Bool.and_eq_true, beq_iff_eq] at hcond
          simp [Spec.mentionsInternal, hc, hcond.1]
        · intro _
          exact h1.mono (by simp [Spec.typeKeys]) (by simp)
  | .final t, st => by
    rw [typeStr]
    exact wp_conseq (typeStr_grows env t st) fun _ _ h => h.mono (by simp [Spec.typeKeys]) (by simp [Spec.mentionsInternal])
  | .callable params ret, st => by
    rw [typeStr, wp_bind]
    refine wp_conseq (typeStrsNamed_grows env "param_" 1 params st) ?_; intro ps s1 h1
    -- the members of a result tuple are rendered by name, the tuple itself is not: `cases`, before the `split`,
    -- shows the recursion that `ts` is a part of `ret`
    have h3 : ∀ ts, ret = .tuple ts → wp (typeStrsNamed env "result_" 1 ts) (fun _ st' =>
        Grows (Spec.typeKeysL ts) (Spec.mentionsInternalL ts) s1 st') s1 := by
      cases ret with
      | tuple ts' => exact fun ts e => AType.tuple.inj e ▸ typeStrsNamed_grows env "result_" 1 ts' s1
      | _ => exact fun _ e => nomatch e
    split
    · rename_i ts
      rw [wp_bind]
      refine wp_conseq (h3 ts rfl) ?_; intro rs s2 h2
      rw [wp_pure]
      exact (h1.trans h2).mono (by simp [Spec.typeKeys]) (by simp [Spec.mentionsInternal])
    · rename_i hnt
      have hk : Spec.typeKeys (.callable params ret) = Spec.typeKeysL params ++ Spec.typeKeys ret := by
        cases ret <;> simp [Spec.typeKeys] at hnt ⊢
      simp only [wp_ite, wp_bind, wp_pure]
      refine ⟨?_, ?_⟩
      · intro hn
        have : Spec.typeKeys ret = [] := by
          cases ret <;> simp [namedNone] at hn
          simp [Spec.typeKeys]
        exact h1.mono (by simp [hk, this]) (by simp [Spec.mentionsInternal]; tauto)
      · intro _
        refine wp_conseq (typeStr_grows env ret s1) ?_; intro r s2 h2
        exact (h1.trans h2).mono (by simp [hk]) (by simp [Spec.mentionsInternal])
  | .set ts, st => by
    rw [typeStr, wp_bind]
    refine wp_conseq (typeStrs_grows env ts st) ?_; intro types s1 ⟨h1, hlen⟩
    simp only [wp_bind, wp_addTodo, wp_ite, wp_pure]
    refine (h1.trans (Grows.addTodo (k := "no set support") (by decide) s1)).seqTail (fun _ => by decide)
      (fun he hc => by simp [List.isEmpty_iff.1 he] at hc) (fun x => ?_) (by simp [Spec.mentionsInternal])
    rw [hlen]
    by_cases h : ts.length ≥ 2 <;> simp [Spec.typeKeys, h, or_comm, or_left_comm]
  | .list ts, st => by
    rw [typeStr, wp_bind]
    refine wp_conseq (typeStrs_grows env ts st) ?_; intro types s1 ⟨h1, hlen⟩
    simp only [wp_bind, wp_addTodo, wp_ite, wp_pure]
    refine h1.seqTail (fun _ => by decide) (fun he hc => by simp [List.isEmpty_iff.1 he] at hc) (fun x => ?_)
      (by simp [Spec.mentionsInternal])
    rw [hlen]
    by_cases h : ts.length ≥ 2 <;> simp [Spec.typeKeys, h, or_comm]
  | .namedSeq name q ts, st => by
    rw [typeStr, wp_bind]
    refine wp_conseq (typeStrs_grows env ts st) ?_; intro types s0 ⟨h0, hlen⟩
    rw [wp_bind]
    refine wp_conseq (addToImports_grows env q s0) ?_; intro _ s1 hi
    simp only [wp_bind, wp_addTodo, wp_ite, wp_pure]
    refine (h0.trans hi).seqTail (fun hc => ?_) (fun he hc => by simp [List.isEmpty_iff.1 he] at hc) (fun x => ?_)
      (by simp [Spec.mentionsInternal])
    · simp only [Bool.and_eq_true, Bool.or_eq_true, beq_iff_eq] at hc
      rcases hc.2 with h | h <;> rw [h] <;> decide
    · rw [hlen]
      by_cases h : (ts.length ≥ 2 && (name == "Set" || name == "List")) = true <;>
        simp [Spec.typeKeys, h, or_comm]
  | .unknown, st => by
    rw [typeStr]
    simp only [wp_bind, wp_addTodo, wp_pure]
    exact (Grows.addTodo (by decide) st).mono (by simp [Spec.typeKeys]) (by simp)
  | .union ts, st => by
    rw [typeStr]
    simp only [wp_ite, wp_bind, wp_pure]
    refine ⟨fun _ => ⟨?_, ?_⟩, fun _ => ⟨?_, ?_⟩⟩
    · intro h
      exact (Grows.refl st).mono (by simp [Spec.typeKeys, union_case1 h]) (by simp)
    · intro _
      refine wp_conseq (typeStrsSkipLit_grows env ts st) ?_; intro rs s1 h1
      exact h1.mono (by simp [Spec.typeKeys]) (by simp [Spec.mentionsInternal])
    · intro h
      exact (Grows.refl st).mono (by simp [Spec.typeKeys, union_case2 h]) (by simp)
    · intro _
      refine wp_conseq (typeStrs_grows env ts st) ?_; intro rs s1 h1
      exact h1.1.mono (by simp [Spec.typeKeys]) (by simp [Spec.mentionsInternal])
  | .tuple ts, st => by
    rw [typeStr]
    simp only [wp_bind, wp_addTodo]
    refine wp_conseq (typeStrs_grows env ts _) ?_; intro types s1 ⟨h1, _⟩
    rw [wp_pure]
    exact ((Grows.addTodo (k := "no tuple support") (by decide) st).trans h1).mono
      (by simp [Spec.typeKeys]) (by simp [Spec.mentionsInternal])
  | .dict k v, st => by
    rw [typeStr, wp_bind]
    refine wp_conseq (typeStr_grows env k st) ?_; intro ks s1 h1
    rw [wp_bind]
    refine wp_conseq (typeStr_grows env v s1) ?_; intro vs s2 h2
    rw [wp_pure]
    exact (h1.trans h2).mono (by simp [Spec.typeKeys]) (by simp [Spec.mentionsInternal])
  | .literal ls, st => by
    rw [typeStr, wp_pure]; exact (Grows.refl st).mono (by simp [Spec.typeKeys]) (by simp)
  | .typeVar name, st => by
    rw [typeStr, wp_pure]; exact (Grows.refl st).mono (by simp [Spec.typeKeys]) (by simp)
  | .typeVarB name _, st => by
    rw [typeStr, wp_pure]; exact (Grows.refl st).mono (by simp [Spec.typeKeys]) (by simp)
  | .enum _, st => by
    rw [typeStr]; exact wp_throwG.2 trivial
  | .boundary .., st => by
    rw [typeStr]; exact wp_throwG.2 trivial
theorem typeStrs_grows (env : Env) : (ts : List AType) → ∀ st,
    wp (typeStrs env ts) (fun l st' =>
      Grows (Spec.typeKeysL ts) (Spec.mentionsInternalL ts) st st' ∧ l.length = ts.length) st
  | [], st => by
    rw [typeStrs, wp_pure]
    exact ⟨(Grows.refl st).mono (by simp [Spec.typeKeysL]) (by simp), rfl⟩
  | t :: ts, st => by
    rw [typeStrs, wp_bind]
    refine wp_conseq (typeStr_grows env t st) ?_; intro a s1 h1
    rw [wp_bind]
    refine wp_conseq (typeStrs_grows env ts s1) ?_; intro as s2 ⟨h2, hlen⟩
    rw [wp_pure]
    exact ⟨(h1.trans h2).mono (by simp [Spec.typeKeysL]) (by simp [Spec.mentionsInternalL]), by simp [hlen]⟩
theorem typeStrsSkipLit_grows (env : Env) : (ts : List AType) → ∀ st,
    wp (typeStrsSkipLit env ts) (fun _ st' =>
      Grows (Spec.typeKeysL ts) (Spec.mentionsInternalL ts) st st') st
  | [], st => by
    rw [typeStrsSkipLit, wp_pure]
    exact (Grows.refl st).mono (by simp [Spec.typeKeysL]) (by simp)
  | t :: ts, st => by
    rw [typeStrsSkipLit]
    split
    · rename_i hl
      refine wp_conseq (typeStrsSkipLit_grows env ts st) ?_; intro _ s1 h1
      cases t <;> simp [isLiteral] at hl
      exact h1.mono (by simp [Spec.typeKeysL, Spec.typeKeys]) (by simp [Spec.mentionsInternalL, Spec.mentionsInternal])
    · rw [wp_bind]
      refine wp_conseq (typeStr_grows env t st) ?_; intro a s1 h1
      rw [wp_bind]
      refine wp_conseq (typeStrsSkipLit_grows env ts s1) ?_; intro as s2 h2
      rw [wp_pure]
      exact (h1.trans h2).mono (by simp [Spec.typeKeysL]) (by simp [Spec.mentionsInternalL])
theorem typeStrsNamed_grows (env : Env) (pre : String) (i : Nat) : (ts : List AType) → ∀ st,
    wp (typeStrsNamed env pre i ts) (fun _ st' =>
      Grows (Spec.typeKeysL ts) (Spec.mentionsInternalL ts) st st') st
  | [], st => by
    rw [typeStrsNamed, wp_pure]
    exact (Grows.refl st).mono (by simp [Spec.typeKeysL]) (by simp)
  | t :: ts, st => by
    rw [typeStrsNamed, wp_bind]
    refine wp_conseq (typeStr_grows env t st) ?_; intro a s1 h1
    rw [wp_bind]
    refine wp_conseq (typeStrsNamed_grows env pre (i + 1) ts s1) ?_; intro as s2 h2
    rw [wp_pure]
    exact (h1.trans h2).mono (by simp [Spec.typeKeysL]) (by simp [Spec.mentionsInternalL])
end


/-! ### parameters -/

theorem wp_true {α : Type} (x : G α) (st : St) : wp x (fun _ _ => True) st := fun _ _ _ => trivial

/-- a step whose result and final state do not matter -/
theorem wp_skip {α : Type} {x : G α} {Q : α → St → Prop} {st : St} (h : ∀ a s, Q a s) : wp x Q st :=
  fun a s _ => h a s

/-- `if c then addTodo k` followed by a continuation -/
theorem wp_condTodo {α : Type} {c : Prop} [Decidable c] {k : String} {f : Unit → G α}
    {Q : α → St → Prop} {st : St} :
    wp (if c then addTodo k >>= f else f ()) Q st ↔
      wp (f ()) Q (if c then { st with todos := insertSet k st.todos } else st) := by
  split <;> simp [wp_bind, wp_addTodo]

theorem Grows.condTodo {k : String} (hk : k ≠ "internal class as type") (c : Prop) [Decidable c] (st : St) :
    Grows (if c then [k] else []) false st (if c then { st with todos := insertSet k st.todos } else st) := by
  split
  · exact Grows.addTodo hk st
  · exact Grows.refl st

theorem defaultString_grows (a : Assign) (d : DefaultVal) (st : St) :
    wp (defaultString a d) (fun _ st' => Grows (if d = .unknown then ["unknown value"] else []) false st st') st := by
  cases d <;> simp only [defaultString, wp_pure, wp_bind, wp_addTodo, wp_ite]
  case unknown => exact (Grows.addTodo (by decide) st).mono (by simp) (by simp)
  case str s =>
    refine ⟨fun _ => ?_, fun _ => ⟨fun _ => ?_, fun _ => ?_⟩⟩ <;>
      exact (Grows.refl st).mono (by simp) (by simp)
  all_goals exact (Grows.refl st).mono (by simp) (by simp)

/-- does the parameter's type mention a class whose name starts with an underscore -/
def paramInternal (p : Parameter) : Bool :=
  match p.type with
  | some t => Spec.mentionsInternal t
  | none => false

theorem shown_internal {p : Parameter} {t' : AType} (h : Spec.shownParamType p = some t') :
    Spec.mentionsInternal t' = paramInternal p := by
  unfold Spec.shownParamType at h
  unfold paramInternal
  split at h
  · rename_i ts h1 h2
    cases h
    rw [h2]
    simp [Spec.mentionsInternal]
  · rw [h]

theorem Grows.addIf {k : String} (hk : k ≠ "internal class as type") (c : Bool) (st : St) :
    Grows (if c then [k] else []) false st (addIf c k st) :=
  Grows.condTodo hk (c = true) st

/-- the markers that depend on the kind of the parameter (`paramTail`, `Proofs/Params.lean`) -/
theorem Grows.paramTail (p : Parameter) (st : St) :
    Grows ((if p.assignedBy == .positionOnly && p.isOptional then ["OPT_POS_ONLY"] else [])
      ++ (if p.assignedBy == .nameOnly && !p.isOptional then ["REQ_NAME_ONLY"] else [])
      ++ (if Spec.isVariadic p then ["variadic"] else [])) false st (paramTail p st) :=
  (((Grows.addIf (by decide) _ st).trans (Grows.addIf (by decide) _ _)).trans
    (Grows.addIf (by decide) _ _)).mono (fun _ => Iff.rfl) (by simp)

/-- by the closed forms `createParameter_none` / `createParameter_some` of `Proofs/Params.lean` -/
theorem createParameter_grows (env : Env) (p : Parameter) (hp : Spec.optionalIsTyped p = true) (st : St) :
    wp (createParameter env p) (fun _ st' => Grows (Spec.paramKeys p) (paramInternal p) st st') st := by
  intro out st' h
  cases ht : p.type with
  | none =>
    rw [createParameter_none env p st ht] at h
    cases h
    have ho : p.isOptional = false := by simpa [Spec.optionalIsTyped, ht] using hp
    refine ((Grows.addTodo (k := "param without type") (by decide) st).trans (Grows.paramTail p _)).mono ?_ (by simp)
    intro k
    simp [Spec.paramKeys, Spec.shownParamType, ht, ho]
  | some t =>
    have hs := shownParamType_of_some ht
    rw [createParameter_some env p st ht hs] at h
    split at h
    · cases h
    · rename_i ts st₂ hts
      cases h
      have g0 : Grows (if p.isOptional && p.default == .unknown then ["unknown value"] else []) false st
          (afterDefault p st) := Grows.addIf (by decide) _ st
      -- the default value is rendered before the type, the specification lists the type's markers first
      have g1 := (g0.trans (typeStr_grows env _ _ _ _ hts)).mono (K' := Spec.typeKeys _ ++ _)
        (fun k => by rw [List.mem_append, List.mem_append, or_comm]) id
      refine (g1.trans (Grows.paramTail p st₂)).mono (fun k => ?_) ?_
      · rw [Spec.paramKeys, hs]
        simp only [List.append_assoc]
      · simp [shown_internal hs]

theorem createParameters_grows (env : Env) : (ps : List Parameter) →
    (∀ p ∈ ps, Spec.optionalIsTyped p = true) → ∀ st,
    wp (createParameters env ps) (fun _ st' => Grows (Spec.paramsKeys ps) (ps.any paramInternal) st st') st
  | [], _, st => by
    rw [createParameters, wp_pure]
    exact (Grows.refl st).mono (by simp [Spec.paramsKeys]) (by simp)
  | p :: ps, hps, st => by
    rw [createParameters, wp_bind]
    refine wp_conseq (createParameter_grows env p (hps p (by simp)) st) ?_; intro a s1 h1
    rw [wp_bind]
    refine wp_conseq (createParameters_grows env ps (fun q hq => hps q (by simp [hq])) s1) ?_; intro as s2 h2
    rw [wp_pure]
    exact (h1.trans h2).mono (by simp [Spec.paramsKeys]) (by simp)

/-- the parameters `createParameterString` renders -/
def shownParams (params : List Parameter) (isInstanceMethod : Bool) : List Parameter :=
  if isInstanceMethod then params.drop 1 else params

theorem createParameterString_grows (env : Env) (params : List Parameter) (indent : String) (im : Bool)
    (hps : ∀ p ∈ params, Spec.optionalIsTyped p = true) (st : St) :
    wp (createParameterString env params indent im)
      (fun _ st' => Grows (Spec.paramsKeys (shownParams params im)) ((shownParams params im).any paramInternal) st st') st := by
  unfold createParameterString
  simp only [wp_bind]
  have hsub : ∀ p ∈ shownParams params im, Spec.optionalIsTyped p = true := by
    intro p hp
    unfold shownParams at hp
    split at hp
    · exact hps p (List.mem_of_mem_drop hp)
    · exact hps p hp
  refine wp_conseq (createParameters_grows env _ hsub st) ?_; intro outs s1 h1
  simp only [wp_ite, wp_pure]
  exact ⟨fun _ => h1, fun _ => h1⟩

/-! ### flushing -/

theorem createTodoMsg_wp (indent : String) (st : St) :
    wp (createTodoMsg indent)
      (fun s st' => s = renderTodos indent st.todos ∧ st' = { st with todos := [] }) st := by
  intro s st' h
  have := ((createTodoMsg_ok indent st (s, st')).1 h).2
  cases this
  exact ⟨rfl, rfl⟩

theorem hasNodeShorterReexport_wp (n : String) (r : List ModRef) (node : Node) (st : St) :
    wp (hasNodeShorterReexport n r node)
      (fun b st' => (b = false → st' = st) ∧ ∃ rs, st' = { st with reexports := rs }) st := by
  unfold hasNodeShorterReexport
  simp only [wp_bind, wp_get]
  split
  · simp only [wp_ite, wp_bind, wp_set, wp_pure]
    exact ⟨fun _ => ⟨by simp, _, rfl⟩, fun _ => ⟨by simp, st.reexports, rfl⟩⟩
  · rw [wp_pure]
    exact ⟨fun _ => rfl, st.reexports, rfl⟩

/-- the part of `createFunctionString` after the early return -/
def functionBody (env : Env) (f : Function) (indent : String) (isMethod : Bool) : G String := do
  logEmit "fun" f.id
  let static := if f.isClassMethod || f.isStatic then "static " else ""
  if f.isClassMethod then addTodo "class_method"
  let funcParams ← createParameterString env f.params indent (!f.isStatic && isMethod)
  let tvs ← typeVarStrings env isMethod f.typeVars
  let typeVarInfo := if tvs.isEmpty then "" else "<" ++ joinWith ", " tvs ++ ">"
  let docstring := sdsDocstring env.safe f.doc.description indent f.params f.resultDocs f.doc.examples
  let camel := convertName f.name env.safe
  let ann := if camel != f.name then indent ++ nameAnnotation f.name ++ "\n" else ""
  let resultString ← createResultString env f.results
  let todo ← createTodoMsg indent
  pure (todo ++ docstring ++ indent ++ "@Pure\n" ++ ann ++ indent ++ static ++ "fun " ++ escapeKeyword camel
        ++ typeVarInfo ++ "(" ++ funcParams ++ ")" ++ resultString)

theorem createFunctionString_eq (env : Env) (f : Function) (indent : String) (isMethod inRe : Bool) :
    createFunctionString env f indent isMethod inRe =
      if !isMethod && !inRe then do
        let b ← hasNodeShorterReexport f.name f.reexportedBy (.fn f)
        if b then do
          logEmit "moved" f.id
          pure ""
        else functionBody env f indent isMethod
      else functionBody env f indent isMethod := rfl

theorem functionBody_flushed (env : Env) (f : Function) (indent : String) (isMethod : Bool) (st : St) :
    wp (functionBody env f indent isMethod) (fun _ st' => st'.todos = []) st := by
  unfold functionBody
  simp only [wp_bind, wp_logEmit, wp_condTodo]
  refine wp_skip fun _ s1 => ?_
  refine wp_skip fun _ s2 => ?_
  refine wp_skip fun _ s3 => ?_
  refine wp_conseq (createTodoMsg_wp indent s3) ?_; intro _ s4 ⟨_, h⟩
  rw [wp_pure, h]

theorem createFunctionString_flushed (env : Env) (f : Function) (indent : String) (isMethod inRe : Bool) (st : St) :
    wp (createFunctionString env f indent isMethod inRe)
      (fun text st' => st'.todos = [] ∨ (text = "" ∧ st'.todos = st.todos)) st := by
  rw [createFunctionString_eq]
  simp only [wp_ite, wp_bind]
  refine ⟨fun _ => ?_, fun _ => ?_⟩
  · refine wp_conseq (hasNodeShorterReexport_wp _ _ _ st) ?_; intro b s1 ⟨_, rs, h2⟩
    refine ⟨fun _ => ?_, fun _ => ?_⟩
    · simp only [wp_logEmit, wp_pure]
      exact Or.inr ⟨trivial, by rw [h2]⟩
    · exact wp_conseq (functionBody_flushed env f indent isMethod s1) fun _ _ h => Or.inl h
  · exact wp_conseq (functionBody_flushed env f indent isMethod st) fun _ _ h => Or.inl h

theorem createPropertyFunctionString_flushed (env : Env) (f : Function) (indent : String) (st : St) :
    wp (createPropertyFunctionString env f indent) (fun _ st' => st'.todos = []) st := by
  unfold createPropertyFunctionString
  simp only [wp_bind, wp_logEmit]
  refine wp_skip fun _ s1 => ?_
  refine wp_conseq (createTodoMsg_wp indent s1) ?_; intro _ s2 ⟨_, h⟩
  rw [wp_pure, h]

theorem createAttribute_flushed (env : Env) (a : Attribute) (inner : String) (st : St) :
    wp (createAttribute env a inner)
      (fun r st' => (r = none → st' = st) ∧ (r ≠ none → st'.todos = [])) st := by
  unfold createAttribute
  rw [wp_ite]
  refine ⟨fun _ => by rw [wp_pure]; simp, fun _ => ?_⟩
  rw [wp_ite]
  refine ⟨fun _ => by rw [wp_pure]; simp, fun _ => ?_⟩
  simp only [wp_bind, wp_logEmit]
  refine wp_skip fun t s1 => ?_
  simp only [wp_condTodo, wp_bind]
  refine wp_conseq (createTodoMsg_wp inner _) ?_; intro _ s2 ⟨_, h⟩
  rw [wp_pure, h]
  exact ⟨fun h => by simp at h, fun _ => rfl⟩

/-! ### computations that keep the pending set empty -/

section Keeps
variable {α β : Type}

/-- started with no pending markers, `x` ends with none -/
def Keeps (x : G α) : Prop := ∀ st, st.todos = [] → wp x (fun _ st' => st'.todos = []) st

theorem Keeps.bind {x : G α} {f : α → G β} (hx : Keeps x) (hf : ∀ a, Keeps (f a)) : Keeps (x >>= f) := by
  intro st h
  rw [wp_bind]
  exact wp_conseq (hx st h) fun a s1 h1 => hf a s1 h1

theorem Keeps.pure (a : α) : Keeps (pure a : G α) := by
  intro st h
  rw [wp_pure]; exact h

theorem Keeps.ite {c : Prop} [Decidable c] {x y : G α} (hx : Keeps x) (hy : Keeps y) :
    Keeps (if c then x else y) := by
  split <;> assumption

theorem Keeps.of_flushed {x : G α} (h : ∀ st, wp x (fun _ st' => st'.todos = []) st) : Keeps x :=
  fun st _ => h st

end Keeps

theorem addToImports_keeps_mk (env : Env) (q : String) : Keeps (addToImports env q) := by
  intro st h
  exact wp_conseq (addToImports_wp env q st) fun _ s hs => by rw [hs.2.1, h]

theorem createFunctionString_keeps_mk (env : Env) (f : Function) (indent : String) (isMethod inRe : Bool) :
    Keeps (createFunctionString env f indent isMethod inRe) := by
  intro st h
  refine wp_conseq (createFunctionString_flushed env f indent isMethod inRe st) ?_
  rintro _ s (h1 | ⟨_, h1⟩)
  · exact h1
  · rw [h1, h]

theorem createAttribute_keeps_mk (env : Env) (a : Attribute) (inner : String) : Keeps (createAttribute env a inner) := by
  intro st h
  refine wp_conseq (createAttribute_flushed env a inner st) ?_
  rintro r s ⟨h1, h2⟩
  cases r with
  | none => rw [h1 rfl, h]
  | some t => exact h2 (by simp)

theorem createAttributes_keeps_mk (env : Env) (inner : String) : (as : List Attribute) →
    Keeps (createAttributes env inner as)
  | [] => by rw [createAttributes]; exact Keeps.pure _
  | a :: as => by
    rw [createAttributes]
    refine Keeps.bind (createAttribute_keeps_mk env a inner) fun r => ?_
    refine Keeps.bind (createAttributes_keeps_mk env inner as) fun ⟨texts, names⟩ => ?_
    cases r <;> exact Keeps.pure _

theorem createClassAttributeString_keeps_mk (env : Env) (attrs : List Attribute) (inner : String) :
    Keeps (createClassAttributeString env attrs inner) := by
  unfold createClassAttributeString
  exact Keeps.bind (createAttributes_keeps_mk env inner attrs) fun ⟨_, _⟩ => Keeps.pure _

theorem createMethods_keeps_mk (env : Env) (inner : String) (isInt : Bool) (ad : List String) :
    (ms : List Function) → Keeps (createMethods env inner isInt ad ms)
  | [] => by rw [createMethods]; exact Keeps.pure _
  | m :: ms => by
    rw [createMethods]
    refine Keeps.ite (createMethods_keeps_mk env inner isInt ad ms) (Keeps.ite ?_ ?_)
    · refine Keeps.bind (Keeps.of_flushed (createPropertyFunctionString_flushed env m inner)) fun _ => ?_
      exact Keeps.bind (createMethods_keeps_mk env inner isInt ad ms) fun ⟨_, _, _⟩ => Keeps.pure _
    · refine Keeps.bind (createFunctionString_keeps_mk env m inner true false) fun _ => ?_
      exact Keeps.bind (createMethods_keeps_mk env inner isInt ad ms) fun ⟨_, _, _⟩ => Keeps.pure _

theorem createClassMethodString_keeps_mk (env : Env) (ms : List Function) (inner : String) (isInt : Bool)
    (ad : List String) : Keeps (createClassMethodString env ms inner isInt ad) := by
  unfold createClassMethodString
  exact Keeps.bind (createMethods_keeps_mk env inner isInt ad ms) fun ⟨_, _, _⟩ => Keeps.pure _

theorem innerClassesG_keeps_mk {render : Class → G String} (h : ∀ c, Keeps (render c)) :
    (cs : List Class) → Keeps (innerClassesG render cs)
  | [] => by rw [innerClassesG]; exact Keeps.pure _
  | c :: cs => by
    rw [innerClassesG]
    exact Keeps.bind (h c) fun _ => Keeps.bind (innerClassesG_keeps_mk h cs) fun _ => Keeps.pure _

theorem superclassesG_keeps_mk (env : Env) {inline : String → G String} (h : ∀ s, Keeps (inline s)) :
    (scs : List String) → Keeps (superclassesG env inline scs)
  | [] => by rw [superclassesG]; exact Keeps.pure _
  | sc :: scs => by
    rw [superclassesG]
    refine Keeps.ite ?_ ?_
    · exact Keeps.bind (addToImports_keeps_mk env sc) fun _ =>
        Keeps.bind (superclassesG_keeps_mk env h scs) fun ⟨_, _⟩ => Keeps.pure _
    · exact Keeps.bind (h sc) fun _ =>
        Keeps.bind (superclassesG_keeps_mk env h scs) fun ⟨_, _⟩ => Keeps.pure _

theorem internalSupersG_keeps_mk {inline : String → G String} (h : ∀ s, Keeps (inline s)) :
    (sss : List String) → Keeps (internalSupersG inline sss)
  | [] => by rw [internalSupersG]; exact Keeps.pure _
  | ss :: sss => by
    rw [internalSupersG]
    refine Keeps.bind (Keeps.ite (h _) (Keeps.pure _)) fun _ => ?_
    exact Keeps.bind (internalSupersG_keeps_mk h sss) fun _ => Keeps.pure _

/-! ### classes -/

/-- the part of `createClassString` after the early return (a copy of the model text; tied to the
    model by `createClassString_eq`, which is `rfl`) -/
def classBody (env : Env) (fuel : Nat) (c : Class) (indent : String) : G String := do
    logEmit "class" c.id
    let inner := indent ++ indentation
    let constructorInfo ← (if c.isAbstract then pure "" else do
      let p ← (match c.ctor with
        | some ctor => createParameterString env ctor.params indent true
        | none => pure "" : G String)
      pure ("(" ++ p ++ ")") : G String)
    let ctorTypeVars := match c.ctor with
      | some ctor => ctor.typeVars
      | none => []
    let outerGenerics := (← get).classGenerics
    modify fun s => { s with classGenerics := [] }
    let varianceInfo ← (if !c.typeParams.isEmpty || !ctorTypeVars.isEmpty then do
        let items ← typeParamStrings env c.typeParams
        let generics := ctorTypeVars.foldl (fun acc tv =>
          let n := escapeKeyword (convertName tv.name env.safe)
          if acc.contains n then acc else acc ++ [n]) items
        modify fun s => { s with classGenerics := generics }
        pure (if generics.isEmpty then "" else "<" ++ joinWith ", " generics ++ ">")
      else pure "" : G String)
    let camel := convertName c.name env.safe true
    let pythonNameInfo := if camel != c.name then indent ++ nameAnnotation c.name ++ "\n" else ""
    let classSignatureTodo ← createTodoMsg indent
    let (attrText, attrNames) ← createClassAttributeString env c.attributes inner
    let innerText ← innerClassesG (fun ic => createClassString env fuel ic inner true) (c.classes.filter (·.isPublic))
    let (methodText, methodNames) ← createClassMethodString env c.methods inner
    let alreadyDefined := unionSet (unionSet attrNames methodNames) ((c.classes.filter (·.isPublic)).map (·.name))
    let (superInfo, superMethodsText, nNames) ← (if !c.renderedSupers.isEmpty && !c.isAbstract then do
        let (names, text) ← superclassesG env
          (fun sc => createInternalClassString env fuel sc inner alreadyDefined) c.renderedSupers
        pure (if names.isEmpty then "" else " sub " ++ joinWith ", " names, text, names.length)
      else pure ("", "", 0) : G (String × String × Nat))
    if nNames > 1 then addTodo "multiple_inheritance"
    let classInheritanceTodo ← createTodoMsg indent
    modify fun s => { s with classGenerics := outerGenerics }
    let signature := pythonNameInfo ++ indent ++ classSignatureTodo ++ classInheritanceTodo ++ "class "
      ++ escapeKeyword camel ++ varianceInfo ++ constructorInfo ++ superInfo
    let classText := attrText ++ innerText ++ superMethodsText ++ methodText
    let ctorParams := match c.ctor with
      | some ctor => ctor.params
      | none => []
    let docstring := sdsDocstring env.safe c.doc.description indent ctorParams [] c.doc.examples
    logEmit "endclass" c.id
    if classText == "" then pure (docstring ++ signature)
    else pure (docstring ++ signature ++ " {" ++ classText ++ indent ++ "}")

theorem createClassString_eq (env : Env) (fuel : Nat) (c : Class) (indent : String) (inRe : Bool) :
    createClassString env (fuel + 1) c indent inRe =
      if !inRe then do
        let b ← hasNodeShorterReexport c.name c.reexportedBy (.cls c)
        if b then do
          logEmit "moved" c.id
          pure ""
        else classBody env fuel c indent
      else classBody env fuel c indent := by
  rw [createClassString]
  rfl

theorem classBody_flushed (env : Env) (fuel : Nat) (c : Class) (indent : String) (st : St) :
    wp (classBody env fuel c indent) (fun _ st' => st'.todos = []) st := by
  unfold classBody
  simp only [wp_bind, wp_logEmit]
  refine wp_skip fun ci s1 => ?_
  refine wp_skip fun og s1a => ?_
  refine wp_skip fun _ s1b => ?_
  refine wp_skip fun vi s2 => ?_
  refine wp_skip fun t1 s3 => ?_
  refine wp_skip fun ⟨attrText, attrNames⟩ s4 => ?_
  refine wp_skip fun innerText s5 => ?_
  refine wp_skip fun ⟨methodText, methodNames⟩ s6 => ?_
  refine wp_skip fun ⟨superInfo, superMethodsText, nNames⟩ s7 => ?_
  simp only [wp_condTodo, wp_bind]
  refine wp_conseq (createTodoMsg_wp indent _) ?_; intro t2 s8 ⟨_, h8⟩
  simp only [wp_modify, wp_logEmit, wp_ite, wp_pure, h8]
  simp

theorem createClassString_flushed (env : Env) (fuel : Nat) (c : Class) (indent : String) (inRe : Bool) (st : St) :
    wp (createClassString env fuel c indent inRe)
      (fun text st' => st'.todos = [] ∨ (text = "" ∧ st'.todos = st.todos)) st := by
  cases fuel with
  | zero => rw [createClassString]; exact wp_throwG.2 trivial
  | succ fuel =>
    rw [createClassString_eq]
    simp only [wp_ite, wp_bind]
    refine ⟨fun _ => ?_, fun _ => ?_⟩
    · refine wp_conseq (hasNodeShorterReexport_wp _ _ _ st) ?_; intro b s1 ⟨_, rs, h2⟩
      refine ⟨fun _ => ?_, fun _ => ?_⟩
      · simp only [wp_logEmit, wp_pure]
        exact Or.inr ⟨trivial, by rw [h2]⟩
      · exact wp_conseq (classBody_flushed env fuel c indent s1) fun _ _ h => Or.inl h
    · exact wp_conseq (classBody_flushed env fuel c indent st) fun _ _ h => Or.inl h

theorem createClassString_keeps_mk (env : Env) (fuel : Nat) (c : Class) (indent : String) (inRe : Bool) :
    Keeps (createClassString env fuel c indent inRe) := by
  intro st h
  refine wp_conseq (createClassString_flushed env fuel c indent inRe st) ?_
  rintro _ s (h1 | ⟨_, h1⟩)
  · exact h1
  · rw [h1, h]

/-! ### modules -/

theorem createFunctions_keeps (env : Env) (inRe : Bool) : (fs : List Function) →
    Keeps (createFunctions env inRe fs)
  | [] => by rw [createFunctions]; exact Keeps.pure _
  | f :: fs => by
    rw [createFunctions]
    refine Keeps.bind (Keeps.ite (createFunctionString_keeps_mk env f "" false inRe) (Keeps.pure _)) fun _ => ?_
    exact Keeps.bind (createFunctions_keeps env inRe fs) fun _ => Keeps.pure _

theorem createClasses_keeps (env : Env) (inRe : Bool) : (cs : List Class) →
    Keeps (createClasses env inRe cs)
  | [] => by rw [createClasses]; exact Keeps.pure _
  | c :: cs => by
    rw [createClasses]
    refine Keeps.bind (Keeps.ite (createClassString_keeps_mk env _ c "" inRe) (Keeps.pure _)) fun _ => ?_
    exact Keeps.bind (createClasses_keeps env inRe cs) fun _ => Keeps.pure _

theorem createImportsString_keeps_mk (env : Env) : Keeps (createImportsString env) := by
  intro st h
  unfold createImportsString
  simp only [wp_bind, wp_get, wp_ite, wp_pure]
  exact ⟨fun _ => h, fun _ => h⟩

theorem createModuleString_keeps (env : Env) (m : Module) : Keeps (createModuleString env m) := by
  unfold createModuleString
  split
  refine Keeps.bind (createFunctions_keeps env _ _) fun _ => ?_
  refine Keeps.bind (createClasses_keeps env _ _) fun _ => ?_
  refine Keeps.bind ?_ fun _ => ?_
  · intro st h
    rw [wp_modify]; exact h
  · exact Keeps.bind (createImportsString_keeps_mk env) fun _ => Keeps.pure _

/-! ### which types render as the empty string -/

theorem mem_sortDedupStrings (l : List String) (x : String) : x ∈ sortStrings (dedupStrings l) ↔ x ∈ l := by
  unfold sortStrings dedupStrings
  rw [(sortBy_perm _ _).mem_iff, mem_foldl_insertSet]
  simp

theorem nodup_sortDedupStrings (l : List String) : (sortStrings (dedupStrings l)).Nodup := by
  unfold sortStrings dedupStrings
  exact (sortBy_perm _ _).nodup_iff.2 (nodup_foldl_insertSet l [] List.nodup_nil)

theorem finishUnion_eq_empty (rs : List String) (b : Bool) : finishUnion rs b = "" ↔ ∀ r ∈ rs, r = "" := by
  have hm := mem_sortDedupStrings rs
  have hn := nodup_sortDedupStrings rs
  unfold finishUnion
  simp only []
  generalize sortStrings (dedupStrings rs) = types at hm hn
  match types with
  | [] =>
    simp only [true_iff]
    intro r hr
    exact absurd ((hm r).2 hr) (by simp)
  | [t] =>
    simp only
    constructor
    · intro ht r hr
      have := (hm r).2 hr
      simp at this
      rw [this, ht]
    · intro h
      exact h t ((hm t).1 (by simp))
  | [x, y] =>
    simp only
    constructor
    · intro h
      exfalso
      revert h
      split
      · split <;> simp
      · simp
    · intro h
      exfalso
      have hx := h x ((hm x).1 (by simp))
      have hy := h y ((hm y).1 (by simp))
      rw [hx, hy] at hn
      simp at hn
  | x :: y :: z :: rest =>
    simp only
    constructor
    · intro h
      exfalso
      revert h
      simp
    · intro h
      exfalso
      have hx := h x ((hm x).1 (by simp))
      have hy := h y ((hm y).1 (by simp))
      rw [hx, hy] at hn
      simp at hn

mutual
/-- the types the model renders as the empty string: unions all of whose members render empty
    (in particular the union without members), also under `Final`, and type variables whose
    converted name is empty.  `Spec.rendersEmpty` is the same without the type variables
    (`mk_rendersEmptyM_eq`). -/
def rendersEmptyM (safe : Bool) : AType → Bool
  | .union ts => rendersEmptyML safe ts
  | .final t => rendersEmptyM safe t
  | .typeVar n => convertName n safe == ""
  | .typeVarB n _ => convertName n safe == ""
  | _ => false
def rendersEmptyML (safe : Bool) : List AType → Bool
  | [] => true
  | t :: ts => rendersEmptyM safe t && rendersEmptyML safe ts
end

theorem rendersEmptyML_iff (safe : Bool) (ts : List AType) :
    rendersEmptyML safe ts = true ↔ ∀ t ∈ ts, rendersEmptyM safe t = true := by
  induction ts with
  | nil => simp [rendersEmptyML]
  | cons t ts ih => simp [rendersEmptyML, ih]

theorem rendersEmptyML_false_of_literal {safe : Bool} {ts : List AType}
    (h : (ts.filter isLiteral).length ≥ 1) : rendersEmptyML safe ts = false := by
  cases hb : rendersEmptyML safe ts with
  | false => rfl
  | true =>
    exfalso
    rw [rendersEmptyML_iff] at hb
    match hf : ts.filter isLiteral, h with
    | x :: _, _ =>
      have hx : x ∈ ts.filter isLiteral := by rw [hf]; simp
      rw [List.mem_filter] at hx
      have := hb x hx.1
      have hl := hx.2
      cases x <;> simp [isLiteral] at hl
      simp [rendersEmptyM] at this

mutual
theorem typeStr_empty (env : Env) : (t : AType) → ∀ st,
    wp (typeStr env t) (fun s _ => s = "" ↔ rendersEmptyM env.safe t = true) st
  | .named name qname, st => by
    rw [typeStr]
    split
    · rename_i b hb
      rw [wp_pure]; simp [rendersEmptyM, builtinName_ne_empty hb]
    · rw [wp_bind]
      refine wp_skip fun _ s1 => ?_
      split
      · exact wp_throwG.2 trivial
      · rename_i c tl hc
        have : name ≠ "" := by
          intro h; rw [h] at hc; simp at hc
        simp only [wp_bind, wp_get, wp_ite, wp_addTodo, wp_pure]
        simp [rendersEmptyM, escapeKeyword_eq_empty, this]
  | .final t, st => by
    rw [typeStr]
    exact wp_conseq (typeStr_empty env t st) fun _ _ h => by simpa [rendersEmptyM] using h
  | .callable params ret, st => by
    rw [typeStr, wp_bind]
    refine wp_skip fun ps s1 => ?_
    split
    · rw [wp_bind]
      refine wp_skip fun rs s2 => ?_
      rw [wp_pure]; simp [rendersEmptyM]
    · simp only [wp_ite, wp_bind, wp_pure]
      refine ⟨fun _ => by simp [rendersEmptyM], fun _ => ?_⟩
      refine wp_skip fun rs s2 => ?_
      simp [rendersEmptyM]
  | .set ts, st => by
    rw [typeStr, wp_bind]
    refine wp_skip fun types s1 => ?_
    simp only [wp_bind, wp_addTodo, wp_ite, wp_pure]
    simp [rendersEmptyM]
  | .list ts, st => by
    rw [typeStr, wp_bind]
    refine wp_skip fun types s1 => ?_
    simp only [wp_bind, wp_addTodo, wp_ite, wp_pure]
    simp [rendersEmptyM]
  | .namedSeq name q ts, st => by
    rw [typeStr, wp_bind]
    refine wp_skip fun types s1 => ?_
    rw [wp_bind]
    refine wp_skip fun _ s2 => ?_
    simp only [wp_bind, wp_addTodo, wp_ite, wp_pure]
    simp [rendersEmptyM]
  | .unknown, st => by
    rw [typeStr]
    simp only [wp_bind, wp_addTodo, wp_pure]
    simp [rendersEmptyM]
  | .union ts, st => by
    rw [typeStr]
    simp only [wp_ite, wp_bind, wp_pure]
    refine ⟨fun hl => ⟨?_, ?_⟩, fun _ => ⟨?_, ?_⟩⟩
    · intro _
      simp [rendersEmptyM, rendersEmptyML_false_of_literal (safe := env.safe) (ts := ts) (by omega)]
    · intro _
      refine wp_skip fun rs s1 => ?_
      rw [finishUnion_eq_empty]
      simp [rendersEmptyM, rendersEmptyML_false_of_literal (safe := env.safe) (ts := ts) (by omega)]
    · intro h
      simp only [Bool.and_eq_true, beq_iff_eq] at h
      simp [rendersEmptyM, rendersEmptyML_false_of_literal (safe := env.safe) (ts := ts) (by omega)]
    · intro _
      refine wp_conseq (typeStrs_empty env ts st) ?_; intro rs s1 h1
      rw [finishUnion_eq_empty, h1]
      simp [rendersEmptyM]
  | .tuple ts, st => by
    rw [typeStr]
    simp only [wp_bind, wp_addTodo]
    refine wp_skip fun types s1 => ?_
    rw [wp_pure]; simp [rendersEmptyM]
  | .dict k v, st => by
    rw [typeStr, wp_bind]
    refine wp_skip fun ks s1 => ?_
    rw [wp_bind]
    refine wp_skip fun vs s2 => ?_
    rw [wp_pure]; simp [rendersEmptyM]
  | .literal ls, st => by
    rw [typeStr, wp_pure]; simp [rendersEmptyM]
  | .typeVar name, st => by
    rw [typeStr, wp_pure]; simp [rendersEmptyM, escapeKeyword_eq_empty]
  | .typeVarB name _, st => by
    rw [typeStr, wp_pure]; simp [rendersEmptyM, escapeKeyword_eq_empty]
  | .enum _, st => by
    rw [typeStr]; exact wp_throwG.2 trivial
  | .boundary .., st => by
    rw [typeStr]; exact wp_throwG.2 trivial
theorem typeStrs_empty (env : Env) : (ts : List AType) → ∀ st,
    wp (typeStrs env ts) (fun l _ => (∀ r ∈ l, r = "") ↔ rendersEmptyML env.safe ts = true) st
  | [], st => by
    rw [typeStrs, wp_pure]; simp [rendersEmptyML]
  | t :: ts, st => by
    rw [typeStrs, wp_bind]
    refine wp_conseq (typeStr_empty env t st) ?_; intro a s1 h1
    rw [wp_bind]
    refine wp_conseq (typeStrs_empty env ts s1) ?_; intro as s2 h2
    rw [wp_pure]
    simp [rendersEmptyML, h1, h2]
end

/-! ### results and type variables -/

theorem wp_and {α : Type} {x : G α} {Q R : α → St → Prop} {st : St} (h1 : wp x Q st) (h2 : wp x R st) :
    wp x (fun a s => Q a s ∧ R a s) st :=
  fun a s h => ⟨h1 a s h, h2 a s h⟩

/-- markers of the result types that are rendered: those of every typed result -/
def resultTypeKeys (rs : List Result) : List String :=
  rs.flatMap (fun r => match r.type with | some t => Spec.typeKeys t | none => [])

/-- all results are untyped or render as the empty string (in the model) -/
def resultsAllEmptyM (safe : Bool) (rs : List Result) : Bool :=
  rs.all (fun r => match r.type with | none => true | some t => rendersEmptyM safe t)

/-- `Spec.resultKeys` with the model's notion of an empty rendering (`rendersEmptyM`) in place of
    `Spec.rendersEmpty` -/
def resultKeysM (safe : Bool) (rs : List Result) : List String :=
  if Spec.onlyNoneResult rs then []
  else resultTypeKeys rs ++ (if resultsAllEmptyM safe rs then ["result without type"] else [])

def resultsInternal (rs : List Result) : Bool :=
  rs.any (fun r => match r.type with | some t => Spec.mentionsInternal t | none => false)

theorem isNoneResult_eq {r : Result} {t : AType} (h : r.type = some t) : Spec.isNoneResult r = isNoneNamed t :=
  isNoneResult_of_some h

theorem createResults_grows (env : Env) : (rs : List Result) → ∀ st,
    wp (createResults env rs) (fun l st' =>
      Grows (resultTypeKeys rs) (resultsInternal rs) st st' ∧
      (l = [] ↔ resultsAllEmptyM env.safe rs = true)) st
  | [], st => by
    rw [createResults, wp_pure]
    exact ⟨(Grows.refl st).mono (by simp [resultTypeKeys]) (by simp), by simp [resultsAllEmptyM]⟩
  | r :: rs, st => by
    rw [createResults]
    split
    · rename_i hty
      refine wp_conseq (createResults_grows env rs st) ?_; intro res s1 ⟨h1, h2⟩
      refine ⟨h1.mono ?_ ?_, ?_⟩
      · simp [resultTypeKeys, hty]
      · simp [resultsInternal]; tauto
      · simp [h2, resultsAllEmptyM, hty]
    · rename_i t hty
      rw [wp_bind]
      refine wp_conseq (wp_and (typeStr_grows env t st) (typeStr_empty env t st)) ?_
      intro ts s1 ⟨g1, e1⟩
      rw [wp_bind]
      refine wp_conseq (createResults_grows env rs s1) ?_; intro rest s2 ⟨g2, a2⟩
      rw [wp_pure]
      refine ⟨(g1.trans g2).mono ?_ ?_, ?_⟩
      · simp [resultTypeKeys, hty]
      · simp [resultsInternal, hty]
      · by_cases hts : ts = ""
        · have : rendersEmptyM env.safe t = true := e1.1 hts
          simp [hts, resultsAllEmptyM, hty, this, a2]
        · have : rendersEmptyM env.safe t = false := by
            cases hb : rendersEmptyM env.safe t with
            | false => rfl
            | true => exact absurd (e1.2 hb) hts
          simp [hts, resultsAllEmptyM, hty, this]

theorem createResultString_grows (env : Env) (rs : List Result) (st : St) :
    wp (createResultString env rs)
      (fun _ st' => Grows (resultKeysM env.safe rs) (resultsInternal rs) st st') st := by
  rw [mk_createResultString_eq, wp_ite]
  refine ⟨fun hn => ?_, fun hn => ?_⟩
  · rw [wp_pure]
    exact (Grows.refl st).mono (by simp [resultKeysM, hn]) (by simp)
  · have hn' : Spec.onlyNoneResult rs = false := by simpa using hn
    unfold mk_resultStringBody
    rw [wp_bind]
    refine wp_conseq (createResults_grows env rs st) ?_; intro res s1 ⟨g, ha⟩
    split
    · simp only [wp_bind, wp_addTodo, wp_pure]
      have h2 : resultsAllEmptyM env.safe rs = true := ha.1 rfl
      exact (g.trans (Grows.addTodo (by decide) s1)).mono (by simp [resultKeysM, hn', h2]) (by simp)
    · rename_i r0
      rw [wp_pure]
      have h2 : resultsAllEmptyM env.safe rs = false := by
        cases hb : resultsAllEmptyM env.safe rs with
        | false => rfl
        | true => have := ha.2 hb; simp at this
      exact g.mono (by simp [resultKeysM, hn', h2]) (by simp)
    · rename_i l hne1 hne2
      rw [wp_pure]
      have h2 : resultsAllEmptyM env.safe rs = false := by
        cases hb : resultsAllEmptyM env.safe rs with
        | false => rfl
        | true => exact absurd (ha.2 hb) hne1
      exact g.mono (by simp [resultKeysM, hn', h2]) (by simp)

/-- markers of the bound of a type variable -/
def boundKeys (tv : TypeVar) : List String :=
  match tv.upperBound with
  | some t => Spec.typeKeys t
  | none => []

/-- is the bound of this type variable shown in a signature: always for a module-level function, for
    a method only if it is not one of the class generics `cg` -/
def tvShown (env : Env) (isMethod : Bool) (cg : List String) (tv : TypeVar) : Bool :=
  !isMethod || !cg.contains (escapeKeyword (convertName tv.name env.safe))

/-- the type variables whose bound a function signature shows -/
def shownTypeVars (env : Env) (isMethod : Bool) (cg : List String) (tvs : List TypeVar) : List TypeVar :=
  tvs.filter (tvShown env isMethod cg)

def typeVarsInternal (tvs : List TypeVar) : Bool :=
  tvs.any (fun tv => match tv.upperBound with | some t => Spec.mentionsInternal t | none => false)

theorem typeVarStrings_grows (env : Env) (isMethod : Bool) (cg : List String) : (tvs : List TypeVar) → ∀ st,
    st.classGenerics = cg →
    wp (typeVarStrings env isMethod tvs) (fun _ st' =>
      Grows ((shownTypeVars env isMethod cg tvs).flatMap boundKeys) (typeVarsInternal tvs) st st') st
  | [], st, _ => by
    rw [typeVarStrings, wp_pure]
    exact (Grows.refl st).mono (by simp [shownTypeVars]) (by simp)
  | tv :: tvs, st, hcg => by
    rw [typeVarStrings]
    simp only [wp_bind, wp_get]
    refine wp_conseq (Q := fun _ s1 => Grows
      (if tvShown env isMethod cg tv = true then boundKeys tv else [])
      (match tv.upperBound with | some t => Spec.mentionsInternal t | none => false) st s1) ?_ ?_
    · rw [wp_ite, hcg]
      rw [show (!isMethod || !cg.contains (escapeKeyword (convertName tv.name env.safe)))
        = tvShown env isMethod cg tv from rfl]
      refine ⟨fun hc => ?_, fun hc => ?_⟩
      · split
        · rename_i u hu
          rw [wp_bind]
          refine wp_conseq (typeStr_grows env u st) ?_; intro _ s1 h1
          rw [wp_pure]
          exact h1.mono (by simp [hc, boundKeys, hu]) (by rw [hu]; exact id)
        · rename_i hu
          rw [wp_pure]
          exact (Grows.refl st).mono (by simp [hc, boundKeys, hu]) (by simp)
      · rw [wp_pure]
        exact (Grows.refl st).mono (by simp [hc]) (by simp)
    · intro here s1 h1
      refine wp_conseq (typeVarStrings_grows env isMethod cg tvs s1 (h1.classGenerics.trans hcg)) ?_
      intro rest s2 h2
      rw [wp_pure]
      refine (h1.trans h2).mono ?_ ?_
      · intro k
        by_cases hc : tvShown env isMethod cg tv = true
        · simp [shownTypeVars, hc]
        · simp [shownTypeVars, hc]
      · simp [typeVarsInternal]

/-! ### marker iff feature: functions -/

/-- `Spec.functionKeys` with `resultKeysM` (the model's notion of an empty rendering) in place of
    `Spec.resultKeys` -/
def functionKeysM (safe : Bool) (f : Function) (isMethod : Bool) (shown : List TypeVar) : List String :=
  (if f.isClassMethod then ["class_method"] else [])
  ++ Spec.paramsKeys (if !f.isStatic && isMethod then f.params.drop 1 else f.params)
  ++ shown.flatMap boundKeys
  ++ resultKeysM safe f.results

/-- may the state-dependent marker appear on the function -/
def functionInternal (f : Function) : Bool :=
  f.params.any paramInternal || typeVarsInternal f.typeVars || resultsInternal f.results

/-- the text of a function declaration after its marker block -/
def functionRest (env : Env) (f : Function) (indent : String) (funcParams : String) (tvs : List String)
    (resultString : String) : String :=
  let docstring := sdsDocstring env.safe f.doc.description indent f.params f.resultDocs f.doc.examples
  let ann := if convertName f.name env.safe != f.name then indent ++ nameAnnotation f.name ++ "\n" else ""
  let static := if f.isClassMethod || f.isStatic then "static " else ""
  let name := escapeKeyword (convertName f.name env.safe)
  let typeVarInfo := if tvs.isEmpty then "" else "<" ++ joinWith ", " tvs ++ ">"
  docstring ++ (indent ++ ("@Pure\n" ++ (ann ++ (indent ++ (static ++ ("fun " ++ (name ++ (typeVarInfo ++
    ("(" ++ (funcParams ++ (")" ++ resultString)))))))))))

theorem any_of_any_drop {α : Type} (p : α → Bool) (l : List α) (n : Nat) (h : (l.drop n).any p = true) :
    l.any p = true := by
  rw [List.any_eq_true] at h ⊢
  obtain ⟨x, hx, hp⟩ := h
  exact ⟨x, List.mem_of_mem_drop hx, hp⟩

theorem functionBody_markers (env : Env) (f : Function) (indent : String) (isMethod : Bool) (st : St)
    (h0 : st.todos = []) (hps : ∀ p ∈ f.params, Spec.optionalIsTyped p = true) :
    wp (functionBody env f indent isMethod) (fun text st' =>
      st' = { st with log := st.log ++ [("fun", f.id)], todos := [], imports := st'.imports,
                      outside := st'.outside } ∧
      ∃ keys funcParams tvs resultString, keys.Nodup ∧
        (∀ k, k ≠ "internal class as type" →
          (k ∈ keys ↔ k ∈ functionKeysM env.safe f isMethod
            (shownTypeVars env isMethod st.classGenerics f.typeVars))) ∧
        ("internal class as type" ∈ keys → functionInternal f = true) ∧
        (∀ k ∈ keys, (assocGet? Generated.todoMessages k).isSome) ∧
        text = renderTodos indent keys ++ functionRest env f indent funcParams tvs resultString) st := by
  unfold functionBody
  simp only [wp_bind, wp_logEmit, wp_condTodo]
  have g0 := Grows.condTodo (k := "class_method") (by decide) (f.isClassMethod = true)
    { st with log := st.log ++ [("fun", f.id)] }
  generalize (if f.isClassMethod = true then
      { ({ st with log := st.log ++ [("fun", f.id)] } : St) with
        todos := insertSet "class_method" ({ st with log := st.log ++ [("fun", f.id)] } : St).todos }
    else { st with log := st.log ++ [("fun", f.id)] }) = s0 at g0 ⊢
  refine wp_conseq (createParameterString_grows env f.params indent _ hps s0) ?_; intro fp s1 g1
  refine wp_conseq (typeVarStrings_grows env isMethod st.classGenerics f.typeVars s1
    (g1.classGenerics.trans g0.classGenerics)) ?_; intro tvs s2 g2
  refine wp_conseq (createResultString_grows env f.results s2) ?_; intro rstr s3 g3 todo s4 hrun
  have hok := (createTodoMsg_ok indent s3 (todo, s4)).1 hrun
  obtain ⟨hmsgs, heq⟩ := hok
  cases heq
  rw [wp_pure]
  have g := ((g0.trans g1).trans g2).trans g3
  refine ⟨?_, s3.todos, fp, tvs, rstr, ?_, ?_, ?_, hmsgs, ?_⟩
  · simp only [g.reexports, g.classGenerics, g.moduleId, g.reexportModuleId, g.creatingReexport, g.log]
  · exact g.nodup (by simp [h0])
  · intro k hk
    rw [g.mem k hk]
    simp [h0, functionKeysM, shownParams]
  · intro hi
    rcases g.internal hi with h | h
    · simp [h0] at h
    · simp only [Bool.or_eq_true, Bool.false_or] at h
      unfold functionInternal
      simp only [Bool.or_eq_true]
      rcases h with (h | h) | h
      · left; left
        unfold shownParams at h
        split at h
        · exact any_of_any_drop _ _ _ h
        · exact h
      · left; right; exact h
      · right; exact h
  · simp only [functionRest, String.append_assoc]

/-! ### the text after the marker block does not look like a marker -/

theorem isPrefixOfL_append_left (a p x : List Char) :
    isPrefixOfL (a ++ p) (a ++ x) = isPrefixOfL p x := by
  induction a with
  | nil => rfl
  | cons c cs ih => simp [isPrefixOfL, ih]

/-- a string that continues, after the indentation, with a character other than `/`, or with `/*`,
    does not start with the marker prefix -/
theorem not_marker (indent s : String) (x : List Char) (hs : s.toList = indent.toList ++ x)
    (hx : isPrefixOfL "// TODO".toList x = false) : pyStartsWith s (indent ++ "// TODO") = false := by
  unfold pyStartsWith
  rw [String.toList_append, hs, isPrefixOfL_append_left]
  exact hx

theorem sdsDocstring_shape (safe : Bool) (d indent : String) (ps : List Parameter) (rds : List ResultDoc)
    (exs : List String) :
    sdsDocstring safe d indent ps rds exs = "" ∨
      ∃ r, sdsDocstring safe d indent ps rds exs = indent ++ ("/**\n" ++ r) := by
  unfold sdsDocstring
  extract_lets _ _ _ _ _ _ _ _ _ full
  split
  · right
    exact ⟨full ++ (indent ++ " */\n"), by simp only [String.append_assoc]⟩
  · left; rfl

theorem functionRest_not_marker (env : Env) (f : Function) (indent fp : String) (tvs : List String) (rs : String) :
    pyStartsWith (functionRest env f indent fp tvs rs) (indent ++ "// TODO") = false := by
  unfold functionRest
  simp only []
  rcases sdsDocstring_shape env.safe f.doc.description indent f.params f.resultDocs f.doc.examples with h | ⟨r, h⟩
  · rw [h]
    refine not_marker indent _ _ (by simp only [String.toList_append, String.empty_append]; rfl) ?_
    simp [isPrefixOfL]
  · rw [h]
    refine not_marker indent _ _ (by simp only [String.toList_append, List.append_assoc]; rfl) ?_
    simp [isPrefixOfL]

/-! ### marker iff feature: attributes -/

/-- `Spec.attributeKeys` with the model's notion of an empty rendering -/
def attributeKeysM (safe : Bool) (a : Attribute) : List String :=
  match a.type with
  | none => ["attr without type"]
  | some t => (if rendersEmptyM safe t then ["attr without type"] else []) ++ Spec.typeKeys t

def attributeInternal (a : Attribute) : Bool :=
  match a.type with
  | some t => Spec.mentionsInternal t
  | none => false

/-- the text of an attribute declaration after its marker block -/
def attributeRest (env : Env) (a : Attribute) (inner : String) (attrType : String) : String :=
  let docstring := sdsDocstring env.safe a.doc.description inner [] [] []
  let ann := if convertName a.name env.safe != a.name then nameAnnotation a.name ++ "\n" ++ inner else ""
  let static := if a.isStatic then "static " else ""
  let typeString := if attrType != "" then ": " ++ attrType else ""
  docstring ++ (inner ++ (ann ++ (static ++ ("attr " ++ (escapeKeyword (convertName a.name env.safe) ++ typeString)))))

theorem typeStrOpt_grows (env : Env) (a : Attribute) (st : St) :
    wp (typeStrOpt env a.type) (fun s st' =>
      Grows (match a.type with | some t => Spec.typeKeys t | none => []) (attributeInternal a) st st' ∧
      (s = "" ↔ match a.type with | some t => rendersEmptyM env.safe t = true | none => True)) st := by
  unfold attributeInternal
  cases a.type with
  | none =>
    rw [typeStrOpt, wp_pure]
    exact ⟨Grows.refl st, by simp⟩
  | some t =>
    rw [typeStrOpt]
    exact wp_and (typeStr_grows env t st) (typeStr_empty env t st)

theorem createAttribute_markers (env : Env) (a : Attribute) (inner : String) (st : St) (h0 : st.todos = []) :
    wp (createAttribute env a inner) (fun r st' => ∀ text, r = some text →
      st' = { st with log := st.log ++ [("attr", a.id)], todos := [], imports := st'.imports,
                      outside := st'.outside } ∧
      ∃ keys attrType, keys.Nodup ∧
        (∀ k, k ≠ "internal class as type" → (k ∈ keys ↔ k ∈ attributeKeysM env.safe a)) ∧
        ("internal class as type" ∈ keys → attributeInternal a = true) ∧
        (∀ k ∈ keys, (assocGet? Generated.todoMessages k).isSome) ∧
        text = renderTodos inner keys ++ attributeRest env a inner attrType) st := by
  unfold createAttribute
  rw [wp_ite]
  refine ⟨fun _ => by rw [wp_pure]; simp, fun _ => ?_⟩
  rw [wp_ite]
  refine ⟨fun _ => by rw [wp_pure]; simp, fun _ => ?_⟩
  simp only [wp_bind, wp_logEmit]
  refine wp_conseq (typeStrOpt_grows env a _) ?_; intro attrType s1 ⟨g1, e1⟩
  simp only [wp_condTodo, wp_bind]
  have g2 := Grows.condTodo (k := "attr without type") (by decide)
    (((if (attrType != "") = true then ": " ++ attrType else "") == "") = true) s1
  generalize (if ((if (attrType != "") = true then ": " ++ attrType else "") == "") = true then
      { s1 with todos := insertSet "attr without type" s1.todos } else s1) = s2 at g2 ⊢
  intro todo s3 hrun
  obtain ⟨hmsgs, heq⟩ := (createTodoMsg_ok inner s2 (todo, s3)).1 hrun
  cases heq
  rw [wp_pure]
  intro text htext
  cases htext
  have g := g1.trans g2
  refine ⟨?_, s2.todos, attrType, ?_, ?_, ?_, hmsgs, ?_⟩
  · simp only [g.reexports, g.classGenerics, g.moduleId, g.reexportModuleId, g.creatingReexport, g.log]
  · exact g.nodup (by simp [h0])
  · intro k hk
    rw [g.mem k hk]
    have hcond : (((if (attrType != "") = true then ": " ++ attrType else "") == "") = true) ↔ attrType = "" := by
      by_cases h : attrType = "" <;> simp [h]
    unfold attributeKeysM
    cases hty : a.type with
    | none =>
      rw [hty] at e1
      simp [h0, e1.2 trivial]
    | some t =>
      rw [hty] at e1
      simp only [hcond, e1]
      simp [h0, or_comm]
  · intro hi
    rcases g.internal hi with h | h
    · simp [h0] at h
    · simpa using h
  · simp only [attributeRest, String.append_assoc]

theorem attributeRest_not_marker (env : Env) (a : Attribute) (inner attrType : String) :
    pyStartsWith (attributeRest env a inner attrType) (inner ++ "// TODO") = false := by
  unfold attributeRest
  simp only []
  have key : ∀ r : String, ∃ x, ((if convertName a.name env.safe != a.name then nameAnnotation a.name ++ "\n" ++ inner else "")
      ++ ((if a.isStatic then "static " else "") ++ ("attr " ++ r))).toList = x ∧
      isPrefixOfL "// TODO".toList x = false := by
    intro r
    refine ⟨_, rfl, ?_⟩
    split <;> split <;>
      simp [isPrefixOfL, nameAnnotation, Generated.nameAnnotation, String.toList_append]
  obtain ⟨x, hx1, hx2⟩ := key (escapeKeyword (convertName a.name env.safe) ++ if attrType != "" then ": " ++ attrType else "")
  rcases sdsDocstring_shape env.safe a.doc.description inner [] [] [] with h | ⟨r, h⟩
  · rw [h]
    refine not_marker inner _ x (by simp only [String.toList_append, String.empty_append] at hx1 ⊢; rw [hx1]) hx2
  · rw [h]
    refine not_marker inner _ _ (by simp only [String.toList_append, List.append_assoc]; rfl) ?_
    simp [isPrefixOfL]

/-! ### relation to the specification's key sets -/

mutual
theorem rendersEmptyM_of_rendersEmpty (safe : Bool) : (t : AType) → Spec.rendersEmpty t = true →
    rendersEmptyM safe t = true
  | .union ts, h => by
    rw [Spec.rendersEmpty] at h
    rw [rendersEmptyM]
    exact mk_rendersEmptyML_of_allRenderEmpty safe ts h
  | .final t, h => by
    rw [rendersEmptyM]
    exact rendersEmptyM_of_rendersEmpty safe t (by simpa [Spec.rendersEmpty] using h)
  | .unknown, h | .named .., h | .namedSeq .., h | .enum _, h | .boundary .., h | .list _, h
  | .dict .., h | .callable .., h | .set _, h | .literal _, h | .tuple _, h | .typeVar _, h
  | .typeVarB .., h => by simp [Spec.rendersEmpty] at h
theorem mk_rendersEmptyML_of_allRenderEmpty (safe : Bool) : (ts : List AType) →
    Spec.allRenderEmpty ts = true → rendersEmptyML safe ts = true
  | [], _ => by rw [rendersEmptyML]
  | t :: ts, h => by
    rw [Spec.allRenderEmpty] at h
    simp only [Bool.and_eq_true] at h
    rw [rendersEmptyML, rendersEmptyM_of_rendersEmpty safe t h.1,
      mk_rendersEmptyML_of_allRenderEmpty safe ts h.2]
    rfl
end

mutual
/-- no type variable whose converted name is empty sits at a position from which an empty rendering
    reaches the whole type, i.e. under unions and `Final`s only (every other constructor renders
    non-empty whatever its arguments).  In particular true of every type in which no type variable
    with an empty converted name occurs, and of every type without type variables. -/
def mk_tvNonempty (safe : Bool) : AType → Bool
  | .typeVar n => convertName n safe != ""
  | .typeVarB n _ => convertName n safe != ""
  | .union ts => mk_tvNonemptyL safe ts
  | .final t => mk_tvNonempty safe t
  | _ => true
def mk_tvNonemptyL (safe : Bool) : List AType → Bool
  | [] => true
  | t :: ts => mk_tvNonempty safe t && mk_tvNonemptyL safe ts
end

mutual
/-- the model's and the specification's notion of "renders empty" agree except for type variables
    whose converted name is empty -/
theorem mk_rendersEmptyM_eq (safe : Bool) : (t : AType) → mk_tvNonempty safe t = true →
    rendersEmptyM safe t = Spec.rendersEmpty t
  | .union ts, h => by
    rw [mk_tvNonempty] at h
    rw [rendersEmptyM, Spec.rendersEmpty]
    exact mk_rendersEmptyML_eq safe ts h
  | .final t, h => by
    rw [mk_tvNonempty] at h
    rw [rendersEmptyM, Spec.rendersEmpty]
    exact mk_rendersEmptyM_eq safe t h
  | .typeVar n, h => by
    rw [mk_tvNonempty] at h
    simpa [rendersEmptyM, Spec.rendersEmpty] using h
  | .typeVarB n _, h => by
    rw [mk_tvNonempty] at h
    simpa [rendersEmptyM, Spec.rendersEmpty] using h
  | .unknown, _ | .named .., _ | .namedSeq .., _ | .enum _, _ | .boundary .., _ | .list _, _
  | .dict .., _ | .callable .., _ | .set _, _ | .literal _, _ | .tuple _, _ => by
    simp [rendersEmptyM, Spec.rendersEmpty]
theorem mk_rendersEmptyML_eq (safe : Bool) : (ts : List AType) → mk_tvNonemptyL safe ts = true →
    rendersEmptyML safe ts = Spec.allRenderEmpty ts
  | [], _ => by rw [rendersEmptyML, Spec.allRenderEmpty]
  | t :: ts, h => by
    rw [mk_tvNonemptyL] at h
    simp only [Bool.and_eq_true] at h
    rw [rendersEmptyML, Spec.allRenderEmpty, mk_rendersEmptyM_eq safe t h.1, mk_rendersEmptyML_eq safe ts h.2]
end

mutual
/-- does a type variable occur in the type -/
def mk_hasTypeVar : AType → Bool
  | .typeVar _ => true
  | .typeVarB .. => true
  | .namedSeq _ _ ts => mk_hasTypeVarL ts
  | .union ts => mk_hasTypeVarL ts
  | .list ts => mk_hasTypeVarL ts
  | .set ts => mk_hasTypeVarL ts
  | .tuple ts => mk_hasTypeVarL ts
  | .dict k v => mk_hasTypeVar k || mk_hasTypeVar v
  | .callable ps r => mk_hasTypeVarL ps || mk_hasTypeVar r
  | .final t => mk_hasTypeVar t
  | _ => false
def mk_hasTypeVarL : List AType → Bool
  | [] => false
  | t :: ts => mk_hasTypeVar t || mk_hasTypeVarL ts
end

mutual
theorem mk_tvNonempty_of_noTypeVar (safe : Bool) : (t : AType) → mk_hasTypeVar t = false →
    mk_tvNonempty safe t = true
  | .union ts, h => by
    rw [mk_hasTypeVar] at h
    rw [mk_tvNonempty]
    exact mk_tvNonemptyL_of_noTypeVar safe ts h
  | .final t, h => by
    rw [mk_hasTypeVar] at h
    rw [mk_tvNonempty]
    exact mk_tvNonempty_of_noTypeVar safe t h
  | .typeVar n, h | .typeVarB n _, h => by simp [mk_hasTypeVar] at h
  | .unknown, _ | .named .., _ | .namedSeq .., _ | .enum _, _ | .boundary .., _ | .list _, _
  | .dict .., _ | .callable .., _ | .set _, _ | .literal _, _ | .tuple _, _ => by
    simp [mk_tvNonempty]
theorem mk_tvNonemptyL_of_noTypeVar (safe : Bool) : (ts : List AType) → mk_hasTypeVarL ts = false →
    mk_tvNonemptyL safe ts = true
  | [], _ => by rw [mk_tvNonemptyL]
  | t :: ts, h => by
    rw [mk_hasTypeVarL] at h
    simp only [Bool.or_eq_false_iff] at h
    rw [mk_tvNonemptyL, mk_tvNonempty_of_noTypeVar safe t h.1, mk_tvNonemptyL_of_noTypeVar safe ts h.2]
    rfl
end

/-- the result types on which the specification's and the model's notion of "renders empty" agree -/
def PlainResults (safe : Bool) (rs : List Result) : Prop :=
  ∀ r ∈ rs, ∀ t, r.type = some t → rendersEmptyM safe t = Spec.rendersEmpty t

theorem mk_plainResults_of_tvNonempty {safe : Bool} {rs : List Result}
    (h : ∀ r ∈ rs, ∀ t, r.type = some t → mk_tvNonempty safe t = true) : PlainResults safe rs :=
  fun r hr t ht => mk_rendersEmptyM_eq safe t (h r hr t ht)

theorem resultKeysM_eq {safe : Bool} {rs : List Result} (h : PlainResults safe rs) :
    resultKeysM safe rs = Spec.resultKeys rs := by
  unfold resultKeysM Spec.resultKeys resultTypeKeys
  cases hn : Spec.onlyNoneResult rs with
  | true => rfl
  | false =>
    have : resultsAllEmptyM safe rs = (Spec.shownResults rs).isEmpty := by
      unfold resultsAllEmptyM Spec.shownResults
      rw [hn]
      simp only [Bool.false_eq_true, if_false]
      rw [Bool.eq_iff_iff, List.all_eq_true, List.isEmpty_iff, List.filter_eq_nil_iff]
      refine forall_congr' fun r => forall_congr' fun hr => ?_
      cases hty : r.type with
      | none => simp
      | some t => simp [h r hr t hty]
    rw [this]
    rfl

theorem functionKeysM_eq {safe : Bool} {f : Function} (isMethod : Bool) (shown : List TypeVar)
    (h : PlainResults safe f.results) :
    functionKeysM safe f isMethod shown = Spec.functionKeys f isMethod shown := by
  unfold functionKeysM Spec.functionKeys
  rw [resultKeysM_eq h]
  rfl

theorem attributeKeysM_eq {safe : Bool} {a : Attribute}
    (h : ∀ t, a.type = some t → rendersEmptyM safe t = Spec.rendersEmpty t) :
    attributeKeysM safe a = Spec.attributeKeys a := by
  unfold attributeKeysM Spec.attributeKeys
  cases hty : a.type with
  | none => rfl
  | some t => simp only [h t hty]

theorem hasNodeShorterReexport_nil (n : String) (node : Node) (st : St) :
    hasNodeShorterReexport n [] node st = .ok (false, st) := rfl

/-- the function is rendered in place (not queued for a re-exporting package) -/
def NotMoved (f : Function) (isMethod inRe : Bool) : Prop :=
  isMethod = true ∨ inRe = true ∨ f.reexportedBy = []

theorem createFunctionString_markers (env : Env) (f : Function) (indent : String) (isMethod inRe : Bool)
    (st : St) (h0 : st.todos = []) (hnm : NotMoved f isMethod inRe)
    (hps : ∀ p ∈ f.params, Spec.optionalIsTyped p = true) :
    wp (createFunctionString env f indent isMethod inRe) (fun text st' =>
      st' = { st with log := st.log ++ [("fun", f.id)], todos := [], imports := st'.imports,
                      outside := st'.outside } ∧
      ∃ keys funcParams tvs resultString, keys.Nodup ∧
        (∀ k, k ≠ "internal class as type" →
          (k ∈ keys ↔ k ∈ functionKeysM env.safe f isMethod
            (shownTypeVars env isMethod st.classGenerics f.typeVars))) ∧
        ("internal class as type" ∈ keys → functionInternal f = true) ∧
        (∀ k ∈ keys, (assocGet? Generated.todoMessages k).isSome) ∧
        text = renderTodos indent keys ++ functionRest env f indent funcParams tvs resultString) st := by
  rw [createFunctionString_eq]
  rw [wp_ite]
  refine ⟨fun hc => ?_, fun _ => functionBody_markers env f indent isMethod st h0 hps⟩
  have hre : f.reexportedBy = [] := by
    rcases hnm with h | h | h
    · simp [h] at hc
    · simp [h] at hc
    · exact h
  rw [wp_bind, hre]
  intro b s1 hb
  rw [hasNodeShorterReexport_nil] at hb
  cases hb
  simp only [Bool.false_eq_true, if_false]
  exact functionBody_markers env f indent isMethod st h0 hps

/-! ### classes: the two marker blocks of a class signature -/

def typeParamKeys (tp : TypeParam) : List String :=
  match tp.type with
  | some t => Spec.typeKeys t
  | none => []

def typeParamsInternal (tps : List TypeParam) : Bool :=
  tps.any (fun tp => match tp.type with | some t => Spec.mentionsInternal t | none => false)

theorem varianceKeyword_wp (v : Variance) (st : St) {Q : String → St → Prop} (h : ∀ s, Q s st) :
    wp (varianceKeyword v) Q st := by
  unfold varianceKeyword
  split
  · rw [wp_pure]; exact h _
  · exact wp_throwG.2 trivial

theorem typeParamStrings_grows (env : Env) : (tps : List TypeParam) → ∀ st,
    wp (typeParamStrings env tps) (fun _ st' =>
      Grows (tps.flatMap typeParamKeys) (typeParamsInternal tps) st st') st
  | [], st => by
    rw [typeParamStrings, wp_pure]
    exact (Grows.refl st).mono (by simp) (by simp)
  | tp :: tps, st => by
    rw [typeParamStrings, wp_bind]
    refine varianceKeyword_wp _ st fun dir => ?_
    simp only [wp_bind]
    refine wp_conseq (Q := fun _ s1 => Grows (typeParamKeys tp)
      (match tp.type with | some t => Spec.mentionsInternal t | none => false) st s1) ?_ ?_
    · split
      · rename_i t ht
        rw [wp_bind]
        refine wp_conseq (typeStr_grows env t st) ?_; intro _ s1 h1
        rw [wp_pure]
        exact h1.mono (by simp [typeParamKeys, ht]) (by rw [ht]; exact id)
      · rename_i ht
        rw [wp_pure]
        exact (Grows.refl st).mono (by simp [typeParamKeys, ht]) (by simp)
    · intro item s1 h1
      refine wp_conseq (typeParamStrings_grows env tps s1) ?_; intro rest s2 h2
      rw [wp_pure]
      exact (h1.trans h2).mono (by simp) (by simp [typeParamsInternal])

theorem createInternalClassString_keeps_mk (env : Env) : (fuel : Nat) → ∀ sc inner ad,
    Keeps (createInternalClassString env fuel sc inner ad)
  | 0, sc, inner, ad => by
    rw [createInternalClassString]
    intro st _
    exact wp_throwG.2 trivial
  | fuel + 1, sc, inner, ad => by
    rw [createInternalClassString]
    refine Keeps.bind ?_ fun c => ?_
    · split
      · exact Keeps.pure _
      · intro st _; exact wp_throwG.2 trivial
    refine Keeps.bind (createClassMethodString_keeps_mk env _ _ _ _) fun ⟨_, _⟩ => ?_
    refine Keeps.bind (innerClassesG_keeps_mk (fun ic => createClassString_keeps_mk env fuel ic inner true) _) fun _ => ?_
    exact Keeps.bind (internalSupersG_keeps_mk (fun ss => createInternalClassString_keeps_mk env fuel ss inner _) _)
      fun _ => Keeps.pure _

/-- the superclass names that appear after `sub` (back-quoted when they are Safe-DS keywords) -/
def publicSuperNames (scs : List String) : List String :=
  ((scs.map (fun sc => lastD "" (splitDot sc))).filter (fun n => !isInternal n)).map escapeKeyword

theorem superclassesG_spec (env : Env) {inline : String → G String} (h : ∀ s, Keeps (inline s)) :
    (scs : List String) → ∀ st, st.todos = [] →
    wp (superclassesG env inline scs) (fun r st' => st'.todos = [] ∧ r.1 = publicSuperNames scs) st
  | [], st, h0 => by
    rw [superclassesG, wp_pure]; exact ⟨h0, rfl⟩
  | sc :: scs, st, h0 => by
    rw [superclassesG, wp_ite]
    refine ⟨fun hc => ?_, fun hc => ?_⟩
    · rw [wp_bind]
      refine wp_conseq (addToImports_keeps_mk env sc st h0) ?_; intro _ s1 h1
      rw [wp_bind]
      refine wp_conseq (superclassesG_spec env h scs s1 h1) ?_; intro ⟨names, text⟩ s2 ⟨h2, h3⟩
      rw [wp_pure]
      refine ⟨h2, ?_⟩
      simp only at h3
      simp [publicSuperNames, hc, h3]
    · rw [wp_bind]
      refine wp_conseq (h sc st h0) ?_; intro _ s1 h1
      rw [wp_bind]
      refine wp_conseq (superclassesG_spec env h scs s1 h1) ?_; intro ⟨names, text⟩ s2 ⟨h2, h3⟩
      rw [wp_pure]
      refine ⟨h2, ?_⟩
      simp only at h3
      simp [publicSuperNames, hc, h3]

/-- markers of the constructor parameters shown in the class signature -/
def ctorKeys (c : Class) : List String :=
  if c.isAbstract then []
  else match c.ctor with
    | some ctor => Spec.paramsKeys (ctor.params.drop 1)
    | none => []

/-- markers of the bounds of the class's type parameters -/
def genericKeys (c : Class) : List String :=
  if !c.typeParams.isEmpty || !(match c.ctor with | some ctor => ctor.typeVars | none => []).isEmpty
  then c.typeParams.flatMap typeParamKeys else []

/-- number of superclass names after `sub` -/
def superCount (c : Class) : Nat :=
  if !c.renderedSupers.isEmpty && !c.isAbstract then (publicSuperNames c.renderedSupers).length else 0

/-- the marker a class deserves for its superclass list -/
def inheritanceKeys (c : Class) : List String :=
  if superCount c > 1 then ["multiple_inheritance"] else []

/-- what precedes the marker blocks of a class: documentation, `@PythonName`, indentation -/
def classPrefix (env : Env) (c : Class) (indent : String) : String :=
  sdsDocstring env.safe c.doc.description indent
    (match c.ctor with | some ctor => ctor.params | none => []) [] c.doc.examples
  ++ ((if convertName c.name env.safe true != c.name then indent ++ nameAnnotation c.name ++ "\n" else "")
  ++ indent)

theorem classBody_markers (env : Env) (fuel : Nat) (c : Class) (indent : String) (st : St)
    (h0 : st.todos = [])
    (hps : ∀ ctor, c.ctor = some ctor → ∀ p ∈ ctor.params, Spec.optionalIsTyped p = true) :
    wp (classBody env fuel c indent) (fun text st' =>
      st'.todos = [] ∧
      ∃ keys post, keys.Nodup ∧
        (∀ k, k ≠ "internal class as type" → (k ∈ keys ↔ k ∈ ctorKeys c ++ genericKeys c)) ∧
        text = classPrefix env c indent ++ (renderTodos indent keys ++
          (renderTodos indent (inheritanceKeys c) ++ ("class " ++ post)))) st := by
  unfold classBody
  simp only [wp_bind, wp_logEmit]
  generalize hs0 : ({ st with log := st.log ++ [("class", c.id)] } : St) = s0
  have h0' : s0.todos = [] := by rw [← hs0]; exact h0
  -- constructor parameters
  refine wp_conseq (Q := fun _ s1 => ∃ b, Grows (ctorKeys c) b s0 s1) ?_ ?_
  · rw [wp_ite]
    refine ⟨fun ha => ?_, fun ha => ?_⟩
    · rw [wp_pure]
      exact ⟨_, (Grows.refl s0).mono (by simp [ctorKeys, ha]) id⟩
    · rw [wp_bind]
      split
      · rename_i ctor hctor
        refine wp_conseq (createParameterString_grows env ctor.params indent true (hps ctor hctor) s0) ?_
        intro p s1 g1
        rw [wp_pure]
        exact ⟨_, g1.mono (by simp [ctorKeys, ha, hctor, shownParams]) id⟩
      · rename_i hctor
        simp only [wp_pure]
        exact ⟨_, (Grows.refl s0).mono (by simp [ctorKeys, ha, hctor]) id⟩
  intro ci s1 ⟨b1, g1⟩
  -- the generics of the surrounding class are put aside
  rw [wp_get, wp_modify]
  generalize hs1 : ({ s1 with classGenerics := [] } : St) = s1'
  have ht1 : s1'.todos = s1.todos := by rw [← hs1]
  -- type parameters
  refine wp_conseq (Q := fun _ s2 => ∃ b s2', Grows (genericKeys c) b s1' s2' ∧ s2.todos = s2'.todos) ?_ ?_
  · rw [wp_ite]
    refine ⟨fun hc => ?_, fun hc => ?_⟩
    · rw [wp_bind]
      refine wp_conseq (typeParamStrings_grows env c.typeParams s1') ?_; intro items s2 g2
      simp only [wp_bind, wp_modify, wp_pure]
      have hgk : genericKeys c = c.typeParams.flatMap typeParamKeys := by
        unfold genericKeys; exact if_pos hc
      exact ⟨_, s2, g2.mono (by simp [hgk]) id, rfl⟩
    · rw [wp_pure]
      have hgk : genericKeys c = [] := by
        unfold genericKeys; exact if_neg hc
      exact ⟨_, s1', (Grows.refl s1').mono (by simp [hgk]) id, rfl⟩
  -- first marker block
  intro vi s2 ⟨b2, s2', g2, hs2⟩ todo1 s3 hrun1
  obtain ⟨_, heq1⟩ := (createTodoMsg_ok indent s2 (todo1, s3)).1 hrun1
  cases heq1
  refine wp_conseq (createClassAttributeString_keeps_mk env _ _ _ rfl) ?_; intro ⟨attrText, attrNames⟩ s4 h4
  simp only
  refine wp_conseq (innerClassesG_keeps_mk (fun ic => createClassString_keeps_mk env fuel ic _ true) _ s4 h4) ?_
  intro innerText s5 h5
  refine wp_conseq (createClassMethodString_keeps_mk env _ _ _ _ s5 h5) ?_; intro ⟨methodText, methodNames⟩ s6 h6
  simp only
  -- superclasses
  refine wp_conseq (Q := fun r s7 => s7.todos = [] ∧ r.2.2 = superCount c) ?_ ?_
  · rw [wp_ite]
    refine ⟨fun hc => ?_, fun hc => ?_⟩
    · rw [wp_bind]
      refine wp_conseq (superclassesG_spec env
        (fun sc => createInternalClassString_keeps_mk env fuel sc _ _) c.renderedSupers s6 h6) ?_
      intro ⟨names, text⟩ s7 ⟨h7, hn⟩
      rw [wp_pure]
      simp only at hn
      exact ⟨h7, by simp [superCount, hc, hn]⟩
    · rw [wp_pure]
      exact ⟨h6, by simp [superCount, hc]⟩
  intro ⟨superInfo, superMethodsText, nNames⟩ s7 ⟨h7, hn⟩
  simp only at hn
  simp only [wp_condTodo, wp_bind]
  intro todo2 s9 hrun2
  obtain ⟨_, heq2⟩ := (createTodoMsg_ok indent _ (todo2, s9)).1 hrun2
  cases heq2
  have htodo2 : (if nNames > 1 then
      ({ s7 with todos := insertSet "multiple_inheritance" s7.todos } : St) else s7).todos = inheritanceKeys c := by
    unfold inheritanceKeys
    rw [← hn]
    split <;> simp [h7, insertSet]
  rw [htodo2]
  simp only [wp_modify, wp_logEmit, wp_ite, wp_pure]
  have hkeys : s2.todos.Nodup ∧ ∀ k, k ≠ "internal class as type" →
      (k ∈ s2.todos ↔ k ∈ ctorKeys c ++ genericKeys c) := by
    rw [hs2]
    refine ⟨g2.nodup (by rw [ht1]; exact g1.nodup (by simp [h0'])), fun k hk => ?_⟩
    rw [g2.mem k hk, ht1, g1.mem k hk]
    simp [h0']
  refine ⟨fun _ => ⟨trivial, s2.todos,
      escapeKeyword (convertName c.name env.safe true) ++ (vi ++ (ci ++ superInfo)),
      hkeys.1, hkeys.2, ?_⟩,
    fun _ => ⟨trivial, s2.todos,
      escapeKeyword (convertName c.name env.safe true) ++ (vi ++ (ci ++ (superInfo ++ (" {" ++
        (attrText ++ (innerText ++ (superMethodsText ++ (methodText ++ (indent ++ "}"))))))))),
      hkeys.1, hkeys.2, ?_⟩⟩
  · simp only [classPrefix, String.append_assoc]
  · simp only [classPrefix, String.append_assoc]

theorem createClassString_markers (env : Env) (fuel : Nat) (c : Class) (indent : String) (inRe : Bool) (st : St)
    (h0 : st.todos = []) (hnm : inRe = true ∨ c.reexportedBy = [])
    (hps : ∀ ctor, c.ctor = some ctor → ∀ p ∈ ctor.params, Spec.optionalIsTyped p = true) :
    wp (createClassString env fuel c indent inRe) (fun text st' =>
      st'.todos = [] ∧
      ∃ keys post, keys.Nodup ∧
        (∀ k, k ≠ "internal class as type" → (k ∈ keys ↔ k ∈ ctorKeys c ++ genericKeys c)) ∧
        text = classPrefix env c indent ++ (renderTodos indent keys ++
          (renderTodos indent (inheritanceKeys c) ++ ("class " ++ post)))) st := by
  cases fuel with
  | zero => rw [createClassString]; exact wp_throwG.2 trivial
  | succ fuel =>
    rw [createClassString_eq, wp_ite]
    refine ⟨fun hc => ?_, fun _ => classBody_markers env fuel c indent st h0 hps⟩
    have hre : c.reexportedBy = [] := by
      rcases hnm with h | h
      · simp [h] at hc
      · exact h
    rw [wp_bind, hre]
    intro b s1 hb
    rw [hasNodeShorterReexport_nil] at hb
    cases hb
    simp only [Bool.false_eq_true, if_false]
    exact classBody_markers env fuel c indent st h0 hps

end StubGen
