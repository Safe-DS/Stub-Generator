/-
Lexical validity of the strings `json.dump` writes (`Model/ApiDict.jsonStr`): what stands between the quotes is a sequence of
unescaped characters (≥ U+0020, neither `"` nor `\`) and of escape sequences of RFC 8259 (`\" \\ \/ \b \f \n \r \t \uXXXX`).
-/
import StubGen.Model.ApiDict

namespace StubGen

def isHexChar (c : Char) : Bool :=
  (48 ≤ c.toNat && c.toNat ≤ 57) || (97 ≤ c.toNat && c.toNat ≤ 102) || (65 ≤ c.toNat && c.toNat ≤ 70)

def isSimpleEscape (c : Char) : Bool := c = '"' || c = '\\' || c = '/' || c = 'b' || c = 'f' || c = 'n' || c = 'r' || c = 't'

/-- recogniser of the body of a JSON string literal (RFC 8259 §7); `fuel` bounds the number of steps -/
def jsonBodyOkAux : Nat → List Char → Bool
  | _, [] => true
  | 0, _ :: _ => false
  | fuel + 1, c :: rest =>
    if c = '\\' then
      match rest with
      | 'u' :: a :: b :: c' :: d :: rest' => isHexChar a && isHexChar b && isHexChar c' && isHexChar d && jsonBodyOkAux fuel rest'
      | e :: rest' => isSimpleEscape e && jsonBodyOkAux fuel rest'
      | [] => false
    else (c != '"' && decide (32 ≤ c.toNat)) && jsonBodyOkAux fuel rest

/-- the body of a JSON string literal: accepted by the recogniser with some (hence any larger, `jsonBodyOkAux_mono`) fuel -/
def JsonBodyOk (l : List Char) : Prop := ∃ fuel, jsonBodyOkAux fuel l = true

theorem jsonBodyOkAux_mono : ∀ (fuel : Nat) (l : List Char), jsonBodyOkAux fuel l = true → ∀ k, jsonBodyOkAux (fuel + k) l = true
  | _, [], _, _ => by simp [jsonBodyOkAux]
  | 0, _ :: _, h, _ => by simp [jsonBodyOkAux] at h
  | fuel + 1, c :: rest, h, k => by
    have e : fuel + 1 + k = (fuel + k) + 1 := by omega
    rw [e]
    unfold jsonBodyOkAux at h ⊢
    by_cases hc : c = '\\'
    · simp only [hc, if_true] at h ⊢
      split at h
      · rename_i a b c' d rest'
        simp only [Bool.and_eq_true] at h ⊢
        exact ⟨h.1, jsonBodyOkAux_mono fuel rest' h.2 k⟩
      · rename_i e rest' _
        simp only [Bool.and_eq_true] at h ⊢
        exact ⟨h.1, jsonBodyOkAux_mono fuel rest' h.2 k⟩
      · cases h
    · simp only [hc, if_false, Bool.and_eq_true] at h ⊢
      exact ⟨h.1, jsonBodyOkAux_mono fuel rest h.2 k⟩

theorem hexDigit_isHex : ∀ n, n < 16 → isHexChar (hexDigit n) = true := by decide

theorem hex4_isHex (n : Nat) : (hex4 n).all isHexChar = true := by
  simp only [hex4, List.all_cons, List.all_nil, Bool.and_true, Bool.and_eq_true]
  exact ⟨hexDigit_isHex _ (Nat.mod_lt _ (by decide)), hexDigit_isHex _ (Nat.mod_lt _ (by decide)),
    hexDigit_isHex _ (Nat.mod_lt _ (by decide)), hexDigit_isHex _ (Nat.mod_lt _ (by decide))⟩

/-- one `\uXXXX` escape in front of a valid body -/
theorem bodyOk_u (n fuel : Nat) (rest : List Char) (h : jsonBodyOkAux fuel rest = true) :
    jsonBodyOkAux (fuel + 1) ('\\' :: 'u' :: hex4 n ++ rest) = true := by
  have hh := hex4_isHex n
  simp only [hex4, List.all_cons, List.all_nil, Bool.and_true, Bool.and_eq_true] at hh
  simp only [hex4, List.cons_append, List.nil_append, jsonBodyOkAux, if_true, Bool.and_eq_true]
  exact ⟨⟨⟨⟨hh.1, hh.2.1⟩, hh.2.2.1⟩, hh.2.2.2⟩, h⟩

theorem bodyOk_simple (e : Char) (he : isSimpleEscape e = true) (hu : e ≠ 'u') (fuel : Nat) (rest : List Char)
    (h : jsonBodyOkAux fuel rest = true) : jsonBodyOkAux (fuel + 1) ('\\' :: e :: rest) = true := by
  unfold jsonBodyOkAux
  simp only [if_true]
  split
  · rename_i heq
    injection heq with h1 _
    exact absurd h1 hu
  · rename_i heq
    injection heq with h1 h2
    subst h1 h2
    simp [he, h]
  · rename_i heq; cases heq

/-- the escape of one character in front of a valid body is a valid body (with at most two more steps) -/
theorem bodyOk_escapeChar (c : Char) (fuel : Nat) (rest : List Char) (h : jsonBodyOkAux fuel rest = true) :
    jsonBodyOkAux (fuel + 2) (jsonEscapeChar c ++ rest) = true := by
  have h1 := jsonBodyOkAux_mono fuel rest h 1
  have simple : ∀ e, isSimpleEscape e = true → e ≠ 'u' → jsonBodyOkAux (fuel + 2) (['\\', e] ++ rest) = true :=
    fun e he hu => bodyOk_simple e he hu (fuel + 1) rest h1
  unfold jsonEscapeChar
  by_cases a1 : c = '\\'
  · rw [if_pos a1]; exact simple _ (by decide) (by decide)
  by_cases a2 : c = '"'
  · rw [if_neg a1, if_pos a2]; exact simple _ (by decide) (by decide)
  rw [if_neg a1, if_neg a2]
  by_cases a3 : c = '\n'
  · rw [if_pos a3]; exact simple _ (by decide) (by decide)
  by_cases a4 : c = '\r'
  · rw [if_neg a3, if_pos a4]; exact simple _ (by decide) (by decide)
  by_cases a5 : c = '\t'
  · rw [if_neg a3, if_neg a4, if_pos a5]; exact simple _ (by decide) (by decide)
  by_cases a6 : c.toNat = 8
  · rw [if_neg a3, if_neg a4, if_neg a5, if_pos a6]; exact simple _ (by decide) (by decide)
  by_cases a7 : c.toNat = 12
  · rw [if_neg a3, if_neg a4, if_neg a5, if_neg a6, if_pos a7]; exact simple _ (by decide) (by decide)
  rw [if_neg a3, if_neg a4, if_neg a5, if_neg a6, if_neg a7]
  by_cases a8 : 32 ≤ c.toNat ∧ c.toNat ≤ 126
  · rw [if_pos a8]
    show jsonBodyOkAux (fuel + 1 + 1) (c :: rest) = true
    unfold jsonBodyOkAux
    rw [if_neg a1, h1, Bool.and_true, Bool.and_eq_true, bne_iff_ne, decide_eq_true_eq]
    exact ⟨a2, a8.1⟩
  rw [if_neg a8]
  by_cases a9 : c.toNat < 65536
  · rw [if_pos a9]; exact bodyOk_u c.toNat (fuel + 1) rest h1
  · rw [if_neg a9, List.append_assoc]
    exact bodyOk_u _ (fuel + 1) _ (bodyOk_u _ fuel rest h)

theorem bodyOk_flatMap : ∀ (l : List Char), jsonBodyOkAux (2 * l.length) (l.flatMap jsonEscapeChar) = true
  | [] => rfl
  | c :: cs => by
    have ih := bodyOk_flatMap cs
    have := bodyOk_escapeChar c (2 * cs.length) (cs.flatMap jsonEscapeChar) ih
    simp only [List.flatMap_cons, List.length_cons]
    have e : 2 * (cs.length + 1) = 2 * cs.length + 2 := by omega
    rw [e]
    exact this

/-- every string token `json.dump` writes: a quote, a valid string body, a quote — for EVERY Python string -/
theorem jsonStr_valid (s : String) :
    ∃ body, (jsonStr s).toList = '"' :: body ++ ['"'] ∧ JsonBodyOk body ∧ body = s.toList.flatMap jsonEscapeChar := by
  refine ⟨s.toList.flatMap jsonEscapeChar, ?_, ⟨_, bodyOk_flatMap s.toList⟩, rfl⟩
  unfold jsonStr
  simp [String.toList_append]

end StubGen
