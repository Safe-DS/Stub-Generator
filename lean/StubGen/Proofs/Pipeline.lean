/-
Helper lemmas about the whole-tool model (`Model/Pipeline.lean`).
-/
import StubGen.Model.Pipeline
import StubGen.Proofs.Order
import StubGen.Proofs.Aliases
import StubGen.Theorems.C15

namespace StubGen

open List

/-! ### the order of `sorted(paths)` -/

theorem pl_partsLe_cons (a b : String) (as bs : PathParts) :
    partsLe (a :: as) (b :: bs) = true ↔ a < b ∨ (a = b ∧ partsLe as bs = true) := by
  rw [partsLe]
  by_cases h : a < b
  · rw [if_pos h]
    exact iff_of_true rfl (Or.inl h)
  · rw [if_neg h, or_iff_right h]
    by_cases e : a = b
    · rw [if_pos e, and_iff_right e]
    · rw [if_neg e]
      exact iff_of_false Bool.false_ne_true (fun h' => e h'.1)

theorem pl_partsLe_total : ∀ a b : PathParts, partsLe a b = true ∨ partsLe b a = true
  | [], _ => Or.inl rfl
  | _ :: _, [] => Or.inr rfl
  | a :: as, b :: bs => by
    rw [pl_partsLe_cons, pl_partsLe_cons]
    rcases lt_trichotomy a b with h | rfl | h
    · exact Or.inl (Or.inl h)
    · exact (pl_partsLe_total as bs).imp (fun h => Or.inr ⟨rfl, h⟩) (fun h => Or.inr ⟨rfl, h⟩)
    · exact Or.inr (Or.inl h)

theorem pl_partsLe_trans (a b c : PathParts) (h1 : partsLe a b = true) (h2 : partsLe b c = true) :
    partsLe a c = true := by
  induction a generalizing b c with
  | nil => rfl
  | cons a as ih =>
    cases b with
    | nil => cases h1
    | cons b bs =>
      cases c with
      | nil => cases h2
      | cons c cs =>
        rw [pl_partsLe_cons] at h1 h2 ⊢
        rcases h1 with h1 | ⟨rfl, h1⟩ <;> rcases h2 with h2 | ⟨rfl, h2⟩
        · exact Or.inl (lt_trans h1 h2)
        · exact Or.inl h1
        · exact Or.inl h2
        · exact Or.inr ⟨rfl, ih bs cs h1 h2⟩

theorem pl_partsLe_antisymm (a b : PathParts) (h1 : partsLe a b = true) (h2 : partsLe b a = true) : a = b := by
  induction a generalizing b with
  | nil =>
    cases b with
    | nil => rfl
    | cons b bs => cases h2
  | cons a as ih =>
    cases b with
    | nil => cases h1
    | cons b bs =>
      rw [pl_partsLe_cons] at h1 h2
      rcases h1 with h1 | ⟨rfl, h1⟩ <;> rcases h2 with h2 | ⟨e, h2⟩
      · exact absurd h1 (lt_asymm h2)
      · exact absurd h1 (e ▸ lt_irrefl b)
      · exact absurd h2 (lt_irrefl a)
      · rw [ih bs h1 h2]

/-- `sorted(files)` is a function of the SET of enumerated files: two enumeration orders give the same list -/
theorem pl_sortPaths_perm {l l' : List PathParts} (h : l ~ l') : sortPaths l = sortPaths l' :=
  sortBy_perm_invariant partsLe pl_partsLe_total pl_partsLe_trans (fun a _ b _ => pl_partsLe_antisymm a b) h

theorem pl_mem_sortPaths (f : PathParts) (l : List PathParts) : f ∈ sortPaths l ↔ f ∈ l := (sortBy_perm partsLe l).mem_iff

theorem pl_adjustRoot_sortPaths (root : PathParts) (files : List PathParts) :
    adjustRoot root (sortPaths files) = adjustRoot root files :=
  p08_adjustRoot_perm root (sortBy_perm partsLe files)

/-- the walked modules are the graph modules at the paths `selectAsts` selects, in the same order -/
theorem pl_selectModules_paths (graph : List SrcModule) (d : Discovered) :
    (selectModules graph d).map (·.path) = selectAsts (graph.map (·.path)) d := by
  unfold selectModules selectAsts
  simp only [List.map_append, List.filter_map, Function.comp_def]

/-- `_get_mypy_asts` uses the discovered files and package directories as SETS -/
theorem pl_selectModules_congr (graph : List SrcModule) {d d' : Discovered}
    (hw : ∀ p, p ∈ d.walkable ↔ p ∈ d'.walkable) (hp : ∀ p, p ∈ d.packages ↔ p ∈ d'.packages) :
    selectModules graph d = selectModules graph d' := by
  unfold selectModules
  simp only [p08_contains_map_congr hw, p08_contains_map_congr hp]

/-- the flag does not matter when no file lies in a `test`/`tests`/`docs` directory -/
theorem pl_discoverFrom_flag (root : PathParts) (files : List PathParts)
    (h : ∀ f ∈ files, inExcludedDir f = false) (b b' : Bool) :
    discoverFrom root files b = discoverFrom root files b' := by
  have hsub : ∀ f ∈ filesUnder (adjustRoot root files) files, inExcludedDir f = false :=
    fun f hf => h f (List.mem_filter.1 hf).1
  simp only [discoverFrom, discover, C15.discoverLoop_flag hsub b b']

/-! ### the stages of a run

`get_api` and `_run_stub_generator` are chains of steps each of which may raise: as terms of the
`Except` monad (`pl_getApi_eq`, `pl_runTool_eq`).  What a successful or a failed run went through then
follows from the two rules for `>>=` below, and no other proof has to open `getApi` or `runTool`. -/

section Except
variable {ε α β : Type}

theorem pl_bind_ok {x : Except ε α} {f : α → Except ε β} {b : β} :
    x >>= f = .ok b ↔ ∃ a, x = .ok a ∧ f a = .ok b := by
  cases x with
  | error e => exact ⟨nofun, fun ⟨_, h, _⟩ => nomatch h⟩
  | ok a => exact ⟨fun h => ⟨a, rfl, h⟩, fun ⟨_, h, h'⟩ => by cases h; exact h'⟩

theorem pl_bind_error {x : Except ε α} {f : α → Except ε β} {e : ε} :
    x >>= f = .error e ↔ x = .error e ∨ ∃ a, x = .ok a ∧ f a = .error e := by
  cases x with
  | error e' =>
    constructor
    · intro h; cases h; exact Or.inl rfl
    · rintro (h | ⟨_, h, _⟩) <;> cases h
      rfl
  | ok a =>
    constructor
    · exact fun h => Or.inr ⟨a, rfl, h⟩
    · rintro (h | ⟨_, h, h'⟩) <;> cases h
      exact h'

theorem pl_ok_bind (a : α) (f : α → Except ε β) : Except.ok a >>= f = f a := rfl

theorem pl_error_bind (e : ε) (f : α → Except ε β) : Except.error e >>= f = .error e := rfl

theorem pl_pure_error {a : α} {e : ε} : (pure a : Except ε α) = .error e ↔ False := ⟨nofun, nofun⟩

end Except

/-- what a completed run returns -/
abbrev pl_out (srcDir : PathParts) (a : ApiRun) (text : String) (gen : GenResult) : ToolOutput :=
  { packageName := a.packageName, analysed := a.walked.map (·.path), aliases := a.aliases, api := a.api,
    warnings := a.warnings, apiFileName := pathStem srcDir ++ "__api.json", apiFileText := text, gen := gen }

theorem pl_getApi_eq (i : ToolInput) : getApi i =
    discoverSorted i.srcDir i.files i.isTestRun >>= fun rd =>
      analyze { opts := i.opts, aliases := getAliases (pathStem rd.1) i.aliasFacts, infoBases := i.infoBases } i.docRoot
          (selectModules i.graph rd.2) >>= fun rw =>
        pure { packageName := pathStem rd.1, walked := selectModules i.graph rd.2,
               aliases := getAliases (pathStem rd.1) i.aliasFacts, api := rw.1, warnings := rw.2 } := by
  unfold getApi
  cases discoverSorted i.srcDir i.files i.isTestRun with
  | error e => rfl
  | ok rd =>
    cases ha : analyze { opts := i.opts, aliases := getAliases (pathStem rd.1) i.aliasFacts, infoBases := i.infoBases }
        i.docRoot (selectModules i.graph rd.2) with
    | error e => simp only [bind, Except.bind, ha]
    | ok rw => simp only [bind, Except.bind, ha]; rfl

theorem pl_runTool_eq (i : ToolInput) : runTool i =
    getApi i >>= fun a => apiJsonText a.packageName a.api >>= fun text =>
      runGenerator (a.api.toApi a.packageName) i.safe i.preexisting >>= fun gen =>
        pure (pl_out i.srcDir a text gen) := by
  unfold runTool
  cases getApi i with
  | error e => rfl
  | ok a =>
    cases ht : apiJsonText a.packageName a.api with
    | error e => simp only [bind, Except.bind, ht]
    | ok text =>
      cases hg : runGenerator (a.api.toApi a.packageName) i.safe i.preexisting with
      | error e => simp only [bind, Except.bind, ht, hg]
      | ok gen => simp only [bind, Except.bind, ht, hg]; rfl

theorem pl_getApi_ok {i : ToolInput} {a : ApiRun} :
    getApi i = .ok a ↔ ∃ root d r ws, discoverSorted i.srcDir i.files i.isTestRun = .ok (root, d) ∧
      analyze { opts := i.opts, aliases := getAliases (pathStem root) i.aliasFacts, infoBases := i.infoBases } i.docRoot
        (selectModules i.graph d) = .ok (r, ws) ∧
      a = { packageName := pathStem root, walked := selectModules i.graph d,
            aliases := getAliases (pathStem root) i.aliasFacts, api := r, warnings := ws } := by
  rw [pl_getApi_eq]
  constructor
  · intro h
    obtain ⟨⟨root, d⟩, hd, h⟩ := pl_bind_ok.1 h
    obtain ⟨⟨r, ws⟩, ha, h⟩ := pl_bind_ok.1 h
    cases h
    exact ⟨root, d, r, ws, hd, ha, rfl⟩
  · rintro ⟨root, d, r, ws, hd, ha, rfl⟩
    exact pl_bind_ok.2 ⟨_, hd, pl_bind_ok.2 ⟨_, ha, rfl⟩⟩

theorem pl_getApi_error {i : ToolInput} {e : PyErr} :
    getApi i = .error e ↔ discoverSorted i.srcDir i.files i.isTestRun = .error e ∨
      ∃ root d, discoverSorted i.srcDir i.files i.isTestRun = .ok (root, d) ∧
        analyze { opts := i.opts, aliases := getAliases (pathStem root) i.aliasFacts, infoBases := i.infoBases } i.docRoot
          (selectModules i.graph d) = .error e := by
  simp only [pl_getApi_eq, pl_bind_error, pl_pure_error, Prod.exists, and_false, exists_false, or_false]

/-- what a successful run went through -/
theorem pl_runTool_ok {i : ToolInput} {o : ToolOutput} (h : runTool i = .ok o) :
    ∃ root d r ws text gen,
      discoverSorted i.srcDir i.files i.isTestRun = .ok (root, d) ∧
      analyze { opts := i.opts, aliases := getAliases (pathStem root) i.aliasFacts, infoBases := i.infoBases } i.docRoot
        (selectModules i.graph d) = .ok (r, ws) ∧
      apiJsonText (pathStem root) r = .ok text ∧
      runGenerator (r.toApi (pathStem root)) i.safe i.preexisting = .ok gen ∧
      o = { packageName := pathStem root, analysed := (selectModules i.graph d).map (·.path),
            aliases := getAliases (pathStem root) i.aliasFacts, api := r, warnings := ws,
            apiFileName := pathStem i.srcDir ++ "__api.json", apiFileText := text, gen := gen } := by
  rw [pl_runTool_eq] at h
  obtain ⟨a, ha, h⟩ := pl_bind_ok.1 h
  obtain ⟨root, d, r, ws, hd, han, rfl⟩ := pl_getApi_ok.1 ha
  obtain ⟨text, ht, h⟩ := pl_bind_ok.1 h
  obtain ⟨gen, hg, h⟩ := pl_bind_ok.1 h
  cases h
  dsimp only at ht hg
  exact ⟨root, d, r, ws, text, gen, hd, han, ht, hg, rfl⟩

/-- … and conversely: four successful stages make a successful run -/
theorem pl_runTool_of_stages {i : ToolInput} {root : PathParts} {d : Discovered} {r : AnaResult} {ws : List String}
    {text : String} {gen : GenResult}
    (hd : discoverSorted i.srcDir i.files i.isTestRun = .ok (root, d))
    (ha : analyze { opts := i.opts, aliases := getAliases (pathStem root) i.aliasFacts, infoBases := i.infoBases } i.docRoot
        (selectModules i.graph d) = .ok (r, ws))
    (ht : apiJsonText (pathStem root) r = .ok text)
    (hg : runGenerator (r.toApi (pathStem root)) i.safe i.preexisting = .ok gen) :
    runTool i = .ok { packageName := pathStem root, analysed := (selectModules i.graph d).map (·.path),
                      aliases := getAliases (pathStem root) i.aliasFacts, api := r, warnings := ws,
                      apiFileName := pathStem i.srcDir ++ "__api.json", apiFileText := text, gen := gen } := by
  rw [pl_runTool_eq, pl_getApi_ok.2 ⟨root, d, r, ws, hd, ha, rfl⟩, pl_ok_bind]
  dsimp only
  rw [ht, pl_ok_bind, hg, pl_ok_bind]
  rfl

/-- where an error of the whole tool can come from: exactly one of the four stages -/
theorem pl_runTool_error {i : ToolInput} {e : PyErr} (h : runTool i = .error e) :
    getApi i = .error e ∨ ∃ a, getApi i = .ok a ∧
      (apiJsonText a.packageName a.api = .error e ∨
        runGenerator (a.api.toApi a.packageName) i.safe i.preexisting = .error e) := by
  rw [pl_runTool_eq] at h
  rcases pl_bind_error.1 h with h | ⟨a, ha, h⟩
  · exact Or.inl h
  · refine Or.inr ⟨a, ha, ?_⟩
    rcases pl_bind_error.1 h with h | ⟨_, _, h⟩
    · exact Or.inl h
    · rcases pl_bind_error.1 h with h | ⟨_, _, h⟩
      · exact Or.inr h
      · cases h

/-- a run reads its input, after `get_api`, through `safe`, `preexisting` and `srcDir` only -/
theorem pl_runTool_congr {i i' : ToolInput} (ha : getApi i' = getApi i) (hs : i'.safe = i.safe)
    (hp : i'.preexisting = i.preexisting) (hd : i'.srcDir = i.srcDir) : runTool i' = runTool i := by
  rw [pl_runTool_eq, pl_runTool_eq, ha, hs, hp, hd]

/-- Two runs whose `get_api` results agree in the package name and the API, and differ otherwise only in
    what `g` forgets of the output, end alike up to `g`: the stages after `get_api` read the package
    name and the API and copy the rest. -/
theorem pl_runTool_map_congr (g : ToolOutput → ToolOutput) {i i' : ToolInput}
    (hs : i'.safe = i.safe) (hp : i'.preexisting = i.preexisting)
    (h : (∃ e, getApi i' = .error e ∧ getApi i = .error e) ∨
      ∃ a' a, getApi i' = .ok a' ∧ getApi i = .ok a ∧ a'.packageName = a.packageName ∧ a'.api = a.api ∧
        ∀ text gen, g (pl_out i'.srcDir a' text gen) = g (pl_out i.srcDir a text gen)) :
    (runTool i').map g = (runTool i).map g := by
  rw [pl_runTool_eq, pl_runTool_eq]
  rcases h with ⟨e, h1, h2⟩ | ⟨a', a, h1, h2, hn, hapi, hg⟩
  · rw [h1, h2, pl_error_bind, pl_error_bind]
  · rw [h1, h2, pl_ok_bind, pl_ok_bind, hn, hapi, hs, hp]
    cases apiJsonText a.packageName a.api with
    | error e => rfl
    | ok text =>
      rw [pl_ok_bind, pl_ok_bind]
      cases runGenerator (a.api.toApi a.packageName) i.safe i.preexisting with
      | error e => rfl
      | ok gen => exact congrArg Except.ok (hg text gen)

end StubGen
