/-
Errors of the serialisation step (`API.to_json_file`): only the `TypeError` of a frozenset inside a docstring record.
-/
import StubGen.Model.ApiDict

namespace StubGen

mutual
theorem te_asdict_err : ∀ (t : AType) (e : PyErr), t.asdict = .error e → e = .typeError
  | .unknown, e, h => by simp [AType.asdict] at h
  | .named _ _, e, h => by simp [AType.asdict] at h
  | .namedSeq n q ts, e, h => by
    have := te_asdictL_err ts e
    simp only [AType.asdict, bind, Except.bind, pure, Except.pure] at h
    grind
  | .enum _, e, h => by simp [AType.asdict] at h; exact h.symm
  | .boundary .., e, h => by simp [AType.asdict] at h
  | .union ts, e, h => by
    have := te_asdictL_err ts e
    simp only [AType.asdict, bind, Except.bind, pure, Except.pure] at h
    grind
  | .list ts, e, h => by
    have := te_asdictL_err ts e
    simp only [AType.asdict, bind, Except.bind, pure, Except.pure] at h
    grind
  | .dict k v, e, h => by
    have := te_asdict_err k e
    have := te_asdict_err v e
    simp only [AType.asdict, bind, Except.bind, pure, Except.pure] at h
    grind
  | .callable ps r, e, h => by
    have := te_asdictL_err ps e
    have := te_asdict_err r e
    simp only [AType.asdict, bind, Except.bind, pure, Except.pure] at h
    grind
  | .set ts, e, h => by
    have := te_asdictL_err ts e
    simp only [AType.asdict, bind, Except.bind, pure, Except.pure] at h
    grind
  | .literal _, e, h => by simp [AType.asdict] at h
  | .final t, e, h => by
    have := te_asdict_err t e
    simp only [AType.asdict, bind, Except.bind, pure, Except.pure] at h
    grind
  | .tuple ts, e, h => by
    have := te_asdictL_err ts e
    simp only [AType.asdict, bind, Except.bind, pure, Except.pure] at h
    grind
  | .typeVar _, e, h => by simp [AType.asdict] at h
  | .typeVarB n u, e, h => by
    have := te_asdict_err u e
    simp only [AType.asdict, bind, Except.bind, pure, Except.pure] at h
    grind
theorem te_asdictL_err : ∀ (ts : List AType) (e : PyErr), AType.asdictL ts = .error e → e = .typeError
  | [], e, h => by simp [AType.asdictL] at h
  | t :: ts, e, h => by
    have := te_asdict_err t e
    have := te_asdictL_err ts e
    simp only [AType.asdictL, bind, Except.bind, pure, Except.pure] at h
    grind
end

theorem te_asdictOpt_err (o : Option AType) (e : PyErr) (h : asdictOpt o = .error e) : e = .typeError := by
  cases o with
  | none => simp [asdictOpt] at h
  | some t => exact te_asdict_err t e (by simpa [asdictOpt] using h)

theorem te_mapExcept_err {α β : Type} (f : α → Except PyErr β) (hf : ∀ a e, f a = .error e → e = .typeError) :
    ∀ (l : List α) (e : PyErr), mapExcept f l = .error e → e = .typeError
  | [], e, h => by simp [mapExcept] at h
  | a :: as, e, h => by
    have h1 := hf a e
    have h2 := te_mapExcept_err f hf as e
    simp only [mapExcept, bind, Except.bind, pure, Except.pure] at h
    grind

theorem te_Parameter_toJ_err (p : Parameter) (e : PyErr) (h : p.toJ = .error e) : e = .typeError := by
  have := te_asdictOpt_err p.doc.type e
  simp only [Parameter.toJ, bind, Except.bind, pure, Except.pure] at h
  grind

theorem te_Attribute_toJ_err (a : Attribute) (e : PyErr) (h : a.toJ = .error e) : e = .typeError := by
  have := te_asdictOpt_err a.doc.type e
  simp only [Attribute.toJ, bind, Except.bind, pure, Except.pure] at h
  grind

end StubGen
