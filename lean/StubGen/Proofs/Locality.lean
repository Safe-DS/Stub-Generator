/-
Helper lemmas for `StubGen.Theorems.C18` (locality of the generator).

* `r18_Sim K R x x'`: a two-run simulation for the generator monad: every successful run of `x` from
  a state `st` is matched by a successful run of `x'` with the SAME result from every `R`-related
  state `st'`, ending in `R`-related states.
* `r18_Prims K R api api' safe`: what the simulation needs of the state-reading primitives
  (`addToImports`, the `_`-name check of `typeStr`, `hasNodeShorterReexport`, `createTodoMsg`, the
  class lookups) for the two environments `⟨api, safe⟩`, `⟨api', safe⟩`.
* the generic walk: under `r18_Prims`, every generator function up to `createFunctions` /
  `createClasses` simulates its twin over the other environment, with fuel `n ≤ n'`.
* instance 1, `R = Eq`: dependence on the API only through the lookups (`callGenerator_congr`),
  fuel monotonicity.
* instance 2, `R = r18_Rel fr b b'` (same environment, two states agreeing on everything the
  generator reads except the contents of `imports`/`outside`): the text of a declaration block does
  not depend on the state, and the import set grows by a fixed set; permutation of declarations.
* `r18_createClassString_restores_generics`: a class block ends with the `classGenerics` it started
  with (the generics of a class are scoped to the class).
-/
import StubGen.Model.Files
import StubGen.Proofs.Markers
import StubGen.Proofs.Files
import StubGen.Proofs.Order
import StubGen.Proofs.Totality

namespace StubGen

open List

/-! ### the two-run simulation -/

/-- `K` is a guard on the FINAL state of the first run (downward closed along runs: `back`); every
    successful run of `x` from `st` ending in a `K`-state is matched by a run of `x'` with the same
    result from every `R`-related state, ending in `R`-related states. -/
structure r18_Sim {α : Type} (K : St → Prop) (R : St → St → Prop) (x x' : G α) : Prop where
  back : ∀ (st : St) (a : α) (s1 : St), x st = .ok (a, s1) → K s1 → K st
  sim : ∀ (st st' : St) (a : α) (s1 : St), R st st' → x st = .ok (a, s1) → K s1 →
    ∃ s1', x' st' = .ok (a, s1') ∧ R s1 s1'

namespace r18_Sim
variable {α β : Type} {K : St → Prop} {R : St → St → Prop}

theorem pure (a : α) : r18_Sim K R (Pure.pure a : G α) (Pure.pure a : G α) := by
  refine ⟨fun st b s1 h hK => ?_, fun st st' b s1 hR h _ => ?_⟩
  · obtain ⟨rfl, rfl⟩ := se_pure_ok h
    exact hK
  · obtain ⟨rfl, rfl⟩ := se_pure_ok h
    exact ⟨st', rfl, hR⟩

theorem throw (e : PyErr) (y : G α) : r18_Sim K R (throwG e : G α) y := by
  refine ⟨fun st b s1 h _ => ?_, fun st st' b s1 _ h _ => ?_⟩
  · exact absurd h (by simp [throwG])
  · exact absurd h (by simp [throwG])

theorem bind {x x' : G α} {f f' : α → G β} (hx : r18_Sim K R x x') (hf : ∀ a, r18_Sim K R (f a) (f' a)) :
    r18_Sim K R (x >>= f) (x' >>= f') := by
  refine ⟨fun st b s2 h hK => ?_, fun st st' b s2 hR h hK => ?_⟩
  · obtain ⟨a, s1, h1, h2⟩ := se_bind_ok h
    exact hx.back st a s1 h1 ((hf a).back s1 b s2 h2 hK)
  · obtain ⟨a, s1, h1, h2⟩ := se_bind_ok h
    obtain ⟨s1', h1', hR1⟩ := hx.sim st st' a s1 hR h1 ((hf a).back s1 b s2 h2 hK)
    obtain ⟨s2', h2', hR2⟩ := (hf a).sim s1 s1' b s2 hR1 h2 hK
    refine ⟨s2', ?_, hR2⟩
    rw [bind_apply, h1']
    exact h2'

/-- `bind` without a guard, when the first computation establishes `Q` besides `R` for the second -/
theorem bind_and {Q : St → St → Prop} {x x' : G α} {f f' : α → G β} (hx : r18_Sim (fun _ => True) R x x')
    (hQ : ∀ st st' a s1 s1', R st st' → x st = .ok (a, s1) → x' st' = .ok (a, s1') → Q s1 s1')
    (hf : ∀ a, r18_Sim (fun _ => True) (fun s s' => R s s' ∧ Q s s') (f a) (f' a)) :
    r18_Sim (fun _ => True) R (x >>= f) (x' >>= f') := by
  refine ⟨fun _ _ _ _ _ => trivial, fun st st' b s2 hR h _ => ?_⟩
  obtain ⟨a, s1, h1, h2⟩ := se_bind_ok h
  obtain ⟨s1', h1', hR1⟩ := hx.sim st st' a s1 hR h1 trivial
  obtain ⟨s2', h2', hR2⟩ := (hf a).sim s1 s1' b s2 ⟨hR1, hQ _ _ _ _ _ hR h1 h1'⟩ h2 trivial
  refine ⟨s2', ?_, hR2.1⟩
  rw [bind_apply, h1']
  exact h2'

theorem get_bind {f f' : St → G β} (hKR : (∀ s, R s s) ∨ (∀ s, K s))
    (hf : ∀ s s', R s s' → r18_Sim K R (f s) (f' s')) :
    r18_Sim K R (get >>= f) (get >>= f') := by
  refine ⟨fun st b s2 h hK => ?_, fun st st' b s2 hR h hK => ?_⟩
  · obtain ⟨a, s1, h1, h2⟩ := se_bind_ok h
    obtain ⟨rfl, rfl⟩ := se_get_ok h1
    rcases hKR with hr | hk
    · exact (hf s1 s1 (hr s1)).back s1 b s2 h2 hK
    · exact hk _
  · obtain ⟨a, s1, h1, h2⟩ := se_bind_ok h
    obtain ⟨rfl, rfl⟩ := se_get_ok h1
    obtain ⟨s2', h2', hR2⟩ := (hf s1 st' hR).sim s1 st' b s2 hR h2 hK
    refine ⟨s2', ?_, hR2⟩
    rw [bind_apply, p08_get_run]
    exact h2'

theorem ite {c : Prop} [Decidable c] {x x' y y' : G α} (hx : r18_Sim K R x x') (hy : r18_Sim K R y y') :
    r18_Sim K R (if c then x else y) (if c then x' else y') := by
  split <;> assumption

theorem of_fun {g : St → St} (hb : ∀ s, K (g s) → K s) (hg : ∀ s s', R s s' → R (g s) (g s')) :
    r18_Sim K R (modify g : G PUnit) (modify g : G PUnit) := by
  refine ⟨fun st b s1 h hK => ?_, fun st st' b s1 hR h _ => ?_⟩
  · have := se_modify_ok h
    subst this
    exact hb _ hK
  · have := se_modify_ok h
    subst this
    exact ⟨g st', rfl, hg _ _ hR⟩

/-- without a guard, `set` of related states is a simulation -/
theorem set {t t' : St} (h : R t t') :
    r18_Sim (fun _ => True) R (MonadStateOf.set t : G PUnit) (MonadStateOf.set t' : G PUnit) := by
  refine ⟨fun _ _ _ _ _ => trivial, fun st st' b s1 _ hx _ => ?_⟩
  have : s1 = t := by
    simp only [MonadStateOf.set, StateT.set, Pure.pure, Except.pure, Except.ok.injEq, Prod.mk.injEq] at hx
    exact hx.2.symm
  subst this
  exact ⟨t', rfl, h⟩

/-- a guard-free simulation of a computation that is downward closed for `K` -/
theorem of_true {x x' : G α} (h : r18_Sim (fun _ => True) R x x')
    (hb : ∀ (st : St) (a : α) (s1 : St), x st = .ok (a, s1) → K s1 → K st) : r18_Sim K R x x' :=
  ⟨hb, fun st st' a s1 hR hx _ => h.sim st st' a s1 hR hx trivial⟩

/-- with `R = Eq`, a computation simulates itself -/
theorem same {x : G α} (hb : ∀ (st : St) (a : α) (s1 : St), x st = .ok (a, s1) → K s1 → K st) :
    r18_Sim K Eq x x :=
  ⟨hb, fun st st' a s1 hR hx _ => by subst hR; exact ⟨s1, hx, rfl⟩⟩

end r18_Sim


/-! ### `addToImports` as a state transformer -/

/-- the class table lookup of `_add_to_imports`: the id of the first class "path-connected" to the
    `/`-separated import path -/
def r18_importLookup (api : API) (path : String) : Option String :=
  (api.classes.find? fun c => isPathConnectedToClass api.reexportMap path c.id).map (·.id)

/-- `(qname, in_package)` of `_add_to_imports` -/
def r18_resolve (api : API) (q : String) : String × Bool :=
  match r18_importLookup api (replaceChar q '.' "/") with
  | some id =>
    let q' := replaceChar id '/' "."
    let name := lastD "" (splitDot q')
    ((if (shortestPublicReexport api.reexportMap name q' false).1 != "" then
        (shortestPublicReexport api.reexportMap name q' false).1 ++ "." ++ name else q'), true)
  | none => ("", false)

/-- the qualified names that are never imported: builtins, `typing.Any`, names without a module path,
    names containing the dotted id of the current module -/
def r18_skip (s : St) (q : String) : Bool :=
  ((splitDot q).head? == some "builtins" && (splitDot q).length == 2) || q == "typing.Any"
    || (splitDot q).length == 1 || pyIn (replaceChar s.moduleId '/' ".") q

/-- the name under which `q` is imported -/
def r18_impName (api : API) (q : String) : String :=
  if (r18_resolve api q).1 != "" then (r18_resolve api q).1 else q

/-- does `addToImports env q` add an import / a class outside the package, from state `s`? -/
def r18_addsImport (api : API) (s : St) (q : String) : Bool :=
  !r18_skip s q && replaceChar (r18_impName api q) '.' "/" != getModuleId s
def r18_addsOutside (api : API) (s : St) (q : String) : Bool :=
  !r18_skip s q && !(r18_resolve api q).2

def r18_insOpt (o : Option String) (l : List String) : List String :=
  match o with
  | some n => insertSet n l
  | none => l

theorem r18_mem_insOpt (o : Option String) (l : List String) (x : String) :
    x ∈ r18_insOpt o l ↔ x ∈ l ∨ o = some x := by
  cases o with
  | none => simp [r18_insOpt]
  | some n => simp only [r18_insOpt, mem_insertSet, Option.some.injEq, eq_comm]

theorem r18_nodup_insOpt (o : Option String) (l : List String) (h : l.Nodup) : (r18_insOpt o l).Nodup := by
  cases o with
  | none => exact h
  | some n => exact nodup_insertSet n l h

/-- the final state of `addToImports env q` (for `q ≠ ""`) -/
def r18_addSt (api : API) (q : String) (s : St) : St :=
  { s with imports := r18_insOpt (if r18_addsImport api s q then some (r18_impName api q) else none) s.imports,
           outside := r18_insOpt (if r18_addsOutside api s q then some (r18_impName api q) else none) s.outside }

/-- the shared closed form (`q11_effect`) in the vocabulary of this file -/
theorem r18_effect_eq (env : Env) (q : String) (s : St) : q11_effect env q s = r18_addSt env.api q s := by
  have h : q11_target env q = r18_impName env.api q ∧ (q11_found env q).isNone = !(r18_resolve env.api q).2 := by
    unfold q11_target q11_found q11_classTarget r18_impName r18_resolve r18_importLookup
    cases List.find? _ env.api.classes with
    | none => exact ⟨(if_neg (show ¬(("" : String) != "") = true by decide)).symm, rfl⟩
    | some c => exact ⟨rfl, rfl⟩
  unfold q11_effect r18_addSt r18_addsImport r18_addsOutside
  rw [show (q11_exempt q || q11_sameModule s q) = r18_skip s q from rfl, h.1, h.2]
  cases r18_skip s q <;> cases (r18_resolve env.api q).2 <;>
    cases (replaceChar (r18_impName env.api q) '.' "/" != getModuleId s) <;> rfl

theorem r18_addToImports_ok (env : Env) (q : String) (st : St) (a : Unit) (s1 : St) :
    addToImports env q st = .ok (a, s1) ↔ q ≠ "" ∧ s1 = r18_addSt env.api q st := by
  rw [q11_addToImports_eq]
  by_cases hq : q = ""
  · rw [if_pos hq]
    exact ⟨fun h => (by cases h), fun h => absurd hq h.1⟩
  · rw [if_neg hq, r18_effect_eq]
    exact ⟨fun h => ⟨hq, by cases h; rfl⟩, fun h => by rw [h.2]⟩

theorem r18_getModuleId_congr {s t : St} (h1 : s.moduleId = t.moduleId) (h2 : s.reexportModuleId = t.reexportModuleId)
    (h3 : s.creatingReexport = t.creatingReexport) : getModuleId s = getModuleId t := by
  unfold getModuleId
  rw [h1, h2, h3]

/-- the non-builtin branch of `typeStr env (.named name qname)` -/
def r18_namedBody (env : Env) (name qname : String) : G String := do
  addToImports env qname
  match name.toList with
  | [] => throwG .indexError
  | c :: _ =>
    let s ← get
    if c == '_' && !s.imports.contains qname then addTodo "internal class as type"
    pure (escapeKeyword name)

/-- what the generic walk needs of the primitives that read the state or the API -/
structure r18_Prims (K : St → Prop) (R : St → St → Prop) (api api' : API) (safe : Bool) : Prop where
  addTodo : ∀ k, r18_Sim K R (addTodo k) (addTodo k)
  logEmit : ∀ k i, r18_Sim K R (logEmit k i) (logEmit k i)
  addImp : ∀ q, r18_Sim K R (addToImports ⟨api, safe⟩ q) (addToImports ⟨api', safe⟩ q)
  named : ∀ name qname, r18_Sim K R (r18_namedBody ⟨api, safe⟩ name qname) (r18_namedBody ⟨api', safe⟩ name qname)
  hasNode : ∀ n r node, r18_Sim K R (hasNodeShorterReexport n r node) (hasNodeShorterReexport n r node)
  todoMsg : ∀ i, r18_Sim K R (createTodoMsg i) (createTodoMsg i)
  cgEq : ∀ s s', R s s' → s.classGenerics = s'.classGenerics
  kr : (∀ s, R s s) ∨ (∀ s, K s)

open Lean in
macro "r18_walk" "[" ls:term,* "]" : tactic => do
  let alts ← ls.getElems.mapM fun l => `(tacticSeq| apply $l)
  `(tactic| repeat' (first
      | with_reducible exact r18_Sim.pure _
      | with_reducible exact r18_Sim.throw _ _
      | with_reducible exact r18_Prims.addTodo ‹_› _
      | with_reducible exact r18_Prims.logEmit ‹_› _ _
      | with_reducible exact r18_Prims.addImp ‹_› _
      | with_reducible exact r18_Prims.hasNode ‹_› _ _ _
      | with_reducible exact r18_Prims.todoMsg ‹_› _
      | with_reducible assumption
      | with_reducible exact And.left ‹_ ∧ _›
      $[| with_reducible $alts:tacticSeq]*
      | with_reducible apply r18_Sim.ite
      | ((with_reducible apply r18_Sim.get_bind (r18_Prims.kr ‹_›)); intro s s' hR; (try dsimp only);
          rw [r18_Prims.cgEq ‹_› s s' hR])
      | with_reducible apply r18_Sim.bind
      | intro _
      | dsimp only
      | split))

section Generic
variable {K : St → Prop} {R : St → St → Prop} {api api' : API} {safe : Bool}

local notation "E" => (Env.mk api safe)
local notation "E'" => (Env.mk api' safe)

def r18_TupleNamed (K : St → Prop) (R : St → St → Prop) (api api' : API) (safe : Bool) (t : AType) : Prop :=
  ∀ ts, t = .tuple ts → ∀ pre i, r18_Sim K R (typeStrsNamed ⟨api, safe⟩ pre i ts) (typeStrsNamed ⟨api', safe⟩ pre i ts)

mutual
theorem r18_typeStr_sim' (P : r18_Prims K R api api' safe) :
    (t : AType) → r18_Sim K R (typeStr E t) (typeStr E' t) ∧ r18_TupleNamed K R api api' safe t
  | .named name qname => by
    refine ⟨?_, fun ts h => by cases h⟩
    have := P.named name qname
    unfold r18_namedBody at this
    unfold typeStr
    split
    · exact r18_Sim.pure _
    · exact this
  | .final t => by
    have := (r18_typeStr_sim' P t).1
    refine ⟨?_, fun ts h => by cases h⟩
    unfold typeStr
    exact this
  | .callable params ret => by
    have h1 := r18_typeStrsNamed_sim P "param_" 1 params
    have h2 := (r18_typeStr_sim' P ret).1
    have h3 : ∀ ts, ret = .tuple ts →
        r18_Sim K R (typeStrsNamed E "result_" 1 ts) (typeStrsNamed E' "result_" 1 ts) :=
      fun ts h => (r18_typeStr_sim' P ret).2 ts h "result_" 1
    refine ⟨?_, fun ts h => by cases h⟩
    unfold typeStr
    r18_walk [h3 _ rfl]
  | .set ts | .list ts | .namedSeq _ _ ts => by
    have h1 := r18_typeStrs_sim P ts
    refine ⟨?_, fun ts h => by cases h⟩
    unfold typeStr
    r18_walk []
  | .union ts => by
    have h1 := r18_typeStrs_sim P ts
    have h2 := r18_typeStrsSkipLit_sim P ts
    refine ⟨?_, fun ts h => by cases h⟩
    unfold typeStr
    r18_walk []
  | .tuple ts => by
    have h1 := r18_typeStrs_sim P ts
    have h2 := fun pre i => r18_typeStrsNamed_sim P pre i ts
    refine ⟨?_, fun ts' h pre i => by cases h; exact h2 pre i⟩
    unfold typeStr
    r18_walk []
  | .dict k v => by
    have h1 := (r18_typeStr_sim' P k).1
    have h2 := (r18_typeStr_sim' P v).1
    refine ⟨?_, fun ts h => by cases h⟩
    unfold typeStr
    r18_walk []
  | .unknown | .literal _ | .typeVar _ | .typeVarB _ _ | .enum _ | .boundary .. => by
    refine ⟨?_, fun ts h => by cases h⟩
    unfold typeStr
    r18_walk []
theorem r18_typeStrs_sim (P : r18_Prims K R api api' safe) :
    (ts : List AType) → r18_Sim K R (typeStrs E ts) (typeStrs E' ts)
  | [] => by unfold typeStrs; r18_walk []
  | t :: ts => by
    have h1 := (r18_typeStr_sim' P t).1
    have h2 := r18_typeStrs_sim P ts
    unfold typeStrs
    r18_walk []
theorem r18_typeStrsSkipLit_sim (P : r18_Prims K R api api' safe) :
    (ts : List AType) → r18_Sim K R (typeStrsSkipLit E ts) (typeStrsSkipLit E' ts)
  | [] => by unfold typeStrsSkipLit; r18_walk []
  | t :: ts => by
    have h1 := (r18_typeStr_sim' P t).1
    have h2 := r18_typeStrsSkipLit_sim P ts
    unfold typeStrsSkipLit
    r18_walk []
theorem r18_typeStrsNamed_sim (P : r18_Prims K R api api' safe) (pre : String) (i : Nat) :
    (ts : List AType) → r18_Sim K R (typeStrsNamed E pre i ts) (typeStrsNamed E' pre i ts)
  | [] => by unfold typeStrsNamed; r18_walk []
  | t :: ts => by
    have h1 := (r18_typeStr_sim' P t).1
    have h2 := r18_typeStrsNamed_sim P pre (i + 1) ts
    unfold typeStrsNamed
    r18_walk []
end

theorem r18_typeStr_sim (P : r18_Prims K R api api' safe) (t : AType) : r18_Sim K R (typeStr E t) (typeStr E' t) :=
  (r18_typeStr_sim' P t).1

theorem r18_typeStrOpt_sim (P : r18_Prims K R api api' safe) (t : Option AType) :
    r18_Sim K R (typeStrOpt E t) (typeStrOpt E' t) := by
  unfold typeStrOpt
  r18_walk [r18_typeStr_sim]

theorem r18_defaultString_sim (P : r18_Prims K R api api' safe) (a : Assign) (d : DefaultVal) :
    r18_Sim K R (defaultString a d) (defaultString a d) := by
  unfold defaultString
  r18_walk []

theorem r18_createParameter_sim (P : r18_Prims K R api api' safe) (p : Parameter) :
    r18_Sim K R (createParameter E p) (createParameter E' p) := by
  unfold createParameter
  r18_walk [r18_typeStr_sim, r18_defaultString_sim]

theorem r18_createParameters_sim (P : r18_Prims K R api api' safe) :
    (ps : List Parameter) → r18_Sim K R (createParameters E ps) (createParameters E' ps)
  | [] => by unfold createParameters; r18_walk []
  | p :: ps => by
    have := r18_createParameters_sim P ps
    unfold createParameters
    r18_walk [r18_createParameter_sim]

theorem r18_createParameterString_sim (P : r18_Prims K R api api' safe) (ps : List Parameter) (indent : String)
    (b : Bool) : r18_Sim K R (createParameterString E ps indent b) (createParameterString E' ps indent b) := by
  unfold createParameterString
  r18_walk [r18_createParameters_sim]

theorem r18_createResults_sim (P : r18_Prims K R api api' safe) :
    (rs : List Result) → r18_Sim K R (createResults E rs) (createResults E' rs)
  | [] => by unfold createResults; r18_walk []
  | r :: rs => by
    have := r18_createResults_sim P rs
    unfold createResults
    r18_walk [r18_typeStr_sim]

theorem r18_createResultString_sim (P : r18_Prims K R api api' safe) (rs : List Result) :
    r18_Sim K R (createResultString E rs) (createResultString E' rs) := by
  unfold createResultString
  r18_walk [r18_createResults_sim]

theorem r18_typeVarStrings_sim (P : r18_Prims K R api api' safe) (b : Bool) :
    (tvs : List TypeVar) → r18_Sim K R (typeVarStrings E b tvs) (typeVarStrings E' b tvs)
  | [] => by unfold typeVarStrings; r18_walk []
  | tv :: tvs => by
    have := r18_typeVarStrings_sim P b tvs
    unfold typeVarStrings
    dsimp only
    apply r18_Sim.get_bind P.kr
    intro s s' hR
    rw [P.cgEq s s' hR]
    r18_walk [r18_typeStr_sim]

theorem r18_createFunctionString_sim (P : r18_Prims K R api api' safe) (f : Function) (indent : String)
    (b1 b2 : Bool) : r18_Sim K R (createFunctionString E f indent b1 b2) (createFunctionString E' f indent b1 b2) := by
  unfold createFunctionString
  -- two nested join points on either side (after the early `return ""`, after the class-method note), innermost first
  extract_lets static doc camel ann tail rest doc' camel' ann' tail' rest'
  have htail : ∀ u, r18_Sim K R (tail u) (tail' u) := by
    intro u
    r18_walk [r18_createParameterString_sim, r18_typeVarStrings_sim, r18_createResultString_sim]
  clear_value tail tail'
  have hrest : ∀ u, r18_Sim K R (rest u) (rest' u) := by
    intro u
    r18_walk [htail]
  clear_value rest rest'
  r18_walk [hrest]

theorem r18_createPropertyFunctionString_sim (P : r18_Prims K R api api' safe) (f : Function) (indent : String) :
    r18_Sim K R (createPropertyFunctionString E f indent) (createPropertyFunctionString E' f indent) := by
  unfold createPropertyFunctionString
  r18_walk [r18_typeStr_sim]

theorem r18_createAttribute_sim (P : r18_Prims K R api api' safe) (a : Attribute) (inner : String) :
    r18_Sim K R (createAttribute E a inner) (createAttribute E' a inner) := by
  unfold createAttribute
  r18_walk [r18_typeStrOpt_sim]

theorem r18_createAttributes_sim (P : r18_Prims K R api api' safe) (inner : String) :
    (as : List Attribute) → r18_Sim K R (createAttributes E inner as) (createAttributes E' inner as)
  | [] => by unfold createAttributes; r18_walk []
  | a :: as => by
    have := r18_createAttributes_sim P inner as
    unfold createAttributes
    r18_walk [r18_createAttribute_sim]

theorem r18_createClassAttributeString_sim (P : r18_Prims K R api api' safe) (as : List Attribute) (inner : String) :
    r18_Sim K R (createClassAttributeString E as inner) (createClassAttributeString E' as inner) := by
  unfold createClassAttributeString
  r18_walk [r18_createAttributes_sim]

theorem r18_createMethods_sim (P : r18_Prims K R api api' safe) (inner : String) (b : Bool) (ad : List String) :
    (ms : List Function) → r18_Sim K R (createMethods E inner b ad ms) (createMethods E' inner b ad ms)
  | [] => by unfold createMethods; r18_walk []
  | m :: ms => by
    have := r18_createMethods_sim P inner b ad ms
    unfold createMethods
    r18_walk [r18_createPropertyFunctionString_sim, r18_createFunctionString_sim]

theorem r18_createClassMethodString_sim (P : r18_Prims K R api api' safe) (ms : List Function) (inner : String)
    (b : Bool) (ad : List String) :
    r18_Sim K R (createClassMethodString E ms inner b ad) (createClassMethodString E' ms inner b ad) := by
  unfold createClassMethodString
  r18_walk [r18_createMethods_sim]

theorem r18_varianceKeyword_sim (v : Variance) : r18_Sim K R (varianceKeyword v) (varianceKeyword v) := by
  unfold varianceKeyword
  r18_walk []

theorem r18_typeParamStrings_sim (P : r18_Prims K R api api' safe) :
    (tps : List TypeParam) → r18_Sim K R (typeParamStrings E tps) (typeParamStrings E' tps)
  | [] => by unfold typeParamStrings; r18_walk []
  | tp :: tps => by
    have := r18_typeParamStrings_sim P tps
    unfold typeParamStrings
    r18_walk [r18_varianceKeyword_sim, r18_typeStr_sim]

theorem r18_innerClassesG_sim (render render' : Class → G String) (hr : ∀ c, r18_Sim K R (render c) (render' c)) :
    (cs : List Class) → r18_Sim K R (innerClassesG render cs) (innerClassesG render' cs)
  | [] => by unfold innerClassesG; r18_walk []
  | c :: cs => by
    have := r18_innerClassesG_sim render render' hr cs
    unfold innerClassesG
    r18_walk [hr]

theorem r18_superclassesG_sim (P : r18_Prims K R api api' safe) (inline inline' : String → G String)
    (hr : ∀ c, r18_Sim K R (inline c) (inline' c)) :
    (scs : List String) → r18_Sim K R (superclassesG E inline scs) (superclassesG E' inline' scs)
  | [] => by unfold superclassesG; r18_walk []
  | sc :: scs => by
    have := r18_superclassesG_sim P inline inline' hr scs
    unfold superclassesG
    r18_walk [hr]

theorem r18_internalSupersG_sim (inline inline' : String → G String) (hr : ∀ c, r18_Sim K R (inline c) (inline' c)) :
    (scs : List String) → r18_Sim K R (internalSupersG inline scs) (internalSupersG inline' scs)
  | [] => by unfold internalSupersG; r18_walk []
  | sc :: scs => by
    have := r18_internalSupersG_sim inline inline' hr scs
    unfold internalSupersG
    r18_walk [hr]

/-- what the class level needs in addition: resetting `classGenerics`, and the private-superclass
    lookup of the first environment is reproduced by the second -/
structure r18_PrimsC (K : St → Prop) (R : St → St → Prop) (api api' : API) (safe : Bool) : Prop where
  prims : r18_Prims K R api api' safe
  setCG : ∀ g : List String, r18_Sim K R (modify fun s => { s with classGenerics := g })
    (modify fun s => { s with classGenerics := g })
  getClass : ∀ q c, getClassInPackage ⟨api, safe⟩ q = .ok c → getClassInPackage ⟨api', safe⟩ q = .ok c

mutual
theorem r18_createClassString_sim (PC : r18_PrimsC K R api api' safe) :
    (n n' : Nat) → n ≤ n' → (c : Class) → (indent : String) → (b : Bool) →
    r18_Sim K R (createClassString E n c indent b) (createClassString E' n' c indent b)
  | 0, _, _, _, _, _ => by unfold createClassString; exact r18_Sim.throw _ _
  | n + 1, 0, h, _, _, _ => by omega
  | n + 1, n' + 1, h, c, indent, b => by
    have P := PC.prims
    have hcg := PC.setCG
    have h1 := fun c i b => r18_createClassString_sim PC n n' (by omega) c i b
    have h2 := fun sc i ad => r18_createInternalClassString_sim PC n n' (by omega) sc i ad
    unfold createClassString
    -- everything after the early `return ""` is a join point on either side: simulated once, then kept opaque
    extract_lets inner ctv camel pyName ctorParams doc rest camel' pyName' doc' rest'
    have hrest : ∀ u, r18_Sim K R (rest u) (rest' u) := by
      intro u
      r18_walk [r18_createParameterString_sim, r18_typeParamStrings_sim,
        r18_createClassAttributeString_sim, r18_innerClassesG_sim, r18_createClassMethodString_sim,
        r18_superclassesG_sim, hcg, h1, h2]
    clear_value rest rest'
    r18_walk [hrest]
theorem r18_createInternalClassString_sim (PC : r18_PrimsC K R api api' safe) :
    (n n' : Nat) → n ≤ n' → (sc : String) → (inner : String) → (ad : List String) →
    r18_Sim K R (createInternalClassString E n sc inner ad) (createInternalClassString E' n' sc inner ad)
  | 0, _, _, _, _, _ => by unfold createInternalClassString; exact r18_Sim.throw _ _
  | n + 1, 0, h, _, _, _ => by omega
  | n + 1, n' + 1, h, sc, inner, ad => by
    have P := PC.prims
    have h1 := fun c i b => r18_createClassString_sim PC n n' (by omega) c i b
    have h2 := fun sc i ad => r18_createInternalClassString_sim PC n n' (by omega) sc i ad
    unfold createInternalClassString
    apply r18_Sim.bind
    · cases hq : getClassInPackage E sc with
      | error e => exact r18_Sim.throw _ _
      | ok c =>
        rw [PC.getClass sc c hq]
        exact r18_Sim.pure _
    r18_walk [r18_createClassMethodString_sim, r18_innerClassesG_sim, r18_internalSupersG_sim, h1, h2]
end

theorem r18_createFunctions_sim (P : r18_Prims K R api api' safe) (inRe : Bool) :
    (fs : List Function) → r18_Sim K R (createFunctions E inRe fs) (createFunctions E' inRe fs)
  | [] => by unfold createFunctions; r18_walk []
  | f :: fs => by
    have := r18_createFunctions_sim P inRe fs
    unfold createFunctions
    r18_walk [r18_createFunctionString_sim]

theorem r18_createClasses_sim (PC : r18_PrimsC K R api api' safe) (hfuel : classFuel E ≤ classFuel E') (inRe : Bool) :
    (cs : List Class) → r18_Sim K R (createClasses E inRe cs) (createClasses E' inRe cs)
  | [] => by unfold createClasses; r18_walk []
  | c :: cs => by
    have := r18_createClasses_sim PC hfuel inRe cs
    have h1 := fun c i b => r18_createClassString_sim PC _ _ hfuel c i b
    unfold createClasses
    r18_walk [h1]

end Generic


/-! ### instance 1: `R = Eq`, two environments -/

/-- guard: every class recorded as "outside the package" satisfies `Out` -/
def r18_OutIn (Out : String → Prop) (s : St) : Prop := ∀ q ∈ s.outside, Out q

theorem r18_resolve_none {api : API} {q : String} (h : (r18_resolve api q).2 = false) :
    r18_resolve api q = ("", false) := by
  unfold r18_resolve at h ⊢
  split
  · rename_i id hid
    rw [hid] at h
    simp at h
  · rfl

theorem r18_addSt_congr {api api' : API} {q : String} (s : St) (h : r18_resolve api' q = r18_resolve api q) :
    r18_addSt api' q s = r18_addSt api q s := by
  unfold r18_addSt r18_addsImport r18_addsOutside r18_impName
  rw [h]

theorem r18_addSt_outside_mono (api : API) (q : String) (s : St) (x : String) (hx : x ∈ s.outside) :
    x ∈ (r18_addSt api q s).outside :=
  (r18_mem_insOpt _ _ _).2 (Or.inl hx)

section EqInst
variable {Out : String → Prop} {api api' : API} {safe : Bool}

local notation "E" => (Env.mk api safe)
local notation "E'" => (Env.mk api' safe)
local notation "KO" => r18_OutIn Out

theorem r18_same_modify {g : St → St} (hb : ∀ s, (g s).outside = s.outside) :
    r18_Sim KO Eq (modify g : G PUnit) (modify g : G PUnit) :=
  r18_Sim.of_fun (fun s h => by unfold r18_OutIn at h ⊢; rw [hb] at h; exact h) (fun s s' h => by rw [h])

theorem r18_eq_addImp (hres : ∀ q, (r18_resolve api q).2 = true ∨ Out q → r18_resolve api' q = r18_resolve api q)
    (q : String) : r18_Sim KO Eq (addToImports E q) (addToImports E' q) := by
  refine ⟨fun st a s1 h hK => ?_, fun st st' a s1 hR h hK => ?_⟩
  · obtain ⟨_, rfl⟩ := (r18_addToImports_ok _ _ _ _ _).1 h
    intro x hx
    exact hK x (r18_addSt_outside_mono _ _ _ x hx)
  · subst hR
    obtain ⟨hq, hs⟩ := (r18_addToImports_ok _ _ _ _ _).1 h
    refine ⟨s1, ?_, rfl⟩
    rw [r18_addToImports_ok]
    refine ⟨hq, ?_⟩
    rw [hs]
    dsimp only
    by_cases hsk : r18_skip st q = true
    · simp only [r18_addSt, r18_addsImport, r18_addsOutside, hsk, Bool.not_true, Bool.false_and, Bool.false_eq_true,
        if_false]
    · have hsk' : r18_skip st q = false := by simpa using hsk
      refine (r18_addSt_congr st (hres q ?_)).symm
      cases hr : (r18_resolve api q).2
      · right
        have h1 : r18_impName api q = q := by
          unfold r18_impName
          rw [r18_resolve_none hr]
          rfl
        have h2 : r18_addsOutside api st q = true := by
          unfold r18_addsOutside
          rw [hsk', hr]; rfl
        apply hK
        rw [hs]
        refine (r18_mem_insOpt _ _ _).2 (Or.inr ?_)
        rw [if_pos h2, h1]
      · left; rfl

theorem r18_eq_named (hres : ∀ q, (r18_resolve api q).2 = true ∨ Out q → r18_resolve api' q = r18_resolve api q)
    (name qname : String) : r18_Sim KO Eq (r18_namedBody E name qname) (r18_namedBody E' name qname) := by
  unfold r18_namedBody
  refine r18_Sim.bind (r18_eq_addImp hres qname) (fun _ => ?_)
  split
  · exact r18_Sim.throw _ _
  · refine r18_Sim.get_bind (Or.inl fun _ => rfl) (fun s s' hR => ?_)
    subst hR
    dsimp only
    split
    · exact r18_Sim.bind (r18_same_modify (fun _ => rfl)) (fun _ => r18_Sim.pure _)
    · exact r18_Sim.pure _

theorem r18_eq_prims (hres : ∀ q, (r18_resolve api q).2 = true ∨ Out q → r18_resolve api' q = r18_resolve api q) :
    r18_Prims KO Eq api api' safe where
  addTodo := fun _ => r18_same_modify (fun _ => rfl)
  logEmit := fun _ _ => r18_same_modify (fun _ => rfl)
  addImp := r18_eq_addImp hres
  named := r18_eq_named hres
  hasNode := fun n r node => r18_Sim.same (fun st a s1 h hK => by
    obtain ⟨_, rs, h2⟩ := hasNodeShorterReexport_wp n r node st a s1 h
    rw [h2] at hK
    exact hK)
  todoMsg := fun i => r18_Sim.same (fun st a s1 h hK => by
    obtain ⟨_, h2⟩ := createTodoMsg_wp i st a s1 h
    rw [h2] at hK
    exact hK)
  cgEq := fun s s' h => by rw [h]
  kr := Or.inl fun _ => rfl

theorem r18_eq_primsC (hres : ∀ q, (r18_resolve api q).2 = true ∨ Out q → r18_resolve api' q = r18_resolve api q)
    (hgc : ∀ q c, getClassInPackage E q = .ok c → getClassInPackage E' q = .ok c) :
    r18_PrimsC KO Eq api api' safe where
  prims := r18_eq_prims hres
  setCG := fun _ => r18_same_modify (fun _ => rfl)
  getClass := hgc

theorem r18_eq_createModuleString (hrm : api'.reexportMap = api.reexportMap)
    (hres : ∀ q, (r18_resolve api q).2 = true ∨ Out q → r18_resolve api' q = r18_resolve api q)
    (hgc : ∀ q c, getClassInPackage E q = .ok c → getClassInPackage E' q = .ok c)
    (hfuel : classFuel E ≤ classFuel E') (m : Module) :
    r18_Sim KO Eq (createModuleString E m) (createModuleString E' m) := by
  have PC := r18_eq_primsC hres hgc
  have P := PC.prims
  have h1 := r18_createFunctions_sim P
  have h2 := r18_createClasses_sim PC hfuel
  have h3 : ∀ l : List LogEntry, r18_Sim KO Eq (modify fun s => { s with log := s.log ++ l } : G PUnit)
      (modify fun s => { s with log := s.log ++ l }) := fun l => r18_same_modify (fun _ => rfl)
  have h4 : r18_Sim KO Eq (createImportsString E) (createImportsString E') := by
    have : createImportsString E' = createImportsString E := by unfold createImportsString; rfl
    rw [this]
    refine r18_Sim.same (fun st a s1 h hK => ?_)
    rw [p08_createImportsString_eq] at h
    simp only [Except.ok.injEq, Prod.mk.injEq] at h
    rw [h.2]; exact hK
  have e1 : ∀ p, packageHeader E' p = packageHeader E p := fun _ => rfl
  have e2 : ∀ e, createEnumString E' e = createEnumString E e := fun _ => rfl
  unfold createModuleString
  dsimp only
  simp only [e1, e2]
  rw [hrm]
  r18_walk [h1, h2, h3]

theorem r18_eq_callGenerator (hrm : api'.reexportMap = api.reexportMap)
    (hres : ∀ q, (r18_resolve api q).2 = true ∨ Out q → r18_resolve api' q = r18_resolve api q)
    (hgc : ∀ q c, getClassInPackage E q = .ok c → getClassInPackage E' q = .ok c)
    (hfuel : classFuel E ≤ classFuel E') (m : Module) :
    r18_Sim KO Eq (callGenerator E m) (callGenerator E' m) := by
  have P := r18_eq_prims (safe := safe) hres
  have h1 := r18_eq_createModuleString hrm hres hgc hfuel m
  have h2 : ∀ id, r18_Sim KO Eq (setModuleId id) (setModuleId id) := fun id => by
    unfold setModuleId
    exact r18_same_modify (fun s => by split <;> rfl)
  have h3 : r18_Sim KO Eq
      (modify fun s => { s with reexportModuleId := "", classGenerics := [], imports := [], todos := [] } : G PUnit)
      (modify fun s => { s with reexportModuleId := "", classGenerics := [], imports := [], todos := [] }) :=
    r18_same_modify (fun _ => rfl)
  unfold callGenerator
  r18_walk [h2]

end EqInst

/-! ### instance 2: one environment, two states that differ in the contents of `imports`/`outside` -/

theorem r18_skip_congr {s t : St} (h : s.moduleId = t.moduleId) (q : String) : r18_skip s q = r18_skip t q := by
  unfold r18_skip
  rw [h]

theorem r18_addsImport_congr (api : API) {s t : St} (h1 : s.moduleId = t.moduleId)
    (h2 : s.reexportModuleId = t.reexportModuleId) (h3 : s.creatingReexport = t.creatingReexport) (q : String) :
    r18_addsImport api s q = r18_addsImport api t q := by
  unfold r18_addsImport
  rw [r18_skip_congr h1, r18_getModuleId_congr h1 h2 h3]

theorem r18_addsOutside_congr (api : API) {s t : St} (h1 : s.moduleId = t.moduleId) (q : String) :
    r18_addsOutside api s q = r18_addsOutside api t q := by
  unfold r18_addsOutside
  rw [r18_skip_congr h1]

/-- `s` (first run) and `s'` (second run) agree on everything the generator reads except the contents
    of `imports`/`outside`; both keep the module ids of their base states `b`, `b'`; their
    `imports`/`outside` have grown from the bases by the same names; with `fr`, `classGenerics` is
    untouched. -/
structure r18_Rel (fr : Bool) (b b' s s' : St) : Prop where
  todos : s.todos = s'.todos
  cg : s.classGenerics = s'.classGenerics
  cgb : fr = true → s.classGenerics = b.classGenerics
  mid : s.moduleId = b.moduleId
  rmid : s.reexportModuleId = b.reexportModuleId
  cr : s.creatingReexport = b.creatingReexport
  mid' : s'.moduleId = b'.moduleId
  rmid' : s'.reexportModuleId = b'.reexportModuleId
  cr' : s'.creatingReexport = b'.creatingReexport
  grow : ∃ I O : List String,
    (∀ q, q ∈ s.imports ↔ q ∈ b.imports ∨ q ∈ I) ∧ (∀ q, q ∈ s'.imports ↔ q ∈ b'.imports ∨ q ∈ I) ∧
    (∀ q, q ∈ s.outside ↔ q ∈ b.outside ∨ q ∈ O) ∧ (∀ q, q ∈ s'.outside ↔ q ∈ b'.outside ∨ q ∈ O)
  nodup : b.imports.Nodup → s.imports.Nodup
  nodup' : b'.imports.Nodup → s'.imports.Nodup

/-- the bases agree on the module ids -/
structure r18_Base (b b' : St) : Prop where
  mid : b.moduleId = b'.moduleId
  rmid : b.reexportModuleId = b'.reexportModuleId
  cr : b.creatingReexport = b'.creatingReexport

theorem r18_Rel.init {fr : Bool} {b b' : St} (h1 : b.todos = b'.todos) (h2 : b.classGenerics = b'.classGenerics) :
    r18_Rel fr b b' b b' :=
  ⟨h1, h2, fun _ => rfl, rfl, rfl, rfl, rfl, rfl, rfl, ⟨[], [], by simp, by simp, by simp, by simp⟩, id, id⟩

/-- one step: the new states `t`, `t'` arise by adding the same names -/
theorem r18_Rel.step {fr : Bool} {b b' s s' t t' : St} (h : r18_Rel fr b b' s s')
    (e1 : t.todos = t'.todos) (e2 : t.classGenerics = t'.classGenerics)
    (e2b : fr = true → t.classGenerics = s.classGenerics)
    (e3 : t.moduleId = s.moduleId) (e4 : t.reexportModuleId = s.reexportModuleId)
    (e5 : t.creatingReexport = s.creatingReexport)
    (e3' : t'.moduleId = s'.moduleId) (e4' : t'.reexportModuleId = s'.reexportModuleId)
    (e5' : t'.creatingReexport = s'.creatingReexport)
    (oi oo : Option String)
    (e6 : t.imports = r18_insOpt oi s.imports) (e6' : t'.imports = r18_insOpt oi s'.imports)
    (e7 : t.outside = r18_insOpt oo s.outside) (e7' : t'.outside = r18_insOpt oo s'.outside) :
    r18_Rel fr b b' t t' := by
  obtain ⟨I, O, g1, g2, g3, g4⟩ := h.grow
  refine ⟨e1, e2, fun hf => (e2b hf).trans (h.cgb hf), e3.trans h.mid, e4.trans h.rmid, e5.trans h.cr,
    e3'.trans h.mid', e4'.trans h.rmid', e5'.trans h.cr',
    ⟨I ++ oi.toList, O ++ oo.toList, ?_, ?_, ?_, ?_⟩, ?_, ?_⟩
  · intro q; rw [e6, r18_mem_insOpt, g1, List.mem_append, Option.mem_toList, or_assoc]
  · intro q; rw [e6', r18_mem_insOpt, g2, List.mem_append, Option.mem_toList, or_assoc]
  · intro q; rw [e7, r18_mem_insOpt, g3, List.mem_append, Option.mem_toList, or_assoc]
  · intro q; rw [e7', r18_mem_insOpt, g4, List.mem_append, Option.mem_toList, or_assoc]
  · intro hn; rw [e6]; exact r18_nodup_insOpt _ _ (h.nodup hn)
  · intro hn; rw [e6']; exact r18_nodup_insOpt _ _ (h.nodup' hn)

/-- a step that touches neither `imports` nor `outside` -/
theorem r18_Rel.step0 {fr : Bool} {b b' s s' t t' : St} (h : r18_Rel fr b b' s s')
    (e1 : t.todos = t'.todos) (e2 : t.classGenerics = t'.classGenerics)
    (e2b : fr = true → t.classGenerics = s.classGenerics)
    (e3 : t.moduleId = s.moduleId) (e4 : t.reexportModuleId = s.reexportModuleId)
    (e5 : t.creatingReexport = s.creatingReexport)
    (e3' : t'.moduleId = s'.moduleId) (e4' : t'.reexportModuleId = s'.reexportModuleId)
    (e5' : t'.creatingReexport = s'.creatingReexport)
    (e6 : t.imports = s.imports) (e6' : t'.imports = s'.imports)
    (e7 : t.outside = s.outside) (e7' : t'.outside = s'.outside) : r18_Rel fr b b' t t' :=
  h.step e1 e2 e2b e3 e4 e5 e3' e4' e5' none none e6 e6' e7 e7'

section RelInst
variable {fr : Bool} {b b' : St} {api : API} {safe : Bool}

local notation "E" => (Env.mk api safe)
local notation "KT" => (fun _ : St => True)

/-- the two runs agree on the module ids, as their bases do -/
theorem r18_Rel.base (hb : r18_Base b b') {s s' : St} (h : r18_Rel fr b b' s s') : r18_Base s s' :=
  ⟨h.mid.trans (hb.mid.trans h.mid'.symm), h.rmid.trans (hb.rmid.trans h.rmid'.symm),
    h.cr.trans (hb.cr.trans h.cr'.symm)⟩

theorem r18_Rel.getModuleId (hb : r18_Base b b') {s s' : St} (h : r18_Rel fr b b' s s') :
    getModuleId s = getModuleId s' :=
  r18_getModuleId_congr (h.base hb).mid (h.base hb).rmid (h.base hb).cr

theorem r18_Rel.addSt (hb : r18_Base b b') {s s' : St} (h : r18_Rel fr b b' s s') (q : String) :
    r18_Rel fr b b' (r18_addSt api q s) (r18_addSt api q s') := by
  have i := h.base hb
  have c1 : r18_addsImport api s' q = r18_addsImport api s q := (r18_addsImport_congr api i.mid i.rmid i.cr q).symm
  have c2 : r18_addsOutside api s' q = r18_addsOutside api s q := (r18_addsOutside_congr api i.mid q).symm
  unfold r18_addSt
  rw [c1, c2]
  exact h.step h.todos h.cg (fun _ => rfl) rfl rfl rfl rfl rfl rfl _ _ rfl rfl rfl rfl

theorem r18_rel_modify {g : St → St} (hg : ∀ s s', r18_Rel fr b b' s s' → r18_Rel fr b b' (g s) (g s')) :
    r18_Sim KT (r18_Rel fr b b') (modify g : G PUnit) (modify g : G PUnit) :=
  r18_Sim.of_fun (fun _ _ => trivial) hg

theorem r18_Rel.addTodo {s s' : St} (h : r18_Rel fr b b' s s') (k : String) :
    r18_Rel fr b b' { s with todos := insertSet k s.todos } { s' with todos := insertSet k s'.todos } :=
  h.step0 (by show insertSet k s.todos = insertSet k s'.todos; rw [h.todos]) h.cg (fun _ => rfl)
    rfl rfl rfl rfl rfl rfl rfl rfl rfl rfl

theorem r18_rel_addTodo (k : String) : r18_Sim KT (r18_Rel fr b b') (addTodo k) (addTodo k) := by
  unfold addTodo
  exact r18_rel_modify fun _ _ h => h.addTodo k

theorem r18_rel_logEmit (k i : String) : r18_Sim KT (r18_Rel fr b b') (logEmit k i) (logEmit k i) := by
  unfold logEmit
  refine r18_rel_modify (fun s s' h => ?_)
  exact h.step0 h.todos h.cg (fun _ => rfl) rfl rfl rfl rfl rfl rfl rfl rfl rfl rfl

theorem r18_rel_addImp (hb : r18_Base b b') (q : String) :
    r18_Sim KT (r18_Rel fr b b') (addToImports E q) (addToImports E q) := by
  refine ⟨fun _ _ _ _ _ => trivial, fun st st' a s1 hR h _ => ?_⟩
  obtain ⟨hq, rfl⟩ := (r18_addToImports_ok _ _ _ _ _).1 h
  exact ⟨_, (r18_addToImports_ok _ _ _ _ _).2 ⟨hq, rfl⟩, hR.addSt hb q⟩

theorem r18_rel_todoMsg (i : String) : r18_Sim KT (r18_Rel fr b b') (createTodoMsg i) (createTodoMsg i) := by
  refine ⟨fun _ _ _ _ _ => trivial, fun st st' a s1 hR h _ => ?_⟩
  obtain ⟨h1, h2⟩ := (createTodoMsg_ok i st (a, s1)).1 h
  simp only [Prod.mk.injEq] at h2
  obtain ⟨rfl, rfl⟩ := h2
  refine ⟨{ st' with todos := [] }, ?_, ?_⟩
  · rw [createTodoMsg_ok]
    refine ⟨by rw [← hR.todos]; exact h1, by rw [hR.todos]⟩
  · exact hR.step0 rfl hR.cg (fun _ => rfl) rfl rfl rfl rfl rfl rfl rfl rfl rfl rfl

theorem r18_rel_hasNode (hb : r18_Base b b') (n : String) (r : List ModRef) (node : Node) :
    r18_Sim KT (r18_Rel fr b b') (hasNodeShorterReexport n r node) (hasNodeShorterReexport n r node) := by
  unfold hasNodeShorterReexport
  refine r18_Sim.get_bind (Or.inr fun _ => trivial) (fun s s' hR => ?_)
  rw [hR.getModuleId hb]
  dsimp only
  split
  · split
    · refine r18_Sim.bind (r18_Sim.set ?_) (fun _ => r18_Sim.pure _)
      exact hR.step0 hR.todos hR.cg (fun _ => rfl) rfl rfl rfl rfl rfl rfl rfl rfl rfl rfl
    · exact r18_Sim.pure _
  · exact r18_Sim.pure _

/-- a reference to `q` from the base state imports `q` under that very name -/
def r18_selfIns (api : API) (s : St) (q : String) : Prop :=
  r18_addsImport api s q = true ∧ r18_impName api q = q

theorem r18_rel_named (hb : r18_Base b b')
    (H : ∀ q, (q ∈ b.imports ↔ q ∈ b'.imports) ∨ r18_selfIns api b q) (name qname : String) :
    r18_Sim KT (r18_Rel fr b b') (r18_namedBody E name qname) (r18_namedBody E name qname) := by
  unfold r18_namedBody
  refine r18_Sim.bind_and (Q := fun s s' => qname ∈ s.imports ↔ qname ∈ s'.imports) (r18_rel_addImp hb qname)
    (fun st st' a s1 s1' hR h1 h1' => ?_) (fun _ => ?_)
  · obtain ⟨_, rfl⟩ := (r18_addToImports_ok _ _ _ _ _).1 h1
    obtain ⟨_, rfl⟩ := (r18_addToImports_ok _ _ _ _ _).1 h1'
    rcases H qname with hH | ⟨hs1, hs2⟩
    · obtain ⟨I, O, g1, g2, _, _⟩ := (hR.addSt hb qname).grow
      rw [g1, g2, hH]
    · have a1 : r18_addsImport api st qname = true := by
        rw [r18_addsImport_congr api hR.mid hR.rmid hR.cr]; exact hs1
      have a2 : r18_addsImport api st' qname = true := by
        rw [r18_addsImport_congr api (hR.mid'.trans hb.mid.symm) (hR.rmid'.trans hb.rmid.symm)
          (hR.cr'.trans hb.cr.symm)]; exact hs1
      unfold r18_addSt
      dsimp only
      rw [a1, a2, hs2]
      simp [r18_mem_insOpt]
  · split
    · exact r18_Sim.throw _ _
    · refine r18_Sim.get_bind (Or.inr fun _ => trivial) (fun s s' hR => ?_)
      have hc : s.imports.contains qname = s'.imports.contains qname := by
        rw [Bool.eq_iff_iff, List.contains_iff_mem, List.contains_iff_mem]
        exact hR.2
      rw [hc]
      dsimp only
      split
      · refine r18_Sim.bind ?_ (fun _ => r18_Sim.pure _)
        unfold addTodo
        exact r18_Sim.of_fun (fun _ _ => trivial) fun _ _ h => ⟨h.1.addTodo _, h.2⟩
      · exact r18_Sim.pure _

theorem r18_rel_prims (hb : r18_Base b b')
    (H : ∀ q, (q ∈ b.imports ↔ q ∈ b'.imports) ∨ r18_selfIns api b q) :
    r18_Prims KT (r18_Rel fr b b') api api safe where
  addTodo := r18_rel_addTodo
  logEmit := r18_rel_logEmit
  addImp := r18_rel_addImp hb
  named := r18_rel_named hb H
  hasNode := r18_rel_hasNode hb
  todoMsg := r18_rel_todoMsg
  cgEq := fun _ _ h => h.cg
  kr := Or.inr fun _ => trivial

theorem r18_rel_primsC (hb : r18_Base b b')
    (H : ∀ q, (q ∈ b.imports ↔ q ∈ b'.imports) ∨ r18_selfIns api b q) :
    r18_PrimsC KT (r18_Rel false b b') api api safe where
  prims := r18_rel_prims hb H
  setCG := fun g => r18_rel_modify (fun s s' h =>
    h.step0 h.todos rfl (fun hf => by cases hf) rfl rfl rfl rfl rfl rfl rfl rfl rfl rfl)
  getClass := fun _ _ h => h

end RelInst

/-! ### lists of declarations -/

def r18_wrap (s : String) : String := if s != "" then "\n" ++ s ++ "\n" else ""

/-- the common shape of `createFunctions` and `createClasses` -/
def r18_runList {α : Type} (step : α → G String) : List α → G String
  | [] => pure ""
  | a :: as => do
    let s ← step a
    let rest ← r18_runList step as
    pure (r18_wrap s ++ rest)

def r18_fnStep (env : Env) (inRe : Bool) (f : Function) : G String :=
  if f.isPublic then createFunctionString env f "" false inRe else pure ""

def r18_clsStep (env : Env) (inRe : Bool) (c : Class) : G String :=
  if c.isPublic && !c.inheritsFromException then createClassString env (classFuel env) c "" inRe else pure ""

theorem r18_createFunctions_eq (env : Env) (inRe : Bool) :
    (fs : List Function) → createFunctions env inRe fs = r18_runList (r18_fnStep env inRe) fs
  | [] => rfl
  | f :: fs => by
    unfold createFunctions r18_runList
    rw [r18_createFunctions_eq env inRe fs]
    rfl

theorem r18_createClasses_eq (env : Env) (inRe : Bool) :
    (cs : List Class) → createClasses env inRe cs = r18_runList (r18_clsStep env inRe) cs
  | [] => rfl
  | c :: cs => by
    unfold createClasses r18_runList
    rw [r18_createClasses_eq env inRe cs]
    rfl

/-- the block of one declaration, generated alone from the state `st` -/
def r18_blk {α : Type} (step : α → G String) (st : St) (a : α) : String :=
  match step a st with
  | .ok (s, _) => r18_wrap s
  | .error _ => ""

/-- the state after generating one declaration alone from the state `st` -/
def r18_after {α : Type} (step : α → G String) (st : St) (a : α) : St :=
  match step a st with
  | .ok (_, s) => s
  | .error _ => st

theorem r18_runList_sim {α : Type} {K : St → Prop} {R : St → St → Prop} {step step' : α → G String}
    (h : ∀ a, r18_Sim K R (step a) (step' a)) :
    (l : List α) → r18_Sim K R (r18_runList step l) (r18_runList step' l)
  | [] => r18_Sim.pure _
  | a :: l => by
    unfold r18_runList
    exact r18_Sim.bind (h a) (fun _ => r18_Sim.bind (r18_runList_sim h l) (fun _ => r18_Sim.pure _))

theorem r18_selfIns_congr (api : API) {s t : St} (h1 : s.moduleId = t.moduleId)
    (h2 : s.reexportModuleId = t.reexportModuleId) (h3 : s.creatingReexport = t.creatingReexport) (q : String) :
    r18_selfIns api s q ↔ r18_selfIns api t q := by
  unfold r18_selfIns
  rw [r18_addsImport_congr api h1 h2 h3]

section Lists
variable {α : Type} (step : α → G String) (api : API) (fr : Bool)

/-- what the list lemmas need of the step function (supplied by the generic walk over `r18_Rel`) -/
def r18_StepSim : Prop :=
  ∀ b b' : St, r18_Base b b' → (∀ q, (q ∈ b.imports ↔ q ∈ b'.imports) ∨ r18_selfIns api b q) →
    ∀ a, r18_Sim (fun _ => True) (r18_Rel fr b b') (step a) (step a)

/-- states reachable while generating the list from `st`: nothing pending, same ids and generics as
    `st`, imports between those of `st` and the final set `A` -/
structure r18_Near (st : St) (A : List String) (u : St) : Prop where
  todos : u.todos = []
  cg : u.classGenerics = st.classGenerics
  mid : u.moduleId = st.moduleId
  rmid : u.reexportModuleId = st.reexportModuleId
  cr : u.creatingReexport = st.creatingReexport
  sub : ∀ q ∈ st.imports, q ∈ u.imports
  subO : ∀ q ∈ st.outside, q ∈ u.outside
  inA : ∀ q ∈ u.imports, q ∈ A

def r18_Good (st : St) (A : List String) (a : α) : Prop :=
  ∃ t s1, step a st = .ok (t, s1) ∧ (∀ q ∈ s1.imports, q ∈ A) ∧ s1.classGenerics = st.classGenerics

variable {step api fr}

theorem r18_Near.base {st u : St} {A : List String} (h : r18_Near st A u) : r18_Base st u :=
  ⟨h.mid.symm, h.rmid.symm, h.cr.symm⟩

theorem r18_Near.H {st u : St} {A : List String} (h : r18_Near st A u)
    (hself : ∀ q ∈ A, q ∈ st.imports ∨ r18_selfIns api st q) :
    ∀ q, (q ∈ st.imports ↔ q ∈ u.imports) ∨ r18_selfIns api st q := by
  intro q
  by_cases hq : q ∈ u.imports
  · rcases hself q (h.inA q hq) with h1 | h1
    · exact Or.inl ⟨fun _ => hq, fun _ => h1⟩
    · exact Or.inr h1
  · exact Or.inl ⟨fun h1 => absurd (h.sub q h1) hq, fun h1 => absurd h1 hq⟩

theorem r18_Near.H' {st u : St} {A : List String} (h : r18_Near st A u)
    (hself : ∀ q ∈ A, q ∈ st.imports ∨ r18_selfIns api st q) :
    ∀ q, (q ∈ u.imports ↔ q ∈ st.imports) ∨ r18_selfIns api u q := by
  intro q
  rcases h.H hself q with h1 | h1
  · exact Or.inl h1.symm
  · exact Or.inr ((r18_selfIns_congr api h.mid h.rmid h.cr q).2 h1)

/-- imports and the set of outside classes only grow along anything that simulates itself -/
theorem r18_mono_of_sim {β : Type} {x : G β} {u u1 : St} {t : β}
    (hs : r18_Sim (fun _ => True) (r18_Rel fr u u) x x) (h : x u = .ok (t, u1)) :
    (∀ q ∈ u.imports, q ∈ u1.imports) ∧ (∀ q ∈ u.outside, q ∈ u1.outside) := by
  obtain ⟨s1', h', hR⟩ := hs.sim u u t u1 (r18_Rel.init rfl rfl) h trivial
  obtain ⟨I, O, g1, _, g3, _⟩ := hR.grow
  exact ⟨fun q hq => (g1 q).2 (Or.inl hq), fun q hq => (g3 q).2 (Or.inl hq)⟩

/-- … and with `fr`, `classGenerics` stays -/
theorem r18_cg_of_sim {β : Type} {x : G β} {u u1 : St} {t : β}
    (hs : r18_Sim (fun _ => True) (r18_Rel true u u) x x) (h : x u = .ok (t, u1)) :
    u1.classGenerics = u.classGenerics := by
  obtain ⟨_, _, hR⟩ := hs.sim u u t u1 (r18_Rel.init rfl rfl) h trivial
  exact hR.cgb rfl

theorem r18_runList_mono (hS : r18_StepSim step api fr) (l : List α) (u : St) (t : String) (u1 : St)
    (h : r18_runList step l u = .ok (t, u1)) :
    (∀ q ∈ u.imports, q ∈ u1.imports) ∧ (∀ q ∈ u.outside, q ∈ u1.outside) :=
  r18_mono_of_sim (r18_runList_sim (hS u u ⟨rfl, rfl, rfl⟩ (fun _ => Or.inl Iff.rfl)) l) h

theorem r18_step_mono (hS : r18_StepSim step api fr) (a : α) (u : St) (t : String) (u1 : St)
    (h : step a u = .ok (t, u1)) :
    (∀ q ∈ u.imports, q ∈ u1.imports) ∧ (∀ q ∈ u.outside, q ∈ u1.outside) :=
  r18_mono_of_sim (hS u u ⟨rfl, rfl, rfl⟩ (fun _ => Or.inl Iff.rfl) a) h

/-- Lemma B: every declaration of a successful run can also be generated alone from the initial state -/
theorem r18_good_of_run (hS : r18_StepSim step api fr) (hK : ∀ a, Keeps (step a)) {st : St} {A : List String}
    (hst : st.todos = []) (hself : ∀ q ∈ A, q ∈ st.imports ∨ r18_selfIns api st q) :
    (fs : List α) → (∀ f ∈ fs, ∀ t s, step f st = .ok (t, s) → s.classGenerics = st.classGenerics) →
    ∀ (u : St), r18_Near st A u → ∀ (t : String) (u1 : St), r18_runList step fs u = .ok (t, u1) →
    (∀ q ∈ u1.imports, q ∈ A) → ∀ f ∈ fs, r18_Good step st A f
  | [], _, _, _, _, _, _, _ => by simp
  | f :: fs, hcg, u, hn, t, u1, h, hA => by
    unfold r18_runList at h
    obtain ⟨tf, uf, h1, h2⟩ := se_bind_ok h
    obtain ⟨rest, u1', h3, h4⟩ := se_bind_ok h2
    obtain ⟨_, hu⟩ := se_pure_ok h4
    subst hu
    have hmono := r18_runList_mono hS fs uf rest u1 h3
    have hmono1 := r18_step_mono hS f u tf uf h1
    -- transfer the step to the initial state
    obtain ⟨sf, h1', hR⟩ := (hS u st ⟨hn.mid, hn.rmid, hn.cr⟩ (hn.H' hself) f).sim u st tf uf
      (r18_Rel.init (by rw [hn.todos, hst]) hn.cg) h1 trivial
    obtain ⟨I, O, g1, g2, g3, g4⟩ := hR.grow
    have hsfcg : sf.classGenerics = st.classGenerics := hcg f (by simp) tf sf h1'
    have hsfA : ∀ q ∈ sf.imports, q ∈ A := by
      intro q hq
      rcases (g2 q).1 hq with h' | h'
      · exact hn.inA q (hn.sub q h')
      · exact hA q (hmono.1 q ((g1 q).2 (Or.inr h')))
    have hgood : r18_Good step st A f := ⟨tf, sf, h1', hsfA, hsfcg⟩
    have hnf : r18_Near st A uf :=
      ⟨hK f u hn.todos tf uf h1, (hR.cg.trans hsfcg), hR.mid.trans hn.mid, hR.rmid.trans hn.rmid,
        hR.cr.trans hn.cr, fun q hq => hmono1.1 q (hn.sub q hq), fun q hq => hmono1.2 q (hn.subO q hq),
        fun q hq => hA q (hmono.1 q hq)⟩
    have ih := r18_good_of_run hS hK hst hself fs (fun f' hf' => hcg f' (by simp [hf'])) uf hnf rest u1 h3 hA
    intro f' hf'
    rcases List.mem_cons.1 hf' with rfl | hf'
    · exact hgood
    · exact ih f' hf'

theorem r18_or_shuffle {a s i g : Prop} (h : s → a) : (a ∨ i) ∨ g ↔ a ∨ (s ∨ i) ∨ g := by
  constructor
  · rintro ((h' | h') | h')
    exacts [Or.inl h', Or.inr (Or.inl (Or.inr h')), Or.inr (Or.inr h')]
  · rintro (h' | (h' | h') | h')
    exacts [Or.inl (Or.inl h'), Or.inl (Or.inl (h h')), Or.inl (Or.inr h'), Or.inr h']

/-- Lemma A: any list of declarations that can be generated alone from `st` can be generated in a row,
    each with the block it has alone -/
theorem r18_run_of_good (hS : r18_StepSim step api fr) (hK : ∀ a, Keeps (step a)) {st : St} {A : List String}
    (hst : st.todos = []) (hself : ∀ q ∈ A, q ∈ st.imports ∨ r18_selfIns api st q) :
    (gs : List α) → (∀ g ∈ gs, r18_Good step st A g) → ∀ (u : St), r18_Near st A u →
    ∃ u1, r18_runList step gs u = .ok (String.join (gs.map (r18_blk step st)), u1) ∧ r18_Near st A u1 ∧
      (∀ q, q ∈ u1.imports ↔ q ∈ u.imports ∨ ∃ g ∈ gs, q ∈ (r18_after step st g).imports) ∧
      (∀ q, q ∈ u1.outside ↔ q ∈ u.outside ∨ ∃ g ∈ gs, q ∈ (r18_after step st g).outside) ∧
      (st.imports.Nodup → u.imports.Nodup → u1.imports.Nodup)
  | [], _, u, hn => ⟨u, rfl, hn, by simp, by simp, fun _ h => h⟩
  | g :: gs, hg, u, hn => by
    obtain ⟨tg, sg, h1, hsgA, hsgcg⟩ := hg g (by simp)
    obtain ⟨ug, h1', hR⟩ := (hS st u hn.base (hn.H hself) g).sim st u tg sg
      (r18_Rel.init (by rw [hn.todos, hst]) hn.cg.symm) h1 trivial
    obtain ⟨I, O, g1, g2, g3, g4⟩ := hR.grow
    have hmono1 := r18_step_mono hS g u tg ug h1'
    have hng : r18_Near st A ug :=
      ⟨hK g u hn.todos tg ug h1', (hR.cg.symm.trans hsgcg), hR.mid'.trans hn.mid, hR.rmid'.trans hn.rmid,
        hR.cr'.trans hn.cr, fun q hq => hmono1.1 q (hn.sub q hq), fun q hq => hmono1.2 q (hn.subO q hq),
        fun q hq => by
          rcases (g2 q).1 hq with h' | h'
          · exact hn.inA q h'
          · exact hsgA q ((g1 q).2 (Or.inr h'))⟩
    obtain ⟨u1, h2, hn1, i1, o1, nd1⟩ := r18_run_of_good hS hK hst hself gs (fun g' hg' => hg g' (by simp [hg'])) ug hng
    have hblk : r18_blk step st g = r18_wrap tg := by unfold r18_blk; rw [h1]
    have haft : r18_after step st g = sg := by unfold r18_after; rw [h1]
    refine ⟨u1, ?_, hn1, ?_, ?_, ?_⟩
    · unfold r18_runList
      rw [bind_apply, h1']
      dsimp only
      rw [bind_apply, h2]
      rw [List.map_cons, String.join_cons, hblk]
      rfl
    · intro q
      rw [i1 q, g2 q]
      simp only [List.mem_cons, exists_eq_or_imp, haft]
      rw [g1 q]
      exact r18_or_shuffle (hn.sub q)
    · intro q
      rw [o1 q, g4 q]
      simp only [List.mem_cons, exists_eq_or_imp, haft]
      rw [g3 q]
      exact r18_or_shuffle (hn.subO q)
    · intro hnd hu
      exact nd1 hnd (hR.nodup' hu)

/-- permutation of a list of declarations: the same blocks in the new order, the same sets of
    imports and outside classes -/
theorem r18_runList_perm (hS : r18_StepSim step api fr) (hK : ∀ a, Keeps (step a)) {st : St}
    (hst : st.todos = []) {fs fs' : List α} (hp : fs ~ fs') {t : String} {s1 : St}
    (hrun : r18_runList step fs st = .ok (t, s1))
    (hself : ∀ q ∈ s1.imports, q ∈ st.imports ∨ r18_selfIns api st q)
    (hcg : ∀ f ∈ fs, ∀ t s, step f st = .ok (t, s) → s.classGenerics = st.classGenerics) :
    t = String.join (fs.map (r18_blk step st)) ∧
    ∃ s1', r18_runList step fs' st = .ok (String.join (fs'.map (r18_blk step st)), s1') ∧
      (∀ q, q ∈ s1'.imports ↔ q ∈ s1.imports) ∧ (∀ q, q ∈ s1'.outside ↔ q ∈ s1.outside) ∧
      (st.imports.Nodup → s1.imports ~ s1'.imports) := by
  have hmono := r18_runList_mono hS fs st t s1 hrun
  have hn : r18_Near st s1.imports st := ⟨hst, rfl, rfl, rfl, rfl, fun _ h => h, fun _ h => h, hmono.1⟩
  have hgood := r18_good_of_run hS hK hst hself fs hcg st hn t s1 hrun (fun _ h => h)
  obtain ⟨u1, h1, _, i1, o1, nd1⟩ := r18_run_of_good hS hK hst hself fs hgood st hn
  rw [hrun] at h1
  simp only [Except.ok.injEq, Prod.mk.injEq] at h1
  obtain ⟨ht, hs⟩ := h1
  subst hs
  obtain ⟨u2, h2, _, i2, o2, nd2⟩ := r18_run_of_good hS hK hst hself fs'
    (fun g hg => hgood g (hp.mem_iff.2 hg)) st hn
  refine ⟨ht, u2, h2, ?_, ?_, ?_⟩
  · intro q
    rw [i1 q, i2 q]
    simp only [hp.mem_iff]
  · intro q
    rw [o1 q, o2 q]
    simp only [hp.mem_iff]
  · intro hnd
    refine (List.perm_ext_iff_of_nodup (nd1 hnd hnd) (nd2 hnd hnd)).2 ?_
    intro q
    rw [i1 q, i2 q]
    simp only [hp.mem_iff]

end Lists

/-! ### instances of the list lemmas -/

theorem r18_fnStep_sim {api : API} {safe : Bool} (inRe : Bool) :
    r18_StepSim (r18_fnStep ⟨api, safe⟩ inRe) api true := by
  intro b b' hb H f
  unfold r18_fnStep
  split
  · exact r18_createFunctionString_sim (r18_rel_prims hb H) f "" false inRe
  · exact r18_Sim.pure _

theorem r18_clsStep_sim {api : API} {safe : Bool} (inRe : Bool) :
    r18_StepSim (r18_clsStep ⟨api, safe⟩ inRe) api false := by
  intro b b' hb H c
  unfold r18_clsStep
  split
  · exact r18_createClassString_sim (r18_rel_primsC hb H) _ _ (Nat.le_refl _) c "" inRe
  · exact r18_Sim.pure _

theorem r18_fnStep_keeps (env : Env) (inRe : Bool) (f : Function) : Keeps (r18_fnStep env inRe f) := by
  unfold r18_fnStep
  exact Keeps.ite (createFunctionString_keeps_mk env f "" false inRe) (Keeps.pure _)

theorem r18_clsStep_keeps (env : Env) (inRe : Bool) (c : Class) : Keeps (r18_clsStep env inRe c) := by
  unfold r18_clsStep
  exact Keeps.ite (createClassString_keeps_mk env _ c "" inRe) (Keeps.pure _)

/-- top-level functions leave `classGenerics` alone -/
theorem r18_fnStep_cg {api : API} {safe : Bool} (inRe : Bool) (f : Function) (st : St) (t : String) (s : St)
    (h : r18_fnStep ⟨api, safe⟩ inRe f st = .ok (t, s)) : s.classGenerics = st.classGenerics :=
  r18_cg_of_sim (r18_fnStep_sim inRe st st ⟨rfl, rfl, rfl⟩ (fun _ => Or.inl Iff.rfl) f) h

/-- parameter lists leave `classGenerics` alone -/
theorem r18_createParameterString_cg {api : API} {safe : Bool} (ps : List Parameter) (indent : String) (im : Bool)
    (st : St) (t : String) (s : St) (h : createParameterString ⟨api, safe⟩ ps indent im st = .ok (t, s)) :
    s.classGenerics = st.classGenerics :=
  r18_cg_of_sim (r18_createParameterString_sim (r18_rel_prims ⟨rfl, rfl, rfl⟩ (fun _ => Or.inl Iff.rfl)) ps indent im) h

/-- the class body puts the generics of the surrounding class back: whatever the type parameters, the
    members, the inner classes and the inlined private superclasses do to `classGenerics`, the last
    state change before the `endclass` entry restores the value read after the constructor parameters -/
theorem r18_classBody_restores_generics (env : Env) (fuel : Nat) (c : Class) (indent : String) (st : St) :
    wp (classBody env fuel c indent) (fun _ s => s.classGenerics = st.classGenerics) st := by
  obtain ⟨api, safe⟩ := env
  unfold classBody
  simp only [wp_bind, wp_logEmit]
  generalize hs0 : ({ st with log := st.log ++ [("class", c.id)] } : St) = s0
  have e0 : s0.classGenerics = st.classGenerics := by rw [← hs0]
  refine wp_conseq (Q := fun _ s1 => s1.classGenerics = st.classGenerics) ?_ ?_
  · rw [wp_ite]
    refine ⟨fun _ => wp_pure.2 e0, fun _ => ?_⟩
    rw [wp_bind]
    split
    · intro p s1 h1
      rw [wp_pure]
      exact (r18_createParameterString_cg _ _ _ _ _ _ h1).trans e0
    · simp only [wp_pure]
      exact e0
  intro ci s1 h1
  rw [wp_get, wp_modify]
  refine wp_conseq (wp_true _ _) ?_; intro vi s2 _
  refine wp_conseq (wp_true _ _) ?_; intro t1 s3 _
  refine wp_conseq (wp_true _ _) ?_; intro ⟨attrText, attrNames⟩ s4 _
  refine wp_conseq (wp_true _ _) ?_; intro innerText s5 _
  refine wp_conseq (wp_true _ _) ?_; intro ⟨methodText, methodNames⟩ s6 _
  refine wp_conseq (wp_true _ _) ?_; intro ⟨superInfo, superMethodsText, nNames⟩ s7 _
  simp only [wp_condTodo, wp_bind]
  refine wp_conseq (wp_true _ _) ?_; intro t2 s8 _
  simp only [wp_modify, wp_logEmit, wp_ite, wp_pure, h1]
  simp

/-- a successful run of `createClassString` ends with the `classGenerics` it started with (the early
    `moved` return does not touch them; the body restores them, so no induction on the fuel is needed) -/
theorem r18_createClassString_restores_generics (env : Env) (fuel : Nat) (c : Class) (indent : String) (inRe : Bool)
    (st : St) : wp (createClassString env fuel c indent inRe) (fun _ s => s.classGenerics = st.classGenerics) st := by
  cases fuel with
  | zero => rw [createClassString]; exact wp_throwG.2 trivial
  | succ fuel =>
    rw [createClassString_eq]
    simp only [wp_ite, wp_bind]
    refine ⟨fun _ => ?_, fun _ => r18_classBody_restores_generics env fuel c indent st⟩
    refine wp_conseq (hasNodeShorterReexport_wp _ _ _ st) ?_; intro b s1 ⟨_, rs, h2⟩
    have e1 : s1.classGenerics = st.classGenerics := by rw [h2]
    refine ⟨fun _ => ?_, fun _ => ?_⟩
    · simp only [wp_logEmit, wp_pure]
      exact e1
    · exact wp_conseq (r18_classBody_restores_generics env fuel c indent s1) fun _ _ h => h.trans e1

/-- top-level classes leave `classGenerics` as they found them -/
theorem r18_clsStep_cg (env : Env) (inRe : Bool) (c : Class) (st : St) (t : String) (s : St)
    (h : r18_clsStep env inRe c st = .ok (t, s)) : s.classGenerics = st.classGenerics := by
  unfold r18_clsStep at h
  split at h
  · exact r18_createClassString_restores_generics env _ c "" inRe st t s h
  · obtain ⟨_, rfl⟩ := se_pure_ok h
    rfl

/-- the block of a top-level function / class, generated alone from `st` -/
def r18_functionBlock (env : Env) (inRe : Bool) (st : St) (f : Function) : String :=
  r18_blk (r18_fnStep env inRe) st f
def r18_classBlock (env : Env) (inRe : Bool) (st : St) (c : Class) : String :=
  r18_blk (r18_clsStep env inRe) st c

/-! ### adding classes at the end of the class table -/

/-- the matching predicates of the two class lookups -/
def r18_connected (api : API) (q : String) (c : Class) : Bool :=
  isPathConnectedToClass api.reexportMap (replaceChar q '.' "/") c.id
def r18_exactMatch (q : String) (c : Class) : Bool := c.id == replaceChar q '.' "/"

theorem r18_resolve_append (api : API) (ms : List Module) (cs : List Class) (q : String)
    (h : (r18_resolve api q).2 = true ∨ ∀ c ∈ cs, r18_connected api q c = false) :
    r18_resolve { api with modules := ms, classes := api.classes ++ cs } q = r18_resolve api q := by
  have key : r18_importLookup { api with modules := ms, classes := api.classes ++ cs } (replaceChar q '.' "/")
      = r18_importLookup api (replaceChar q '.' "/") := by
    unfold r18_importLookup
    dsimp only
    rw [List.find?_append]
    rcases h with h | h
    · cases hf : find? (fun c => isPathConnectedToClass api.reexportMap (replaceChar q '.' "/") c.id) api.classes with
      | some c => rfl
      | none =>
        exfalso
        unfold r18_resolve r18_importLookup at h
        rw [hf] at h
        simp at h
    · have : find? (fun c => isPathConnectedToClass api.reexportMap (replaceChar q '.' "/") c.id) cs = none := by
        rw [List.find?_eq_none]
        intro c hc
        have := h c hc
        unfold r18_connected at this
        rw [this]; simp
      rw [this, Option.or_none]
  unfold r18_resolve
  rw [key]

theorem r18_getClass_append (api : API) (ms : List Module) (cs : List Class) (safe : Bool) (q : String) (c : Class)
    (hx : ∀ c' ∈ cs, r18_exactMatch q c' = true → ∃ c0 ∈ api.classes, r18_exactMatch q c0 = true)
    (h : getClassInPackage ⟨api, safe⟩ q = .ok c) :
    getClassInPackage ⟨{ api with modules := ms, classes := api.classes ++ cs }, safe⟩ q = .ok c := by
  unfold getClassInPackage at h ⊢
  dsimp only at h ⊢
  rw [List.find?_append, List.find?_append]
  cases h1 : find? (fun c => c.id == replaceChar q '.' "/") api.classes with
  | some c1 =>
    rw [h1] at h
    exact h
  | none =>
    rw [h1] at h
    have hcs : find? (fun c => c.id == replaceChar q '.' "/") cs = none := by
      rw [List.find?_eq_none]
      intro c' hc' hm
      obtain ⟨c0, hc0, hm0⟩ := hx c' hc' hm
      have := List.find?_eq_none.1 h1 c0 hc0
      exact this hm0
    rw [hcs]
    dsimp only [Option.or] at h ⊢
    split at h
    · rename_i c2 h2
      rw [h2]
      exact h
    · cases h

instance r18_selfIns_dec (api : API) (s : St) (q : String) : Decidable (r18_selfIns api s q) := by
  unfold r18_selfIns; infer_instance

/-- the text of a run (`"<error>"` for a failed one), for closed examples -/
def r18_textOf {α : Type} (r : Except PyErr (String × α)) : String :=
  match r with
  | .ok (t, _) => t
  | .error _ => "<error>"

theorem r18_resolve_of_lookup {api api' : API} (hrm : api'.reexportMap = api.reexportMap)
    (h : ∀ path, r18_importLookup api' path = r18_importLookup api path) (q : String) :
    r18_resolve api' q = r18_resolve api q := by
  unfold r18_resolve
  rw [h, hrm]

/-! ### the module level -/

def r18_inRe (env : Env) (m : Module) : Bool := (shortestPublicReexport env.api.reexportMap m.name "" true).1 != ""

def r18_enumsText (env : Env) (m : Module) : String :=
  String.join (m.enums.map fun e => "\n" ++ createEnumString env e ++ "\n")

theorem r18_createModuleString_ok (env : Env) (m : Module) (s : St) (r : (String × String) × St) :
    createModuleString env m s = .ok r ↔
      ∃ t1 sa, createFunctions env (r18_inRe env m) m.functions s = .ok (t1, sa) ∧
      ∃ t2 sb, createClasses env (r18_inRe env m) m.classes sa = .ok (t2, sb) ∧
        r = ((moduleDoc m ++ packageHeader env (modulePackage env m) ++ p08_importsText env.safe sb.imports
              ++ t1 ++ t2 ++ r18_enumsText env m, modulePackage env m),
             { sb with log := sb.log ++ m.enums.map fun e => ("enum", e.id) }) := by
  unfold createModuleString r18_inRe modulePackage moduleDoc r18_enumsText
  rcases hsp : shortestPublicReexport env.api.reexportMap m.name "" true with ⟨sp, al⟩
  simp only [bind_ok, pure_ok, modify_ok, p08_createImportsString_eq, Except.ok.injEq]
  constructor
  · rintro ⟨a, s1, h1, a1, s11, h2, a2, s12, h3, a3, s13, h4, rfl⟩
    simp only [Prod.mk.injEq] at h3 h4
    obtain ⟨_, rfl⟩ := h3
    obtain ⟨rfl, rfl⟩ := h4
    exact ⟨a, s1, h1, a1, s11, h2, rfl⟩
  · rintro ⟨t1, sa, h1, t2, sb, h2, rfl⟩
    exact ⟨t1, sa, h1, t2, sb, h2, _, _, rfl, _, _, rfl, rfl⟩

/-- the state in which `callGenerator` starts the module -/
def r18_modStart (id : String) (s : St) : St :=
  let s1 : St := { s with log := s.log ++ [("module", id)] }
  let s2 : St := if s1.creatingReexport then { s1 with reexportModuleId := id } else { s1 with moduleId := id }
  { s2 with reexportModuleId := "", classGenerics := [], imports := [], todos := [] }

theorem r18_callGenerator_ok (env : Env) (m : Module) (s : St) (r : (String × String) × St) :
    callGenerator env m s = .ok r ↔ createModuleString env m (r18_modStart m.id s) = .ok r := by
  unfold callGenerator setModuleId r18_modStart
  simp only [bind_ok, logEmit_ok, modify_ok]
  constructor
  · rintro ⟨a1, s1, h1, a2, s2, h2, a3, s3, h3, h⟩
    simp only [Prod.mk.injEq] at h1 h2 h3
    obtain ⟨_, rfl⟩ := h1
    obtain ⟨_, rfl⟩ := h2
    obtain ⟨_, rfl⟩ := h3
    exact h
  · intro h
    exact ⟨_, _, rfl, _, _, rfl, _, _, rfl, h⟩

section ModuleReorder
variable {α : Type} {step : α → G String} {api : API} {fr : Bool}

theorem r18_runList_frame (hS : r18_StepSim step api fr) (l : List α) (u : St) (t : String) (u1 : St)
    (h : r18_runList step l u = .ok (t, u1)) :
    u1.moduleId = u.moduleId ∧ u1.reexportModuleId = u.reexportModuleId ∧
    u1.creatingReexport = u.creatingReexport ∧ (fr = true → u1.classGenerics = u.classGenerics) ∧
    (u.imports.Nodup → u1.imports.Nodup) := by
  have hs := r18_runList_sim (hS u u ⟨rfl, rfl, rfl⟩ (fun _ => Or.inl Iff.rfl)) l
  obtain ⟨s1', h', hR⟩ := hs.sim u u t u1 (r18_Rel.init rfl rfl) h trivial
  exact ⟨hR.mid, hR.rmid, hR.cr, hR.cgb, hR.nodup⟩

end ModuleReorder

end StubGen
