/-
Hoare triples for the state/exception monads of the model: the generator monad `G` and the analyser monad `V`
are both `StateT σ (Except PyErr)`.

`Triple P x Q E`: run from a state satisfying `P`, `x` returns a value and a state satisfying `Q`, or raises an error
satisfying `E`.  Partial correctness is `E = fun _ => True`, totality `E = fun _ => False`.  `Inv P E x` is the common
special case "`x` maintains `P`".  The rules are proved once, for every state type; `hoare [lemmas]` applies them
through a `do` block.
-/
import StubGen.Py.Basic

namespace StubGen

variable {σ α β : Type}

structure Triple (P : σ → Prop) (x : StateT σ (Except PyErr) α) (Q : α → σ → Prop) (E : PyErr → Prop) : Prop where
  run : ∀ s, P s → match x s with
    | .ok (a, s') => Q a s'
    | .error e => E e

abbrev Inv (P : σ → Prop) (E : PyErr → Prop) (x : StateT σ (Except PyErr) α) : Prop := Triple P x (fun _ => P) E

theorem se_bind_apply (x : StateT σ (Except PyErr) α) (f : α → StateT σ (Except PyErr) β) (s : σ) :
    (x >>= f) s = match x s with
      | .ok (a, s1) => f a s1
      | .error e => .error e := by
  show (x s >>= fun p => f p.1 p.2) = _
  cases x s with
  | error e => rfl
  | ok v => rfl

/-! ### successful runs, step by step -/

theorem se_bind_ok {x : StateT σ (Except PyErr) α} {f : α → StateT σ (Except PyErr) β} {s : σ} {b : β} {s' : σ}
    (h : (x >>= f) s = .ok (b, s')) : ∃ a s1, x s = .ok (a, s1) ∧ f a s1 = .ok (b, s') := by
  rw [se_bind_apply] at h
  cases hx : x s with
  | error e => rw [hx] at h; cases h
  | ok r => rw [hx] at h; exact ⟨r.1, r.2, rfl, h⟩

theorem se_pure_ok {a b : α} {s s' : σ} (h : (pure a : StateT σ (Except PyErr) α) s = .ok (b, s')) : b = a ∧ s' = s := by
  cases h; exact ⟨rfl, rfl⟩

theorem se_get_ok {a s s' : σ} (h : (get : StateT σ (Except PyErr) σ) s = .ok (a, s')) : a = s ∧ s' = s := by
  cases h; exact ⟨rfl, rfl⟩

theorem se_set_ok {t s s' : σ} {u : PUnit} (h : (set t : StateT σ (Except PyErr) PUnit) s = .ok (u, s')) : s' = t := by
  cases h; rfl

theorem se_modify_ok {g : σ → σ} {s s' : σ} {u : PUnit}
    (h : (modify g : StateT σ (Except PyErr) PUnit) s = .ok (u, s')) : s' = g s := by
  cases h; rfl

namespace Triple
variable {P : σ → Prop} {Q : α → σ → Prop} {E : PyErr → Prop}

theorem ok {x : StateT σ (Except PyErr) α} (h : Triple P x Q E) {s s' : σ} {a : α} (hs : P s)
    (hx : x s = .ok (a, s')) : Q a s' := by
  have := h.run s hs
  rwa [hx] at this

/-- `throwG` and `throwV` unfold to this form -/
theorem throw {e : PyErr} (h : E e) : Triple P (fun _ => .error e : StateT σ (Except PyErr) α) Q E := ⟨fun _ _ => h⟩

theorem bind {x : StateT σ (Except PyErr) α} {f : α → StateT σ (Except PyErr) β} {R : α → σ → Prop}
    {Q : β → σ → Prop} (hx : Triple P x R E) (hf : ∀ a, Triple (R a) (f a) Q E) : Triple P (x >>= f) Q E := by
  refine ⟨fun s hs => ?_⟩
  rw [se_bind_apply]
  have h1 := hx.run s hs
  revert h1
  cases x s with
  | error e => exact id
  | ok v => exact fun h1 => (hf v.1).run v.2 h1

theorem modify {g : σ → σ} {Q : PUnit → σ → Prop} (h : ∀ s, P s → Q ⟨⟩ (g s)) :
    Triple P (_root_.modify g : StateT σ (Except PyErr) PUnit) Q E := ⟨h⟩

theorem ite {c : Prop} [Decidable c] {x y : StateT σ (Except PyErr) α} (hx : c → Triple P x Q E)
    (hy : ¬c → Triple P y Q E) : Triple P (if c then x else y) Q E := by
  by_cases h : c
  · rw [if_pos h]; exact hx h
  · rw [if_neg h]; exact hy h

end Triple

namespace Inv
variable {P : σ → Prop} {E : PyErr → Prop}

theorem pure (a : α) : Inv P E (Pure.pure a : StateT σ (Except PyErr) α) := ⟨fun _ h => h⟩

theorem get_bind {f : σ → StateT σ (Except PyErr) β} (hf : ∀ s0, P s0 → Inv P E (f s0)) : Inv P E (get >>= f) :=
  ⟨fun s hs => (hf s hs).run s hs⟩

/-- a family of invariants "related to the start `s0`", for a reflexive relation, relates the two ends of every successful run -/
theorem rel_of_ok {R : σ → σ → Prop} (hr : ∀ s, R s s) {x : StateT σ (Except PyErr) α}
    (hx : ∀ s0, Inv (R s0) (fun _ => True) x) {s s' : σ} {a : α} (h : x s = .ok (a, s')) : R s s' :=
  (hx s).ok (hr s) h

theorem mapM {f : α → StateT σ (Except PyErr) β} (hf : ∀ a, Inv P E (f a)) : ∀ l : List α, Inv P E (l.mapM f)
  | [] => by rw [List.mapM_nil]; exact pure _
  | a :: l => by
    rw [List.mapM_cons]
    exact Triple.bind (hf a) fun _ => Triple.bind (mapM hf l) fun _ => pure _

theorem forIn {f : α → PUnit → StateT σ (Except PyErr) (ForInStep PUnit)} (hf : ∀ a u, Inv P E (f a u)) :
    ∀ (l : List α) (u : PUnit), Inv P E (forIn l u f)
  | [], _ => by rw [List.forIn_nil]; exact pure _
  | a :: l, u => by
    rw [List.forIn_cons]
    refine Triple.bind (hf a u) fun r => ?_
    cases r with
    | done _ => exact pure _
    | yield b => exact forIn hf l b

end Inv

/-- Walks through a `do` block whose goal is an `Inv`: closes leaves by `pure`, the hypotheses and the lemmas given,
    decomposes `>>=` and `if`, and splits `match`es; side goals of the lemmas given are tried with `decide`.  State updates
    are left to the caller's lemmas.  A lemma of the list that does not apply at a node (or does not elaborate) is passed
    over there; what it should have closed shows up as an unsolved goal. -/
syntax "hoare" "[" term,* "]" : tactic
macro_rules
  | `(tactic| hoare [$ls,*]) => `(tactic| repeat' (first
      | with_reducible exact Inv.pure _
      | with_reducible assumption
      | first $[| with_reducible apply $ls]*
      | with_reducible apply Triple.ite
      | ((with_reducible apply Inv.get_bind); intro _ _)
      | with_reducible apply Triple.bind
      | intro _
      | split
      | dsimp only
      | decide))

end StubGen
