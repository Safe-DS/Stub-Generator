/-
Proof machinery for C16 (file part) and C10: the write log of `create_stub_files`
(`StubGen.Model.Files`) and the path arithmetic of `stubPath` / `_create_outside_package_class`.
-/
import StubGen.Model.Files
import StubGen.Proofs.Naming
import StubGen.Proofs.GenInv
import StubGen.Proofs.Aliases

namespace StubGen

/-! ### `_create_outside_package_class` -/

/-- the directory (relative, `/`-separated) a placeholder for class path `c` goes to -/
def outsideModulePath (c : String) : String := joinWith "/" (dropLast' (splitDot c))
/-- the module name `path_parts[-1]` (the last-but-one dot segment of the class path) -/
def outsideModuleName (c : String) : String := lastD "" (dropLast' (splitDot c))
/-- the file a placeholder for class path `c` goes to: like a module stub, the file name is the
    module name without its leading underscores -/
def outsideFile (c : String) : String :=
  joinWith "/" (pathParts (outsideModulePath c) ++ [pyLstrip (outsideModuleName c) "_" ++ ".sdsstub"])
/-- the dotted Python module path `".".join(path_parts)` -/
def outsidePyPath (c : String) : String := joinWith "." (dropLast' (splitDot c))
/-- the package header of a placeholder stub -/
def outsideHeader (safe : Bool) (c : String) : String :=
  (if outsidePyPath c != convertPath (outsidePyPath c) safe then "@PythonModule(\"" ++ outsidePyPath c ++ "\")\n" else "")
    ++ "package " ++ escapePath (convertPath (outsidePyPath c) safe) ++ "\n"

/-- a closed form of `createOutsidePackageClass` -/
theorem createOutsidePackageClass_eq (safe : Bool) (c : String) (created existing : List String) :
    createOutsidePackageClass safe c created existing =
      if (dropLast' (splitDot c)) = [] then .error .indexError
      else
        let created' := if outsideModulePath c ∈ created then created else created ++ [outsideModulePath c]
        if outsideFile c ∈ existing ∧ outsideModulePath c ∈ created then
          .ok ({ path := outsideFile c, mode := .append, text := outsideClassText (lastD "" (splitDot c)) safe }, created')
        else
          .ok ({ path := outsideFile c, mode := .write,
                 text := outsideHeader safe c ++ outsideClassText (lastD "" (splitDot c)) safe }, created') := by
  unfold createOutsidePackageClass
  simp only
  split
  · rename_i h
    rw [List.getLast?_eq_none_iff] at h
    simp [h]
  · rename_i m h
    have hne : dropLast' (splitDot c) ≠ [] := by
      intro e; rw [e] at h; simp at h
    have hm : outsideModuleName c = m := getLast?_lastD "" _ _ h
    subst hm
    simp only [hne, if_false, Bool.not_not, Bool.and_eq_true, List.contains_iff_mem, Bool.not_eq_true',
      ← Bool.not_eq_true, ite_not]
    rfl

/-- two class paths that go to the same directory also go to the same file -/
def CoherentOutside (outside : List String) : Prop :=
  ∀ c₁ ∈ outside, ∀ c₂ ∈ outside, outsideModulePath c₁ = outsideModulePath c₂ → outsideModuleName c₁ = outsideModuleName c₂

/-- invariant of the placeholder loop: a directory recorded in `created` has its file in `existing` -/
def CreatedExist (all created existing : List String) : Prop :=
  ∀ c ∈ all, outsideModulePath c ∈ created → outsideFile c ∈ existing

theorem outsideFile_eq_of_coherent {all : List String} (hc : CoherentOutside all) {c₁ c₂ : String}
    (h1 : c₁ ∈ all) (h2 : c₂ ∈ all) (h : outsideModulePath c₁ = outsideModulePath c₂) : outsideFile c₁ = outsideFile c₂ := by
  unfold outsideFile
  rw [h, hc c₁ h1 c₂ h2 h]

theorem createOutsidePackageClass_indep (safe : Bool) (all : List String) (c : String) (hc : c ∈ all)
    (created existing existing' : List String)
    (h : CreatedExist all created existing) (h' : CreatedExist all created existing') :
    createOutsidePackageClass safe c created existing = createOutsidePackageClass safe c created existing' := by
  rw [createOutsidePackageClass_eq, createOutsidePackageClass_eq]
  by_cases hf : outsideModulePath c ∈ created
  · simp [h c hc hf, h' c hc hf, hf]
  · simp [hf]

/-- what a successful call returns -/
theorem createOutsidePackageClass_ok {safe : Bool} {c : String} {created existing : List String} {op : WriteOp}
    {created' : List String} (hr : createOutsidePackageClass safe c created existing = .ok (op, created')) :
    dropLast' (splitDot c) ≠ [] ∧ op.path = outsideFile c
      ∧ created' = (if outsideModulePath c ∈ created then created else created ++ [outsideModulePath c])
      ∧ ((op.mode = .append ∧ op.text = outsideClassText (lastD "" (splitDot c)) safe
            ∧ outsideFile c ∈ existing ∧ outsideModulePath c ∈ created)
         ∨ (op.mode = .write ∧ op.text = outsideHeader safe c ++ outsideClassText (lastD "" (splitDot c)) safe
            ∧ ¬ (outsideFile c ∈ existing ∧ outsideModulePath c ∈ created))) := by
  rw [createOutsidePackageClass_eq] at hr
  split at hr
  · exact absurd hr (by simp)
  · rename_i hne
    refine ⟨hne, ?_⟩
    simp only at hr
    split at hr
    · rename_i hcond
      simp only [Except.ok.injEq, Prod.mk.injEq] at hr
      obtain ⟨h1, h2⟩ := hr
      subst h1
      dsimp only
      exact ⟨rfl, h2.symm, Or.inl ⟨rfl, rfl, hcond⟩⟩
    · rename_i hcond
      simp only [Except.ok.injEq, Prod.mk.injEq] at hr
      obtain ⟨h1, h2⟩ := hr
      subst h1
      dsimp only
      exact ⟨rfl, h2.symm, Or.inr ⟨rfl, rfl, hcond⟩⟩

theorem createOutsidePackageClass_inv (safe : Bool) (all : List String) (hall : CoherentOutside all)
    (c : String) (hc : c ∈ all) (created existing : List String) (op : WriteOp) (created' : List String)
    (h : CreatedExist all created existing)
    (hr : createOutsidePackageClass safe c created existing = .ok (op, created')) :
    CreatedExist all created' (insertSet op.path existing) := by
  obtain ⟨_, hp, hcr, _⟩ := createOutsidePackageClass_ok hr
  intro c2 hc2 hm
  rw [mem_insertSet, hp]
  rw [hcr] at hm
  split at hm
  · exact Or.inl (h c2 hc2 hm)
  · rw [List.mem_append, List.mem_singleton] at hm
    rcases hm with hin | e
    · exact Or.inl (h c2 hc2 hin)
    · exact Or.inr (outsideFile_eq_of_coherent hall hc2 hc e)

theorem outsideWrites_indep (safe : Bool) (all : List String) (hall : CoherentOutside all) :
    ∀ (cs : List String), (∀ c ∈ cs, c ∈ all) → ∀ (created existing existing' : List String),
      CreatedExist all created existing → CreatedExist all created existing' →
      outsideWrites safe cs created existing = outsideWrites safe cs created existing'
  | [], _, _, _, _, _, _ => rfl
  | c :: cs, hcs, created, existing, existing', h, h' => by
    have hc : c ∈ all := hcs c (by simp)
    unfold outsideWrites
    rw [← createOutsidePackageClass_indep safe all c hc created existing existing' h h']
    cases hr : createOutsidePackageClass safe c created existing with
    | error e => rfl
    | ok r =>
      obtain ⟨op, created'⟩ := r
      have hr' : createOutsidePackageClass safe c created existing' = .ok (op, created') := by
        rw [← createOutsidePackageClass_indep safe all c hc created existing existing' h h']; exact hr
      simp only
      rw [outsideWrites_indep safe all hall cs (fun x hx => hcs x (by simp [hx])) created'
        (insertSet op.path existing) (insertSet op.path existing')
        (createOutsidePackageClass_inv safe all hall c hc _ _ _ _ h hr)
        (createOutsidePackageClass_inv safe all hall c hc _ _ _ _ h' hr')]

theorem createStubFiles_indep (safe : Bool) (stubs : List StubData) (outside pre pre' : List String)
    (h : CoherentOutside outside) :
    createStubFiles safe stubs outside pre = createStubFiles safe stubs outside pre' := by
  unfold createStubFiles
  simp only
  rw [outsideWrites_indep safe outside h (sortStrings outside) (fun c hc => (mem_sortStrings c outside).1 hc) []
    _ (List.foldl (fun acc op => insertSet op.path acc) pre'
        (stubs.map fun d => ({ path := stubPath d, mode := .write, text := d.text } : WriteOp)))]
  · intro c _ hm; simp at hm
  · intro c _ hm; simp at hm

/-! ### the write log: the first operation on every path is a `write` -/

/-- for every path, the first operation of the log on that path is a `.write` -/
def FirstOpsWrite (ops : List WriteOp) : Prop :=
  ∀ (p : String) (op : WriteOp), ops.find? (fun o => o.path == p) = some op → op.mode = .write

theorem outsideWrites_cons_ok {safe : Bool} {c : String} {cs created existing : List String} {ops : List WriteOp}
    (h : outsideWrites safe (c :: cs) created existing = .ok ops) :
    ∃ op created' ops', createOutsidePackageClass safe c created existing = .ok (op, created')
      ∧ outsideWrites safe cs created' (insertSet op.path existing) = .ok ops' ∧ ops = op :: ops' := by
  unfold outsideWrites at h
  cases hr : createOutsidePackageClass safe c created existing with
  | error e => rw [hr] at h; exact absurd h (by simp)
  | ok r =>
    obtain ⟨op, created'⟩ := r
    rw [hr] at h
    simp only at h
    cases hr2 : outsideWrites safe cs created' (insertSet op.path existing) with
    | error e => rw [hr2] at h; exact absurd h (by simp)
    | ok ops' =>
      rw [hr2] at h
      simp only [Except.ok.injEq] at h
      exact ⟨op, created', ops', rfl, hr2, h.symm⟩

/-- in the placeholder loop, an `append` that is the first operation on its path hits a file that
    existed before the loop -/
theorem outsideWrites_append_existing (safe : Bool) :
    ∀ (cs created existing : List String) (ops : List WriteOp), outsideWrites safe cs created existing = .ok ops →
      ∀ (p : String) (op : WriteOp), ops.find? (fun o => o.path == p) = some op → op.mode = .append → p ∈ existing
  | [], _, _, ops, h, p, op, hf, _ => by
    simp only [outsideWrites, Except.ok.injEq] at h
    rw [← h] at hf
    simp at hf
  | c :: cs, created, existing, ops, h, p, op, hf, hm => by
    obtain ⟨op0, created', ops', hr, hr2, rfl⟩ := outsideWrites_cons_ok h
    obtain ⟨_, hp, _, hcase⟩ := createOutsidePackageClass_ok hr
    by_cases hpath : op0.path = p
    · rw [List.find?_cons_of_pos (by simpa using hpath)] at hf
      simp only [Option.some.injEq] at hf
      subst hf
      rcases hcase with ⟨_, _, hex, _⟩ | ⟨hw, _⟩
      · rw [← hpath, hp]; exact hex
      · rw [hw] at hm; exact absurd hm (by simp)
    · rw [List.find?_cons_of_neg (by simpa using hpath)] at hf
      have := outsideWrites_append_existing safe cs created' _ ops' hr2 p op hf hm
      rw [mem_insertSet] at this
      rcases this with h' | e
      · exact h'
      · exact absurd e.symm hpath

theorem createStubFiles_ok {safe : Bool} {stubs : List StubData} {outside pre : List String} {ops : List WriteOp}
    (h : createStubFiles safe stubs outside pre = .ok ops) :
    ∃ oops, outsideWrites safe (sortStrings outside) []
        ((stubs.map stubPath).foldl (fun acc p => insertSet p acc) pre) = .ok oops
      ∧ ops = (stubs.map fun d => ({ path := stubPath d, mode := .write, text := d.text } : WriteOp)) ++ oops := by
  unfold createStubFiles at h
  simp only [List.foldl_map] at h
  rw [List.foldl_map]
  cases hr : outsideWrites safe (sortStrings outside) []
      (List.foldl (fun acc d => insertSet (stubPath d) acc) pre stubs) with
  | error e => rw [hr] at h; exact absurd h (by simp)
  | ok oops =>
    rw [hr] at h
    simp only [Except.ok.injEq] at h
    exact ⟨oops, rfl, h.symm⟩

theorem find?_moduleOps {stubs : List StubData} {p : String} {op : WriteOp}
    (h : (stubs.map fun d => ({ path := stubPath d, mode := .write, text := d.text } : WriteOp)).find?
      (fun o => o.path == p) = some op) : op.mode = .write := by
  have := List.mem_of_find?_eq_some h
  rw [List.mem_map] at this
  obtain ⟨d, _, rfl⟩ := this
  rfl

theorem find?_moduleOps_none {stubs : List StubData} {p : String}
    (h : (stubs.map fun d => ({ path := stubPath d, mode := .write, text := d.text } : WriteOp)).find?
      (fun o => o.path == p) = none) : p ∉ stubs.map stubPath := by
  rw [List.find?_eq_none] at h
  intro hp
  rw [List.mem_map] at hp
  obtain ⟨d, hd, rfl⟩ := hp
  exact h _ (List.mem_map_of_mem hd) (by simp)

/-- into an empty directory: the first operation on every path is a write (no hypothesis on `outside`) -/
theorem createStubFiles_firstOpsWrite_fresh {safe : Bool} {stubs : List StubData} {outside : List String}
    {ops : List WriteOp} (h : createStubFiles safe stubs outside [] = .ok ops) : FirstOpsWrite ops := by
  obtain ⟨oops, ho, rfl⟩ := createStubFiles_ok h
  intro p op hf
  rw [List.find?_append] at hf
  cases hm : (stubs.map fun d => ({ path := stubPath d, mode := .write, text := d.text } : WriteOp)).find?
      (fun o => o.path == p) with
  | some op' =>
    rw [hm] at hf
    simp only [Option.some_or, Option.some.injEq] at hf
    subst hf
    exact find?_moduleOps hm
  | none =>
    rw [hm] at hf
    simp only [Option.none_or] at hf
    cases hmode : op.mode with
    | write => rfl
    | append =>
      have := outsideWrites_append_existing safe _ _ _ _ ho p op hf hmode
      rw [mem_foldl_insertSet] at this
      rcases this with h' | h'
      · simp at h'
      · exact absurd h' (find?_moduleOps_none hm)

/-! ### file maps -/

/-- the content of file `p` (first match) -/
def lookupFile : List (String × String) → String → Option String
  | [], _ => none
  | (k, v) :: fs, p => if k = p then some v else lookupFile fs p

theorem lookupFile_eq_assocGet? (fs : List (String × String)) (p : String) : lookupFile fs p = assocGet? fs p := by
  induction fs with
  | nil => rfl
  | cons kv fs ih =>
    obtain ⟨k, v⟩ := kv
    rw [lookupFile, assocGet?_cons, ih]

/-- the content of `p` after one operation, as a function of its content before -/
def stepContent (p : String) (cur : Option String) (op : WriteOp) : Option String :=
  if op.path = p then
    some (match op.mode with
      | .write => op.text
      | .append => cur.getD "" ++ op.text)
  else cur

/-- the content of `p` after a log of operations -/
def evalOps (p : String) (cur : Option String) (ops : List WriteOp) : Option String := ops.foldl (stepContent p) cur

/-- a write operation is an insert-or-update of the file map -/
theorem lookupFile_applyWrite (fs : List (String × String)) (op : WriteOp) (p : String) :
    lookupFile (applyWrite fs op) p = stepContent p (lookupFile fs p) op := by
  rw [lookupFile_eq_assocGet?, lookupFile_eq_assocGet?]
  unfold applyWrite stepContent
  cases op.mode <;> dsimp only
  · rw [assocGet?_upsert (fun _ => op.text)]
    split
    · cases assocGet? fs p <;> rfl
    · rfl
  · rw [assocGet?_upsert (· ++ op.text)]
    split
    · cases assocGet? fs p
      · exact congrArg some String.empty_append.symm
      · rfl
    · rfl

theorem lookupFile_applyWrites (ops : List WriteOp) (fs : List (String × String)) (p : String) :
    lookupFile (applyWrites fs ops) p = evalOps p (lookupFile fs p) ops := by
  induction ops generalizing fs with
  | nil => rfl
  | cons op ops ih =>
    simp only [applyWrites, evalOps, List.foldl_cons] at ih ⊢
    rw [ih, lookupFile_applyWrite]

theorem evalOps_untouched (p : String) (ops : List WriteOp) (cur : Option String)
    (h : p ∉ ops.map (·.path)) : evalOps p cur ops = cur := by
  induction ops generalizing cur with
  | nil => rfl
  | cons op ops ih =>
    simp only [List.map_cons, List.mem_cons, not_or] at h
    simp only [evalOps, List.foldl_cons] at ih ⊢
    have : ¬ op.path = p := fun e => h.1 e.symm
    rw [show stepContent p cur op = cur by simp [stepContent, this]]
    exact ih cur h.2

theorem evalOps_first_write (p : String) (ops : List WriteOp) (cur cur' : Option String) (op : WriteOp)
    (hf : ops.find? (fun o => o.path == p) = some op) (hw : op.mode = .write) :
    evalOps p cur ops = evalOps p cur' ops := by
  induction ops generalizing cur cur' with
  | nil => simp at hf
  | cons o ops ih =>
    simp only [evalOps, List.foldl_cons] at ih ⊢
    by_cases hp : o.path = p
    · rw [List.find?_cons_of_pos (by simpa using hp)] at hf
      simp only [Option.some.injEq] at hf
      subst hf
      have : ∀ c, stepContent p c o = some o.text := by
        intro c; simp [stepContent, hp, hw]
      rw [this cur, this cur']
    · rw [List.find?_cons_of_neg (by simpa using hp)] at hf
      have : ∀ c, stepContent p c o = c := by
        intro c; simp [stepContent, hp]
      rw [this cur, this cur']
      exact ih cur cur' hf

theorem find?_path_of_mem (p : String) (ops : List WriteOp) (h : p ∈ ops.map (·.path)) :
    ∃ op, ops.find? (fun o => o.path == p) = some op := by
  rw [List.mem_map] at h
  obtain ⟨o, ho, hp⟩ := h
  cases hf : ops.find? (fun o => o.path == p) with
  | some op => exact ⟨op, rfl⟩
  | none =>
    rw [List.find?_eq_none] at hf
    exact absurd (hf o ho) (by simp [hp])

/-! #### the key list -/

theorem any_key_contains (fs : List (String × String)) (q : String) :
    fs.any (fun kv => kv.1 == q) = (fs.map (·.1)).contains q := by
  induction fs with
  | nil => rfl
  | cons kv fs ih =>
    simp only [List.any_cons, List.map_cons, List.contains_cons, ih]
    rw [Bool.beq_comm]

theorem keys_map_update (fs : List (String × String)) (q : String) (f : String → String) :
    (fs.map fun kv => if kv.1 == q then (kv.1, f kv.2) else kv).map (·.1) = fs.map (·.1) := by
  induction fs with
  | nil => rfl
  | cons kv fs ih =>
    simp only [List.map_cons, ih, List.cons.injEq, and_true]
    split <;> rfl

theorem keys_applyWrite (fs : List (String × String)) (op : WriteOp) :
    (applyWrite fs op).map (·.1) = insertSet op.path (fs.map (·.1)) := by
  unfold applyWrite insertSet
  rw [any_key_contains]
  cases op.mode with
  | write =>
    simp only
    split
    · exact keys_map_update fs op.path (fun _ => op.text)
    · simp
  | append =>
    simp only
    split
    · exact keys_map_update fs op.path (fun t => t ++ op.text)
    · simp

theorem keys_applyWrites (ops : List WriteOp) (fs : List (String × String)) :
    (applyWrites fs ops).map (·.1) = (ops.map (·.path)).foldl (fun acc p => insertSet p acc) (fs.map (·.1)) := by
  induction ops generalizing fs with
  | nil => rfl
  | cons op ops ih =>
    simp only [applyWrites, List.foldl_cons, List.map_cons] at ih ⊢
    rw [ih, keys_applyWrite]

theorem nodup_keys_applyWrites (ops : List WriteOp) (fs : List (String × String)) (h : (fs.map (·.1)).Nodup) :
    ((applyWrites fs ops).map (·.1)).Nodup := by
  rw [keys_applyWrites]; exact nodup_foldl_insertSet _ _ h

theorem lookupFile_none_of_not_mem (fs : List (String × String)) (p : String) (h : p ∉ fs.map (·.1)) :
    lookupFile fs p = none := by
  induction fs with
  | nil => rfl
  | cons kv fs ih =>
    obtain ⟨k, v⟩ := kv
    simp only [List.map_cons, List.mem_cons, not_or] at h
    have : ¬ k = p := fun e => h.1 e.symm
    simp only [lookupFile, this, if_false]
    exact ih h.2

/-- file maps with the same duplicate-free key list and the same contents are equal -/
theorem fileMap_ext : ∀ (fs gs : List (String × String)), fs.map (·.1) = gs.map (·.1) → (fs.map (·.1)).Nodup →
    (∀ p, lookupFile fs p = lookupFile gs p) → fs = gs
  | [], [], _, _, _ => rfl
  | [], _ :: _, hk, _, _ => by simp at hk
  | _ :: _, [], hk, _, _ => by simp at hk
  | (k, v) :: fs, (k', v') :: gs, hk, hn, hl => by
    simp only [List.map_cons, List.cons.injEq] at hk
    obtain ⟨hk1, hk2⟩ := hk
    subst hk1
    simp only [List.map_cons, List.nodup_cons] at hn
    have hv : v = v' := by
      have := hl k
      simpa [lookupFile] using this
    subst hv
    have : fs = gs := by
      apply fileMap_ext fs gs hk2 hn.2
      intro p
      by_cases hp : k = p
      · subst hp
        rw [lookupFile_none_of_not_mem fs k hn.1, lookupFile_none_of_not_mem gs k (hk2 ▸ hn.1)]
      · have := hl p
        simpa [lookupFile, hp] using this
    rw [this]

/-! ### `split` and `join` -/

/-- without `/` in the class path, the module name is a function of the module directory -/
theorem outsideModuleName_of_no_slash (c : String) (h : '/' ∉ c.toList) :
    outsideModuleName c = lastD "" (splitSlash (outsideModulePath c)) := by
  unfold outsideModuleName outsideModulePath
  by_cases hne : dropLast' (splitDot c) = []
  · rw [hne]; decide
  · unfold splitSlash
    rw [pySplit_joinWith '/' "/" (by decide) _ hne]
    intro p hp hx
    exact h (mem_of_mem_pySplit '.' c p (mem_dropLast' p _ hp) '/' hx)

/-! ### `stubPath` -/

/-- the directory segments of a stub: `Path(out / module_id)` for a module stub, its parent for a stub
    created from an `__init__` re-export -/
def dirSegments (d : StubData) : List String :=
  if d.isPackageModule then dropLast' (pathParts d.dir) else pathParts d.dir

/-- the file name of a stub -/
def stubFileName (d : StubData) : String := pyLstrip d.name "_" ++ ".sdsstub"

theorem mem_pathParts (x s : String) (h : s ∈ pathParts x) : s ∈ splitSlash x ∧ s ≠ "" ∧ s ≠ "." := by
  unfold pathParts at h
  rw [List.mem_filter] at h
  refine ⟨h.1, ?_⟩
  simpa using h.2

theorem no_slash_stubFileName (d : StubData) (h : '/' ∉ d.name.toList) : '/' ∉ (stubFileName d).toList := by
  unfold stubFileName pyLstrip
  rw [String.toList_append, String.toList_ofList, List.mem_append, not_or]
  exact ⟨fun hx => h (mem_lstripSet _ _ _ hx), by decide⟩

theorem append_sdsstub_ne (a : String) : a ++ ".sdsstub" ≠ "" ∧ a ++ ".sdsstub" ≠ "." ∧ a ++ ".sdsstub" ≠ ".." := by
  have hl : (a ++ ".sdsstub").length = a.length + 8 := by rw [String.length_append]; rfl
  refine ⟨?_, ?_, ?_⟩ <;> intro e <;> rw [e] at hl
  · have : ("" : String).length = 0 := rfl
    omega
  · have : (".").length = 1 := rfl
    omega
  · have : ("..").length = 2 := rfl
    omega

theorem splitSlash_stubPath (d : StubData) (h : '/' ∉ d.name.toList) :
    splitSlash (stubPath d) = dirSegments d ++ [stubFileName d] := by
  have : stubPath d = joinWith "/" (dirSegments d ++ [stubFileName d]) := by
    unfold stubPath dirSegments stubFileName; rfl
  rw [this]
  unfold splitSlash
  apply pySplit_joinWith '/' "/" (by decide) _ (by simp)
  intro p hp
  rw [List.mem_append, List.mem_singleton] at hp
  rcases hp with hp | rfl
  · have hp' : p ∈ pathParts d.dir := by
      unfold dirSegments at hp
      split at hp
      · exact mem_dropLast' p _ hp
      · exact hp
    exact sep_not_mem_pySplit '/' d.dir p (mem_pathParts _ _ hp').1
  · exact no_slash_stubFileName d h

/-! ### placeholder stubs: paths -/

/-- `path_parts` is empty exactly when the class path has no dot -/
theorem dropLast'_splitDot_eq_nil (c : String) : dropLast' (splitDot c) = [] ↔ '.' ∉ c.toList := by
  unfold splitDot pySplit
  constructor
  · intro h hin
    obtain ⟨a, b, rest, hs⟩ := splitOnChar_of_mem '.' c.toList hin
    rw [hs] at h
    simp [dropLast'] at h
  · intro h
    rw [splitOnChar_of_not_mem '.' c.toList h]
    rfl

theorem pathParts_joinWith (parts : List String) (h : ∀ p ∈ parts, '/' ∉ p.toList ∧ p ≠ "" ∧ p ≠ ".") :
    pathParts (joinWith "/" parts) = parts := by
  by_cases hne : parts = []
  · subst hne; decide
  · unfold pathParts splitSlash
    rw [pySplit_joinWith '/' "/" (by decide) parts hne (fun p hp => (h p hp).1), List.filter_eq_self]
    intro p hp
    simpa using (h p hp).2

theorem outsideHeader_eq_packageHeader (env : Env) (c : String) :
    outsideHeader env.safe c = packageHeader env (outsidePyPath c) := rfl

theorem ne_dot_of_mem_splitDot (c p : String) (hp : p ∈ splitDot c) : p ≠ "." := by
  intro e
  have := sep_not_mem_pySplit '.' c p hp
  rw [e] at this
  exact this (by decide)

/-! ### `replace('.', '/')` -/

/-- the directory segments of `pkg.replace(".", "/")` are the dot-segments of `pkg` -/
theorem splitSlash_replaceChar_dot (pkg : String) (h : '/' ∉ pkg.toList) :
    splitSlash (replaceChar pkg '.' "/") = splitDot pkg := by
  rw [replaceChar_eq_joinWith pkg '.' '/' "/" (by decide)]
  unfold splitSlash
  apply pySplit_joinWith '/' "/" (by decide) _ (pySplit_ne_nil '.' pkg)
  intro p hp hx
  exact h (mem_of_mem_pySplit '.' pkg p hp '/' hx)

/-! ### the generator monad; module stubs -/

/-- the Python module path a module stub announces -/
def modulePackage (env : Env) (m : Module) : String :=
  if (shortestPublicReexport env.api.reexportMap m.name "" true).1 != "" then
    (shortestPublicReexport env.api.reexportMap m.name "" true).1
  else joinWith "." (splitSlash m.id)

/-- the module's documentation comment (empty or a comment block followed by an empty line) -/
def moduleDoc (m : Module) : String :=
  if sdsDocstringDescription m.docstring "" != "" then sdsDocstringDescription m.docstring "" ++ "\n"
  else sdsDocstringDescription m.docstring ""

theorem createModuleString_text {env : Env} {m : Module} {s : St} {text pkg : String} {s' : St}
    (h : createModuleString env m s = .ok ((text, pkg), s')) :
    pkg = modulePackage env m ∧ ∃ rest, text = moduleDoc m ++ packageHeader env pkg ++ rest := by
  unfold createModuleString at h
  rcases hsp : shortestPublicReexport env.api.reexportMap m.name "" true with ⟨sp, al⟩
  rw [hsp] at h
  simp only at h
  obtain ⟨t1, s1, _, h⟩ := se_bind_ok h
  obtain ⟨t2, s2, _, h⟩ := se_bind_ok h
  obtain ⟨_, s3, _, h⟩ := se_bind_ok h
  obtain ⟨imports, s4, _, h⟩ := se_bind_ok h
  obtain ⟨h, _⟩ := se_pure_ok h
  simp only [Prod.mk.injEq] at h
  obtain ⟨ht, hp⟩ := h
  have hp' : pkg = modulePackage env m := by
    unfold modulePackage; rw [hsp]; exact hp
  refine ⟨hp', imports ++ t1 ++ t2 ++ String.join (List.map (fun e => "\n" ++ createEnumString env e ++ "\n") m.enums), ?_⟩
  rw [ht, hp]
  unfold moduleDoc
  simp only [String.append_assoc]

theorem callGenerator_text {env : Env} {m : Module} {s : St} {text pkg : String} {s' : St}
    (h : callGenerator env m s = .ok ((text, pkg), s')) :
    pkg = modulePackage env m ∧ ∃ rest, text = moduleDoc m ++ packageHeader env pkg ++ rest := by
  unfold callGenerator at h
  obtain ⟨_, s1, _, h⟩ := se_bind_ok h
  obtain ⟨_, s2, _, h⟩ := se_bind_ok h
  obtain ⟨_, s3, _, h⟩ := se_bind_ok h
  exact createModuleString_text h


/-- the base name of a module stub: the alias under which the shortest public re-export publishes the
    module, else the module's own name -/
def moduleStubName (env : Env) (m : Module) : String :=
  if (shortestPublicReexport env.api.reexportMap m.name "" true).2 != "" then
    (shortestPublicReexport env.api.reexportMap m.name "" true).2
  else m.name

theorem generateModules_spec (env : Env) : ∀ (ms : List Module) (st : St) (ds : List StubData) (st' : St),
    generateModules env ms st = .ok (ds, st') →
    ∀ d ∈ ds, ∃ m ∈ ms, d.isPackageModule = false ∧ d.dir = replaceChar (modulePackage env m) '.' "/"
      ∧ d.name = moduleStubName env m
      ∧ ∃ rest, d.text = moduleDoc m ++ packageHeader env (modulePackage env m) ++ rest
  | [], st, ds, st', h, d, hd => by
    unfold generateModules at h
    obtain ⟨h, _⟩ := se_pure_ok h
    rw [h] at hd
    simp at hd
  | m :: ms, st, ds, st', h, d, hd => by
    unfold generateModules at h
    split at h
    · obtain ⟨m', hm', hr⟩ := generateModules_spec env ms st ds st' h d hd
      exact ⟨m', List.mem_cons_of_mem _ hm', hr⟩
    · obtain ⟨r, s1, hcall, h⟩ := se_bind_ok h
      obtain ⟨text, pkg⟩ := r
      simp only at h
      split at h
      · obtain ⟨m', hm', hr⟩ := generateModules_spec env ms s1 ds st' h d hd
        exact ⟨m', List.mem_cons_of_mem _ hm', hr⟩
      · obtain ⟨rest, s2, hrest, h⟩ := se_bind_ok h
        obtain ⟨h, _⟩ := se_pure_ok h
        rw [h, List.mem_cons] at hd
        rcases hd with hd | hd
        · obtain ⟨hpkg, tail, htext⟩ := callGenerator_text hcall
          refine ⟨m, by simp, ?_⟩
          rw [hd]
          dsimp only
          refine ⟨rfl, ?_, rfl, tail, ?_⟩
          · rw [hpkg]
            unfold modulePackage
            split <;> rfl
          · rw [htext, hpkg]
        · obtain ⟨m', hm', hr⟩ := generateModules_spec env ms s1 rest s2 hrest d hd
          exact ⟨m', List.mem_cons_of_mem _ hm', hr⟩
/-! ### at most one `write` per path -/

/-- number of `write` operations on path `p` -/
def writeCount (p : String) (ops : List WriteOp) : Nat :=
  (ops.filter fun o => o.path == p && decide (o.mode = .write)).length

theorem writeCount_append (p : String) (a b : List WriteOp) : writeCount p (a ++ b) = writeCount p a + writeCount p b := by
  simp [writeCount]

theorem writeCount_cons (p : String) (o : WriteOp) (ops : List WriteOp) :
    writeCount p (o :: ops) = (if o.path = p ∧ o.mode = .write then 1 else 0) + writeCount p ops := by
  unfold writeCount
  rw [List.filter_cons]
  by_cases h : o.path = p ∧ o.mode = .write
  · simp [h]; omega
  · have : (o.path == p && decide (o.mode = .write)) = false := by
      simpa using h
    simp [this, h]

/-- two class paths that go to the same file also go to the same directory -/
def OutsideInjective (outside : List String) : Prop :=
  ∀ c₁ ∈ outside, ∀ c₂ ∈ outside, outsideFile c₁ = outsideFile c₂ → outsideModulePath c₁ = outsideModulePath c₂

theorem outsideWrites_paths (safe : Bool) : ∀ (cs created existing : List String) (ops : List WriteOp),
    outsideWrites safe cs created existing = .ok ops → ∀ op ∈ ops, ∃ c ∈ cs, op.path = outsideFile c
  | [], _, _, ops, h, op, hop => by
    simp only [outsideWrites, Except.ok.injEq] at h
    rw [← h] at hop; simp at hop
  | c :: cs, created, existing, ops, h, op, hop => by
    obtain ⟨op0, created', ops', hr, hr2, rfl⟩ := outsideWrites_cons_ok h
    rcases List.mem_cons.1 hop with rfl | hop
    · exact ⟨c, by simp, (createOutsidePackageClass_ok hr).2.1⟩
    · obtain ⟨c', hc', hp⟩ := outsideWrites_paths safe cs _ _ ops' hr2 op hop
      exact ⟨c', List.mem_cons_of_mem _ hc', hp⟩

theorem outsideWrites_writeCount (safe : Bool) (all : List String) (hinj : OutsideInjective all) (p : String) :
    ∀ (cs : List String), (∀ c ∈ cs, c ∈ all) → ∀ (created existing : List String) (ops : List WriteOp),
    outsideWrites safe cs created existing = .ok ops →
      writeCount p ops ≤ 1
      ∧ ((∃ c ∈ all, outsideFile c = p ∧ outsideModulePath c ∈ created ∧ p ∈ existing) → writeCount p ops = 0)
  | [], _, _, _, ops, h => by
    simp only [outsideWrites, Except.ok.injEq] at h
    rw [← h]; simp [writeCount]
  | c :: cs, hcs, created, existing, ops, h => by
    obtain ⟨op0, created', ops', hr, hr2, rfl⟩ := outsideWrites_cons_ok h
    obtain ⟨_, hp, hcr, hcase⟩ := createOutsidePackageClass_ok hr
    have hc : c ∈ all := hcs c (by simp)
    have ih := outsideWrites_writeCount safe all hinj p cs (fun x hx => hcs x (by simp [hx])) created'
      (insertSet op0.path existing) ops' hr2
    have hmono : ∀ x, x ∈ created → x ∈ created' := by
      intro x hx; rw [hcr]; split
      · exact hx
      · exact List.mem_append_left _ hx
    have hmono2 : ∀ x, x ∈ existing → x ∈ insertSet op0.path existing := fun x hx => (mem_insertSet _ _ _).2 (Or.inl hx)
    have hprem : (∃ c ∈ all, outsideFile c = p ∧ outsideModulePath c ∈ created ∧ p ∈ existing) →
        (∃ c ∈ all, outsideFile c = p ∧ outsideModulePath c ∈ created' ∧ p ∈ insertSet op0.path existing) := by
      rintro ⟨c', h1, h2, h3, h4⟩
      exact ⟨c', h1, h2, hmono _ h3, hmono2 _ h4⟩
    rw [writeCount_cons]
    by_cases hw : op0.path = p ∧ op0.mode = .write
    · rw [if_pos hw]
      have hcr' : outsideModulePath c ∈ created' := by
        rw [hcr]; split
        · assumption
        · simp
      have h0 : writeCount p ops' = 0 :=
        ih.2 ⟨c, hc, hp ▸ hw.1, hcr', (mem_insertSet _ _ _).2 (Or.inr hw.1.symm)⟩
      refine ⟨by omega, ?_⟩
      rintro ⟨c', h1, h2, h3, h4⟩
      exfalso
      rcases hcase with ⟨ha, _⟩ | ⟨_, _, hnot⟩
      · rw [hw.2] at ha; exact absurd ha (by simp)
      · apply hnot
        have hfile : outsideFile c = p := hp ▸ hw.1
        refine ⟨hfile ▸ h4, ?_⟩
        rw [hinj c hc c' h1 (hfile.trans h2.symm)]
        exact h3
    · rw [if_neg hw]
      exact ⟨by omega, fun hx => by have := ih.2 (hprem hx); omega⟩

theorem moduleOps_writeCount (p : String) : ∀ (stubs : List StubData), (stubs.map stubPath).Nodup →
    writeCount p (stubs.map fun d => ({ path := stubPath d, mode := .write, text := d.text } : WriteOp)) ≤ 1
    ∧ (p ∉ stubs.map stubPath →
        writeCount p (stubs.map fun d => ({ path := stubPath d, mode := .write, text := d.text } : WriteOp)) = 0)
  | [], _ => by simp [writeCount]
  | d :: ds, hn => by
    simp only [List.map_cons, List.nodup_cons] at hn
    have ih := moduleOps_writeCount p ds hn.2
    simp only [List.map_cons, writeCount_cons, List.mem_cons, not_or]
    by_cases hd : stubPath d = p
    · have : p ∉ ds.map stubPath := hd ▸ hn.1
      have h0 := ih.2 this
      simp only [hd, true_and, if_true]
      refine ⟨by omega, fun h => absurd trivial h.1⟩
    · simp only [hd, false_and, if_false]
      refine ⟨by omega, fun h => by have := ih.2 h.2; omega⟩

theorem createStubFiles_writeCount {safe : Bool} {stubs : List StubData} {outside pre : List String} {ops : List WriteOp}
    (h : createStubFiles safe stubs outside pre = .ok ops) (h1 : (stubs.map stubPath).Nodup)
    (h2 : ∀ c ∈ outside, outsideFile c ∉ stubs.map stubPath) (h3 : OutsideInjective outside) (p : String) :
    writeCount p ops ≤ 1 := by
  obtain ⟨oops, ho, rfl⟩ := createStubFiles_ok h
  rw [writeCount_append]
  have hm := moduleOps_writeCount p stubs h1
  have hcs : ∀ c ∈ sortStrings outside, c ∈ outside := fun c hc => (mem_sortStrings c outside).1 hc
  by_cases hp : p ∈ stubs.map stubPath
  · have : writeCount p oops = 0 := by
      unfold writeCount
      rw [List.length_eq_zero_iff, List.filter_eq_nil_iff]
      intro o ho' hcond
      simp only [Bool.and_eq_true, beq_iff_eq] at hcond
      obtain ⟨c, hc, hpath⟩ := outsideWrites_paths safe _ _ _ _ ho o ho'
      exact h2 c (hcs c hc) (hpath ▸ hcond.1 ▸ hp)
    omega
  · have := (outsideWrites_writeCount safe outside h3 p _ hcs _ _ _ ho).1
    have := hm.2 hp
    omega


theorem stubPath_eq_join (d : StubData) : stubPath d = joinWith "/" (dirSegments d ++ [stubFileName d]) := rfl

/-- class paths whose directory segments are non-empty and `/`-free -/
def PlainOutside (outside : List String) : Prop :=
  ∀ c ∈ outside, ∀ s ∈ dropLast' (splitDot c), '/' ∉ s.toList ∧ s ≠ ""

theorem splitSlash_outsideFile (c : String) (h : ∀ s ∈ dropLast' (splitDot c), '/' ∉ s.toList ∧ s ≠ "") :
    splitSlash (outsideFile c) = dropLast' (splitDot c) ++ [pyLstrip (outsideModuleName c) "_" ++ ".sdsstub"] := by
  have hpp : pathParts (outsideModulePath c) = dropLast' (splitDot c) :=
    pathParts_joinWith _ (fun s hs => ⟨(h s hs).1, (h s hs).2, ne_dot_of_mem_splitDot c s (mem_dropLast' s _ hs)⟩)
  unfold outsideFile
  rw [hpp]
  unfold splitSlash
  apply pySplit_joinWith '/' "/" (by decide) _ (by simp)
  intro s hs
  rw [List.mem_append, List.mem_singleton] at hs
  rcases hs with hs | rfl
  · exact (h s hs).1
  · rw [String.toList_append, List.mem_append, not_or]
    refine ⟨?_, by decide⟩
    have hmn : '/' ∉ (outsideModuleName c).toList := by
      unfold outsideModuleName
      by_cases hne : dropLast' (splitDot c) = []
      · rw [hne]; decide
      · exact (h _ (lastD_mem "" _ hne)).1
    unfold pyLstrip
    rw [String.toList_ofList]
    exact fun hx => hmn (mem_lstripSet _ _ _ hx)

theorem outsideInjective_of_plain (outside : List String) (h : PlainOutside outside) : OutsideInjective outside := by
  intro c₁ h1 c₂ h2 he
  have := congrArg splitSlash he
  rw [splitSlash_outsideFile c₁ (h c₁ h1), splitSlash_outsideFile c₂ (h c₂ h2)] at this
  obtain ⟨ha, _⟩ := List.append_inj' this (by simp only [List.length_singleton])
  unfold outsideModulePath
  rw [ha]

theorem coherentOutside_of_plain (outside : List String) (h : PlainOutside outside) : CoherentOutside outside := by
  intro c₁ h1 c₂ h2 he
  have hp : ∀ c ∈ outside, pathParts (outsideModulePath c) = dropLast' (splitDot c) := fun c hc =>
    pathParts_joinWith _ (fun s hs => ⟨(h c hc s hs).1, (h c hc s hs).2,
      ne_dot_of_mem_splitDot c s (mem_dropLast' s _ hs)⟩)
  have : dropLast' (splitDot c₁) = dropLast' (splitDot c₂) := by
    rw [← hp c₁ h1, ← hp c₂ h2, he]
  unfold outsideModuleName
  rw [this]

/-! ### frame: the string generation never touches `creatingReexport` / `reexportModuleId` -/

/-- the part of the generator state that the string generation never touches -/
def St.frameEq (s t : St) : Prop := s.creatingReexport = t.creatingReexport ∧ s.reexportModuleId = t.reexportModuleId

/-- running `x` from a state that agrees with `s0` on the frame ends in such a state -/
structure KeepsAt {α : Type} (s0 : St) (x : G α) : Prop where
  run : ∀ (s : St) (a : α) (s' : St), s.frameEq s0 → x s = .ok (a, s') → s'.frameEq s0


theorem KeepsAt.of_inv {α : Type} {s0 : St} {x : G α} (h : Inv (St.frameEq · s0) (fun _ => True) x) :
    KeepsAt s0 x :=
  ⟨fun _ _ _ hs hx => h.ok hs hx⟩

open Lean in
macro "keeps" "[" ls:term,* "]" : tactic => do
  let alts ← ls.getElems.mapM fun l => `(tacticSeq| apply $l)
  `(tactic| repeat' (first
      | with_reducible exact KeepsAt.pure _
      | with_reducible exact KeepsAt.throw _
      | with_reducible exact addTodo_keeps _ _
      | with_reducible exact logEmit_keeps _ _ _
      | with_reducible assumption
      | with_reducible exact And.left ‹_ ∧ _›
      | ((with_reducible apply KeepsAt.modify); intro _; exact ⟨rfl, rfl⟩)
      | ((with_reducible apply KeepsAt.set'); (with_reducible assumption); (with_reducible rfl); (with_reducible rfl))
      | ((with_reducible apply KeepsAt.get_bind); intro _ _)
      $[| with_reducible $alts:tacticSeq]*
      | with_reducible apply KeepsAt.bind
      | intro _
      | split
      | dsimp only))

/-- the frame is untouched by every primitive of the string generation, hence (`Proofs/GenInv`) by all of it -/
theorem frame_genInv (s0 : St) (env : Env) : GenInv env (St.frameEq · s0) (fun _ => True) where
  errs _ _ := trivial
  addTodo _ _ := Triple.modify fun _ hs => hs
  log _ _ hs := hs
  addToImports q := inv_addToImports env q trivial fun s hs => by
    obtain ⟨_, _, _, _, _, h6, h7⟩ := q11_effect_onlyIO env q s
    exact ⟨h7.trans hs.1, h6.trans hs.2⟩
  hasNode n r node := Triple.of_wp fun st hs => wp_conseq (hasNodeShorterReexport_wp n r node st) fun _ _ h => by
    obtain ⟨_, rfl⟩ := h.2; exact hs
  todoMsg i := Triple.of_wp fun st hs => wp_conseq (createTodoMsg_wp i st) fun _ _ h => by rw [h.2]; exact hs
  generics _ _ hs := hs

theorem typeStrs_keeps (s0 : St) (env : Env) : (ts : List AType) → KeepsAt s0 (typeStrs env ts) :=
  fun ts => .of_inv (inv_typeStrs (frame_genInv s0 env) ts)

theorem typeStrsSkipLit_keeps (s0 : St) (env : Env) : (ts : List AType) → KeepsAt s0 (typeStrsSkipLit env ts) :=
  fun ts => .of_inv (inv_typeStrsSkipLit (frame_genInv s0 env) ts)

theorem typeStrsNamed_keeps (s0 : St) (env : Env) (pre : String) (i : Nat) :
    (ts : List AType) → KeepsAt s0 (typeStrsNamed env pre i ts) :=
  fun ts => .of_inv (inv_typeStrsNamed (frame_genInv s0 env) pre i ts)

theorem createInternalClassString_keeps (s0 : St) (env : Env) : (fuel : Nat) → (sc : String) → (inner : String) →
    (ad : List String) → KeepsAt s0 (createInternalClassString env fuel sc inner ad) :=
  fun fuel sc inner ad => .of_inv (inv_createInternalClassString (frame_genInv s0 env) fuel sc inner ad)

/-! ### stubs created from `__init__` re-exports -/

/-- the state in which the body of a re-export stub starts -/
def q11_reexportStart (moduleId : String) (el : Node) (st : St) : St :=
  let s1 := { st with imports := [], classGenerics := [] }
  let s2 := if s1.creatingReexport then { s1 with reexportModuleId := moduleId ++ "/" ++ el.name }
            else { s1 with moduleId := moduleId ++ "/" ++ el.name }
  { s2 with log := s2.log ++ [("restub", moduleId ++ "/" ++ el.name)] }

/-- the body of a re-export stub -/
def q11_reexportBody (env : Env) (el : Node) : G String :=
  match el with
  | .cls c => createClassString env (classFuel env) c "" true
  | .fn f => createFunctionString env f "" false true

/-- what a successful run of the `cons` case went through: the reset of `imports`/`classGenerics`, `setModuleId` and
    the log entry (together `q11_reexportStart`), the body, the import block, the remaining elements -/
theorem createReexportElements_cons_ok {env : Env} {moduleId : String} {el : Node} {els : List Node} {st st' : St}
    {ds : List StubData} (h : createReexportElements env moduleId (el :: els) st = .ok (ds, st')) :
    ∃ body sB imports sI rest,
      q11_reexportBody env el (q11_reexportStart moduleId el st) = .ok (body, sB)
      ∧ createImportsString env sB = .ok (imports, sI)
      ∧ createReexportElements env moduleId els sI = .ok (rest, st')
      ∧ ds = { dir := getModuleId sI, name := el.name,
               text := packageHeader env
                   (joinWith "." (dropLast' (splitSlash (getModuleId (q11_reexportStart moduleId el st)))))
                 ++ imports ++ "\n" ++ body ++ "\n",
               isPackageModule := true } :: rest := by
  unfold createReexportElements at h
  have hh := se_bind_ok h; clear h; obtain ⟨_, s1, h1, h⟩ := hh
  have e1 := se_modify_ok h1
  have hh := se_bind_ok h; clear h; obtain ⟨_, s2, h2, h⟩ := hh
  unfold setModuleId at h2
  have e2 := se_modify_ok h2
  have hh := se_bind_ok h; clear h; obtain ⟨_, s3, h3, h⟩ := hh
  unfold logEmit at h3
  have e3 := se_modify_ok h3
  have hstart : s3 = q11_reexportStart moduleId el st := by rw [e3, e2, e1]; rfl
  subst hstart
  have hh := se_bind_ok h; clear h; obtain ⟨sa, s3', h4, h⟩ := hh
  rw [(se_get_ok h4).1, (se_get_ok h4).2] at h
  clear h4
  dsimp only at h
  have hh := se_bind_ok h; clear h; obtain ⟨body, s4, h5, h⟩ := hh
  have hh := se_bind_ok h; clear h; obtain ⟨imports, s5, h6, h⟩ := hh
  have hh := se_bind_ok h; clear h; obtain ⟨sb, s5', h7, h⟩ := hh
  rw [(se_get_ok h7).1, (se_get_ok h7).2] at h
  clear h7
  try dsimp only at h
  have hh := se_bind_ok h; clear h; obtain ⟨rest, s6, h8, h⟩ := hh
  obtain ⟨hds, hst⟩ := se_pure_ok h
  exact ⟨body, s4, imports, s5, rest, by cases el <;> exact h5, h6, hst ▸ h8, hds⟩

theorem createReexportElements_spec (env : Env) (moduleId : String) :
    ∀ (els : List Node) (st : St) (ds : List StubData) (st' : St), st.creatingReexport = true →
    createReexportElements env moduleId els st = .ok (ds, st') →
    ∀ d ∈ ds, ∃ el ∈ els, d.isPackageModule = true ∧ d.name = el.name ∧ d.dir = moduleId ++ "/" ++ el.name
      ∧ ∃ rest, d.text = packageHeader env (joinWith "." (dropLast' (splitSlash (moduleId ++ "/" ++ el.name)))) ++ rest
  | [], st, ds, st', _, h, d, hd => by
    unfold createReexportElements at h
    obtain ⟨h, _⟩ := se_pure_ok h
    rw [h] at hd
    simp at hd
  | el :: els, st, ds, st', hst, h, d, hd => by
    obtain ⟨body, sB, imports, sI, rest, hb, hi, hr, rfl⟩ := createReexportElements_cons_ok h
    -- the frame: the start state is in the re-export phase with this stub's id, body and import block keep both
    have hs0 : (q11_reexportStart moduleId el st).creatingReexport = true ∧
        (q11_reexportStart moduleId el st).reexportModuleId = moduleId ++ "/" ++ el.name := by
      unfold q11_reexportStart; simp [hst]
    have hbody : sB.creatingReexport = (q11_reexportStart moduleId el st).creatingReexport ∧
        sB.reexportModuleId = (q11_reexportStart moduleId el st).reexportModuleId := by
      cases el with
      | cls c => exact Inv.rel_of_ok (R := fun s0 (s : St) => s.frameEq s0) (fun _ => ⟨rfl, rfl⟩) (fun s0 => inv_createClassString (frame_genInv s0 env) _ c "" true) hb
      | fn f => exact Inv.rel_of_ok (R := fun s0 (s : St) => s.frameEq s0) (fun _ => ⟨rfl, rfl⟩) (fun s0 => inv_createFunctionString (frame_genInv s0 env) f "" false true) hb
    have himp := Inv.rel_of_ok (R := fun s0 (s : St) => s.frameEq s0) (fun _ => ⟨rfl, rfl⟩) (fun _ => inv_createImportsString) hi
    have hsI : sI.creatingReexport = true ∧ sI.reexportModuleId = moduleId ++ "/" ++ el.name :=
      ⟨himp.1.trans (hbody.1.trans hs0.1), himp.2.trans (hbody.2.trans hs0.2)⟩
    have hg0 : getModuleId (q11_reexportStart moduleId el st) = moduleId ++ "/" ++ el.name := by
      simp [getModuleId, hs0.1, hs0.2]
    have hgI : getModuleId sI = moduleId ++ "/" ++ el.name := by simp [getModuleId, hsI.1, hsI.2]
    rcases List.mem_cons.1 hd with hd | hd
    · refine ⟨el, by simp, ?_⟩
      rw [hd]
      dsimp only
      refine ⟨rfl, rfl, hgI, imports ++ "\n" ++ body ++ "\n", ?_⟩
      rw [hg0]
      simp only [String.append_assoc]
    · obtain ⟨el', hel', hr'⟩ := createReexportElements_spec env moduleId els sI rest st' hsI.1 hr d hd
      exact ⟨el', List.mem_cons_of_mem _ hel', hr'⟩

theorem splitOnChar_append_last (sep : Char) (b : List Char) (hb : sep ∉ b) :
    ∀ (a : List Char), splitOnChar sep (a ++ sep :: b) = splitOnChar sep a ++ [b]
  | [] => by
    rw [List.nil_append, splitOnChar_cons_sep, splitOnChar_of_not_mem sep b hb]
    rfl
  | c :: a => by
    have ih := splitOnChar_append_last sep b hb a
    by_cases hc : c = sep
    · subst hc
      rw [List.cons_append, splitOnChar_cons_sep, splitOnChar_cons_sep, ih]
      rfl
    · cases hs : splitOnChar sep a with
      | nil => exact absurd hs (splitOnChar_ne_nil sep a)
      | cons p ps =>
        rw [hs] at ih
        rw [List.cons_append, splitOnChar_cons_ne sep c _ p (ps ++ [b]) hc ih, splitOnChar_cons_ne sep c a p ps hc hs]
        rfl

theorem splitSlash_append_name (m name : String) (h : '/' ∉ name.toList) :
    splitSlash (m ++ "/" ++ name) = splitSlash m ++ [name] := by
  unfold splitSlash pySplit
  have : (m ++ "/" ++ name).toList = m.toList ++ '/' :: name.toList := by
    simp [String.toList_append]
  rw [this, splitOnChar_append_last '/' name.toList h, List.map_append]
  simp [String.ofList_toList]

theorem dropLast'_append_singleton {α : Type} (x : α) : ∀ (l : List α), dropLast' (l ++ [x]) = l
  | [] => rfl
  | [a] => rfl
  | a :: b :: l => by
    have := dropLast'_append_singleton x (b :: l)
    simp only [List.cons_append] at this ⊢
    simp only [dropLast']
    rw [this]

theorem pathParts_append_name (m name : String) (h : '/' ∉ name.toList) (h1 : name ≠ "") (h2 : name ≠ ".") :
    pathParts (m ++ "/" ++ name) = pathParts m ++ [name] := by
  unfold pathParts
  rw [splitSlash_append_name m name h, List.filter_append]
  congr 1
  simp [h1, h2]

theorem pathParts_eq_splitSlash (m : String) (h : ∀ s ∈ splitSlash m, s ≠ "" ∧ s ≠ ".") : pathParts m = splitSlash m := by
  unfold pathParts
  rw [List.filter_eq_self]
  intro s hs
  simpa using h s hs

theorem createReexportModules_spec (env : Env) :
    ∀ (rs : List (String × List Node)) (st : St) (ds : List StubData) (st' : St),
      createReexportModules env rs st = .ok (ds, st') →
      ∀ d ∈ ds, d.isPackageModule = true ∧ ∃ r ∈ rs, (∃ el ∈ r.2, d.name = el.name) ∧ d.dir = r.1 ++ "/" ++ d.name
        ∧ ∃ rest, d.text = packageHeader env (joinWith "." (dropLast' (splitSlash d.dir))) ++ rest
  | [], st, ds, st', h, d, hd => by
    unfold createReexportModules at h
    obtain ⟨h, _⟩ := se_pure_ok h
    rw [h] at hd
    simp at hd
  | (moduleId, elements) :: rs, st, ds, st', h, d, hd => by
    unfold createReexportModules at h
    have hh := se_bind_ok h; clear h; obtain ⟨_, s1, h1, h⟩ := hh
    have hh := se_bind_ok h; clear h; obtain ⟨_, s2, h2, h⟩ := hh
    have hh := se_bind_ok h; clear h; obtain ⟨_, s3, h3, h⟩ := hh
    have e3 := se_modify_ok h3
    try dsimp only at h
    have hh := se_bind_ok h; clear h; obtain ⟨ds1, s4, h4, h⟩ := hh
    have hh := se_bind_ok h; clear h; obtain ⟨more, s5, h5, h⟩ := hh
    obtain ⟨h, _⟩ := se_pure_ok h
    have hs3 : s3.creatingReexport = true := by rw [e3]
    rw [h, List.mem_append] at hd
    rcases hd with hd | hd
    · obtain ⟨el, hel, p1, p2, p3, rest, p4⟩ := createReexportElements_spec env moduleId _ s3 ds1 s4 hs3 h4 d hd
      rw [mem_sortBy] at hel
      rw [← p2] at p3 p4
      exact ⟨p1, (moduleId, elements), by simp, ⟨el, hel, p2⟩, p3, rest, by rw [p3]; exact p4⟩
    · obtain ⟨p1, r, hr, p2⟩ := createReexportModules_spec env rs s4 more s5 h5 d hd
      exact ⟨p1, r, List.mem_cons_of_mem _ hr, p2⟩

/-- what `generate_stub_data` returns: module stubs, then stubs for re-exported declarations -/
theorem generateStubData_spec (env : Env) (st : St) (ds : List StubData) (st' : St)
    (h : generateStubData env st = .ok (ds, st')) :
    ∀ d ∈ ds,
      (∃ m ∈ env.api.modules, d.isPackageModule = false ∧ d.dir = replaceChar (modulePackage env m) '.' "/"
        ∧ d.name = moduleStubName env m
        ∧ ∃ rest, d.text = moduleDoc m ++ packageHeader env (modulePackage env m) ++ rest)
      ∨ (d.isPackageModule = true ∧ ∃ moduleId, d.dir = moduleId ++ "/" ++ d.name
        ∧ ∃ rest, d.text = packageHeader env (joinWith "." (dropLast' (splitSlash d.dir))) ++ rest) := by
  unfold generateStubData at h
  have hh := se_bind_ok h; clear h; obtain ⟨a, s1, h1, h⟩ := hh
  have hh := se_bind_ok h; clear h; obtain ⟨b, s2, h2, h⟩ := hh
  obtain ⟨h, _⟩ := se_pure_ok h
  unfold createReexportModuleStrings at h2
  have hh := se_bind_ok h2; clear h2; obtain ⟨sg, s1', h3, h2⟩ := hh
  intro d hd
  rw [h, List.mem_append] at hd
  rcases hd with hd | hd
  · exact Or.inl (generateModules_spec env _ st a s1 h1 d hd)
  · obtain ⟨p1, r, _, _, p3, p4⟩ := createReexportModules_spec env _ s1' b s2 h2 d hd
    exact Or.inr ⟨p1, r.1, p3, p4⟩

/-! ### reading the header back -/

theorem append_cons_inj_of_not_mem {c : Char} : ∀ {a b r r' : List Char}, a ++ c :: r = b ++ c :: r' → c ∉ a → c ∉ b → a = b
  | [], [], _, _, _, _, _ => rfl
  | [], y :: b, _, _, h, _, hb => by
    simp only [List.nil_append, List.cons_append, List.cons.injEq] at h
    exact absurd (h.1 ▸ List.mem_cons_self) hb
  | x :: a, [], _, _, h, ha, _ => by
    simp only [List.nil_append, List.cons_append, List.cons.injEq] at h
    exact absurd (h.1 ▸ List.mem_cons_self) ha
  | x :: a, y :: b, _, _, h, ha, hb => by
    simp only [List.cons_append, List.cons.injEq] at h
    simp only [List.mem_cons, not_or] at ha hb
    rw [h.1, append_cons_inj_of_not_mem h.2 ha.2 hb.2]

/-! ### keyword escaping of dotted paths (`escapePath`) and reading it back -/

theorem pf_mem_joinL (sep : List Char) (x : Char) : ∀ (parts : List (List Char)), x ∈ joinL sep parts →
    x ∈ sep ∨ ∃ q ∈ parts, x ∈ q
  | [], h => by simp [joinL] at h
  | [a], h => Or.inr ⟨a, by simp, h⟩
  | a :: b :: l, h => by
    have e : joinL sep (a :: b :: l) = a ++ sep ++ joinL sep (b :: l) := rfl
    rw [e, List.mem_append, List.mem_append] at h
    rcases h with (h | h) | h
    · exact Or.inr ⟨a, by simp, h⟩
    · exact Or.inl h
    · rcases pf_mem_joinL sep x (b :: l) h with h' | ⟨q, hq, hx⟩
      · exact Or.inl h'
      · exact Or.inr ⟨q, List.mem_cons_of_mem _ hq, hx⟩

/-- a keyword is wrapped in back-quotes, any other name is left alone -/
theorem pf_escapeKeyword_toList (s : String) :
    (s ∉ Generated.keywords ∧ escapeKeyword s = s)
    ∨ (s ∈ Generated.keywords ∧ (escapeKeyword s).toList = '`' :: (s.toList ++ ['`'])) := by
  unfold escapeKeyword
  by_cases h : Generated.keywords.contains s = true
  · right
    rw [if_pos h]
    refine ⟨List.contains_iff_mem.1 h, ?_⟩
    have e : Generated.keywordWrap.1.toList = ['`'] ∧ Generated.keywordWrap.2.toList = ['`'] := by decide
    rw [String.toList_append, String.toList_append, e.1, e.2]
    rfl
  · left
    rw [if_neg h]
    exact ⟨fun hm => h (List.contains_iff_mem.2 hm), rfl⟩

theorem pf_escapeKeyword_of_not_keyword (s : String) (h : s ∉ Generated.keywords) : escapeKeyword s = s := by
  rcases pf_escapeKeyword_toList s with ⟨_, e⟩ | ⟨hm, _⟩
  · exact e
  · exact absurd hm h

/-- the characters of an escaped name: those of the name, and the back-quote -/
theorem pf_mem_escapeKeyword (s : String) (x : Char) (hx : x ∈ (escapeKeyword s).toList) : x ∈ s.toList ∨ x = '`' := by
  rcases pf_escapeKeyword_toList s with ⟨_, e⟩ | ⟨_, e⟩
  · rw [e] at hx; exact Or.inl hx
  · rw [e] at hx
    simp only [List.mem_cons, List.mem_append, List.not_mem_nil, or_false] at hx
    rcases hx with h | h | h
    · exact Or.inr h
    · exact Or.inl h
    · exact Or.inr h

/-- the dot-segments of an escaped path are the escaped dot-segments of the path -/
theorem pf_splitDot_escapePath (p : String) : splitDot (escapePath p) = (splitDot p).map escapeKeyword := by
  unfold escapePath splitDot
  apply pySplit_joinWith '.' "." (by decide) _ (by simpa using pySplit_ne_nil '.' p)
  intro q hq hx
  rw [List.mem_map] at hq
  obtain ⟨s, hs, rfl⟩ := hq
  rcases pf_mem_escapeKeyword s '.' hx with h | h
  · exact sep_not_mem_pySplit '.' p s hs h
  · exact absurd h (by decide)

/-- the characters of an escaped path: those of the path, the back-quote (and the dot) -/
theorem pf_mem_escapePath (p : String) (x : Char) (hx : x ∈ (escapePath p).toList) :
    x ∈ p.toList ∨ x = '`' ∨ x = '.' := by
  unfold escapePath at hx
  rw [toList_joinWith] at hx
  rcases pf_mem_joinL _ x _ hx with h | ⟨q, hq, hxq⟩
  · right; right
    have e : (".":String).toList = ['.'] := by decide
    rw [e] at h
    simpa using h
  · rw [List.map_map, List.mem_map] at hq
    obtain ⟨s, hs, rfl⟩ := hq
    rcases pf_mem_escapeKeyword s x hxq with h | h
    · exact Or.inl (mem_of_mem_pySplit '.' p s hs x h)
    · exact Or.inr (Or.inl h)

/-- remove the back-quotes of one segment (what the Safe-DS lexer does with `` `id` ``) -/
def pf_unescapeSegment (s : String) : String := String.ofList (s.toList.filter (· != '`'))

/-- read a (possibly escaped) package path back: strip the back-quotes of every dot-segment -/
def pf_unescapePath (p : String) : String := joinWith "." ((splitDot p).map pf_unescapeSegment)

theorem pf_unescapeSegment_of_no_backquote (s : String) (h : '`' ∉ s.toList) : pf_unescapeSegment s = s := by
  unfold pf_unescapeSegment
  rw [← String.toList_inj, String.toList_ofList, List.filter_eq_self]
  intro x hx
  have : x ≠ '`' := fun e => h (e ▸ hx)
  simpa using this

theorem pf_unescapeSegment_escapeKeyword (s : String) (h : '`' ∉ s.toList) : pf_unescapeSegment (escapeKeyword s) = s := by
  rcases pf_escapeKeyword_toList s with ⟨_, e⟩ | ⟨_, e⟩
  · rw [e]; exact pf_unescapeSegment_of_no_backquote s h
  · unfold pf_unescapeSegment
    rw [e, ← String.toList_inj, String.toList_ofList]
    have hf : s.toList.filter (· != '`') = s.toList := by
      rw [List.filter_eq_self]
      intro x hx
      have : x ≠ '`' := fun e => h (e ▸ hx)
      simpa using this
    simp [List.filter_append, hf]

/-- the package path is recoverable from its escaped form -/
theorem pf_unescapePath_escapePath (p : String) (h : '`' ∉ p.toList) : pf_unescapePath (escapePath p) = p := by
  unfold pf_unescapePath
  rw [pf_splitDot_escapePath, List.map_map]
  have : (splitDot p).map (pf_unescapeSegment ∘ escapeKeyword) = splitDot p := by
    conv => rhs; rw [← List.map_id (splitDot p)]
    apply List.map_congr_left
    intro s hs
    exact pf_unescapeSegment_escapeKeyword s (fun hx => h (mem_of_mem_pySplit '.' p s hs '`' hx))
  rw [this]
  exact joinWith_pySplit p '.' "." (by decide)

theorem pf_escapePath_inj (p₁ p₂ : String) (h1 : '`' ∉ p₁.toList) (h2 : '`' ∉ p₂.toList)
    (h : escapePath p₁ = escapePath p₂) : p₁ = p₂ := by
  rw [← pf_unescapePath_escapePath p₁ h1, ← pf_unescapePath_escapePath p₂ h2, h]


/-- the characters of the header: for a path that is its own Safe-DS spelling the `package` line only,
    otherwise the `@PythonModule` annotation first -/
theorem packageHeader_toList (env : Env) (p : String) :
    (packageHeader env p).toList =
      if p = convertPath p env.safe then "package ".toList ++ ((escapePath p).toList ++ ['\n'])
      else "@PythonModule(\"".toList ++ (p.toList ++ ('"' :: (")\npackage ".toList ++
        ((escapePath (convertPath p env.safe)).toList ++ ['\n'])))) := by
  unfold packageHeader
  have e : ("" : String).toList = [] ∧ "\n".toList = ['\n'] ∧ "\")\n".toList = '"' :: ")\n".toList ∧
      ")\npackage ".toList = ")\n".toList ++ "package ".toList := by decide
  by_cases c : p = convertPath p env.safe
  · rw [if_pos c, ← c]
    simp only [bne_self_eq_false, Bool.false_eq_true, if_false, String.toList_append, e.1, e.2.1, List.nil_append,
      List.append_assoc]
  · rw [if_neg c]
    simp only [bne_iff_ne, ne_eq, c, not_false_eq_true, if_true, String.toList_append, e.2.1, e.2.2.1, e.2.2.2,
      List.append_assoc, List.cons_append]

/-- a run of the generator is ok iff `generate_stub_data` and `create_stub_files` are, and then the result is … -/
theorem runGenerator_ok {api : API} {safe : Bool} {pre : List String} {r : GenResult} :
    runGenerator api safe pre = .ok r ↔
      ∃ stubs st ops, (generateStubData { api := api, safe := safe }).run {} = .ok (stubs, st) ∧
        createStubFiles safe stubs st.outside pre = .ok ops ∧
        r = { log := st.log, stubs := stubs, outside := st.outside, ops := ops } := by
  unfold runGenerator
  dsimp only
  cases hg : (generateStubData { api := api, safe := safe }).run {} with
  | error e => exact ⟨nofun, fun ⟨_, _, _, h, _⟩ => nomatch h⟩
  | ok x =>
    obtain ⟨stubs, st⟩ := x
    dsimp only
    cases hf : createStubFiles safe stubs st.outside pre with
    | error e => exact ⟨nofun, fun ⟨_, _, _, h1, h2, _⟩ => by cases h1; rw [hf] at h2; cases h2⟩
    | ok ops =>
      constructor
      · intro h; cases h; exact ⟨stubs, st, ops, rfl, hf, rfl⟩
      · rintro ⟨_, _, _, h1, h2, rfl⟩; cases h1; rw [hf] at h2; cases h2; rfl

end StubGen
