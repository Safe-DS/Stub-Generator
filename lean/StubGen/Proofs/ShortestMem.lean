/-
`_get_shortest_public_reexport` returns the dotted id of one of the modules of the re-export map (or nothing).
-/
import StubGen.Proofs.Files
import StubGen.Proofs.Lexical
import StubGen.Spec.Balance

namespace StubGen

theorem sm_firstSome_some {α β : Type} (f : α → Option β) :
    ∀ (l : List α) (b : β), firstSome f l = some b → ∃ a ∈ l, f a = some b
  | [], b, h => by simp [firstSome] at h
  | a :: as, b, h => by
    unfold firstSome at h
    split at h
    · rename_i b' hb
      cases h
      exact ⟨a, by simp, hb⟩
    · obtain ⟨x, hx, hfx⟩ := sm_firstSome_some f as b h
      exact ⟨x, by simp [hx], hfx⟩

/-- the first hit of a search whose hits all carry `i` in front -/
theorem sm_firstSome_fst {α β γ : Type} {c : α → Bool} {i : β} {g : α → γ} {l : List α} {t : β × γ}
    (h : firstSome (fun a => if c a then some (i, g a) else none) l = some t) : t.1 = i := by
  obtain ⟨q, _, hq⟩ := sm_firstSome_some _ _ _ h
  split at hq
  · cases hq; rfl
  · cases hq

theorem sm_reexportTuples_fst (check : String → Bool → Bool) (m : ModRef) (t : String × Option String)
    (h : t ∈ reexportTuples check m) : t.1 = m.id := by
  unfold reexportTuples at h
  rcases List.mem_append.mp h with h | h <;> split at h
  · rename_i ht; cases List.mem_singleton.1 h; exact sm_firstSome_fst (g := QImport.alias) ht
  · cases h
  · rename_i ht; cases List.mem_singleton.1 h; exact sm_firstSome_fst (g := fun _ => none) ht
  · cases h

theorem sm_dedupe_mem {α : Type} [BEq α] (l : List α) :
    ∀ (init : List α) (t : α),
      t ∈ l.foldl (fun acc t => if acc.contains t then acc else acc ++ [t]) init → t ∈ init ∨ t ∈ l := by
  induction l with
  | nil => intro init t h; exact Or.inl h
  | cons a l ih =>
    intro init t h
    rw [List.foldl_cons] at h
    rcases ih _ t h with h1 | h1
    · split at h1
      · exact Or.inl h1
      · rcases List.mem_append.mp h1 with h2 | h2
        · exact Or.inl h2
        · right; simp at h2; simp [h2]
    · right; simp [h1]

/-- one step: the candidate `t` replaces the accumulator, or it is dropped -/
theorem sm_pickShortest_cons (acc : Option (List String × Option String)) (t : String × Option String)
    (ts : List (String × Option String)) :
    pickShortest acc (t :: ts) = pickShortest (some (splitSlash t.1, t.2)) ts ∨
    pickShortest acc (t :: ts) = pickShortest acc ts := by
  cases acc with
  | none => exact .inl (by rw [pickShortest])
  | some a =>
    rw [pickShortest]
    split
    · exact .inl rfl
    · exact .inr rfl

theorem sm_pickShortest_mem :
    ∀ (ts : List (String × Option String)) (acc : Option (List String × Option String)) (r : List String × Option String),
      pickShortest acc ts = some r → acc = some r ∨ ∃ t ∈ ts, r.1 = splitSlash t.1
  | [], acc, r, h => by rw [pickShortest] at h; exact Or.inl h
  | t :: ts, acc, r, h => by
    rcases sm_pickShortest_cons acc t ts with e | e <;> rw [e] at h <;>
      rcases sm_pickShortest_mem ts _ r h with h1 | ⟨t', ht', hr⟩
    · exact .inr ⟨t, List.mem_cons_self, by cases h1; rfl⟩
    · exact .inr ⟨t', List.mem_cons_of_mem _ ht', hr⟩
    · exact .inl h1
    · exact .inr ⟨t', List.mem_cons_of_mem _ ht', hr⟩

/-- THE RESULT IS A RE-EXPORTER: what `_get_shortest_public_reexport` returns is empty, or the dotted id of a module that
    stands in the re-export map -/
theorem sm_shortest_is_reexporter (rm : List (String × List ModRef)) (name qname : String) (isModule : Bool) :
    (shortestPublicReexport rm name qname isModule).1 = "" ∨
    ∃ kv ∈ rm, ∃ m ∈ kv.2, (shortestPublicReexport rm name qname isModule).1 = joinWith "." (splitSlash m.id) := by
  unfold shortestPublicReexport
  dsimp only
  split
  · left; rfl
  · rename_i parts al hp
    right
    rcases sm_pickShortest_mem _ _ _ hp with h | ⟨t, ht, hr⟩
    · cases h
    · have ht' := (mem_sortBy _ _ _).mp ht
      rcases sm_dedupe_mem _ _ _ ht' with h0 | h1
      · cases h0
      · obtain ⟨kv, hkv, hm⟩ := List.mem_flatMap.mp h1
        obtain ⟨m, hm1, hm2⟩ := List.mem_flatMap.mp hm
        refine ⟨kv, (List.mem_filter.mp hkv).1, m, hm1, ?_⟩
        have := sm_reexportTuples_fst _ _ _ hm2
        simp only at hr
        rw [hr, this]

/-- the package a module stub announces is the module's own dotted id or the dotted id of a module of the re-export map -/
theorem sm_modulePackage_cases (env : Env) (m : Module) :
    modulePackage env m = joinWith "." (splitSlash m.id) ∨
    ∃ kv ∈ env.api.reexportMap, ∃ r ∈ kv.2, modulePackage env m = joinWith "." (splitSlash r.id) := by
  unfold modulePackage
  rcases sm_shortest_is_reexporter env.api.reexportMap m.name "" true with h | ⟨kv, hkv, r, hr, h⟩
  · left; rw [h]; simp
  · split
    · right; exact ⟨kv, hkv, r, hr, h⟩
    · left; rfl

/-- every `/`-segment of an id is a convertible name -/
def sm_idBal (id : String) : Bool := (splitSlash id).all fun s => Convertible s.toList

theorem sm_convertible_noDot {s : String} (h : Convertible s.toList = true) : '.' ∉ s.toList := by
  intro hm
  have := List.all_eq_true.mp (lx_isIdent_all (lx_convertible_isIdent h)) '.' hm
  revert this; decide

/-- splitting a dotted spelling made of convertible segments gives the segments back -/
theorem sm_pySplit_join (parts : List String) (hne : parts ≠ [])
    (h : parts.all (fun s => Convertible s.toList) = true) : pySplit (joinWith "." parts) '.' = parts :=
  lx_pySplit_joinDot _ hne fun x hx => sm_convertible_noDot (List.all_eq_true.mp h x hx)

/-- … so the dotted spelling is a bracket-free qualified name -/
theorem sm_pathBal_join (parts : List String) (hne : parts ≠ [])
    (h : parts.all (fun s => Convertible s.toList) = true) : Spec.pathBal (joinWith "." parts) = true := by
  unfold Spec.pathBal
  rw [sm_pySplit_join parts hne h]
  exact h

theorem sm_splitSlash_ne_nil (id : String) : splitSlash id ≠ [] := pySplit_ne_nil '/' id

theorem sm_pathBal_dotted (id : String) (h : sm_idBal id = true) : Spec.pathBal (joinWith "." (splitSlash id)) = true :=
  sm_pathBal_join _ (sm_splitSlash_ne_nil id) h

/-- THE PACKAGE LINE OF A MODULE STUB is bracket-free when the segments of the module's id and of the ids of the
    re-exporting modules are convertible names: the hypothesis `hpkg` of `C02a.module_closed_partial` follows from a
    condition on the API -/
theorem sm_modulePackage_bal (env : Env) (m : Module) (hm : sm_idBal m.id = true)
    (hre : ∀ kv ∈ env.api.reexportMap, ∀ r ∈ kv.2, sm_idBal r.id = true) :
    Spec.pathBal (modulePackage env m) = true := by
  rcases sm_modulePackage_cases env m with h | ⟨kv, hkv, r, hr, h⟩
  · rw [h]; exact sm_pathBal_dotted m.id hm
  · rw [h]; exact sm_pathBal_dotted r.id (hre kv hkv r hr)

end StubGen
