import Batteries.Data.Char.AsciiCasing
import StubGen.Model.Naming
import StubGen.Spec.Lex
import StubGen.Proofs.PyLemmas

namespace StubGen

/-! ### characters -/

theorem toUpper_ne_underscore {c : Char} (h : c ≠ '_') : c.toUpper ≠ '_' := by
  by_cases hl : c.isLower
  · intro he
    have h1 : c.toUpper.isUpper = c.isAlpha := Char.isUpper_toUpper_eq_isAlpha c
    have h2 : c.isAlpha = true := by simp [Char.isAlpha, hl]
    rw [he, h2] at h1
    exact absurd h1 (by decide)
  · rw [Char.toUpper_eq_of_not_isLower hl]; exact h

theorem isAlpha_toUpper (c : Char) : c.toUpper.isAlpha = c.isAlpha := Char.isAlpha_toUpper_eq_isAlpha c

/-- letters and digits lie in disjoint ranges -/
theorem isDigit_of_isAlpha {c : Char} (h : c.isAlpha = true) : c.isDigit = false := by
  simp only [Char.isAlpha, Char.isUpper, Char.isLower, Bool.or_eq_true, Bool.and_eq_true, decide_eq_true_eq,
    UInt32.le_iff_toNat_le] at h
  simp only [Char.isDigit, Bool.and_eq_false_imp, decide_eq_true_eq, decide_eq_false_iff_not, UInt32.le_iff_toNat_le]
  simp at *
  omega

theorem isDigit_toUpper (c : Char) : c.toUpper.isDigit = c.isDigit := by
  by_cases hl : c.isLower
  · have ha : c.isAlpha = true := by simp [Char.isAlpha, hl]
    rw [isDigit_of_isAlpha ha, isDigit_of_isAlpha ((isAlpha_toUpper c).trans ha)]
  · rw [Char.toUpper_eq_of_not_isLower hl]

theorem isAlphanum_toUpper (c : Char) : c.toUpper.isAlphanum = c.isAlphanum := by
  simp [Char.isAlphanum, isDigit_toUpper]

end StubGen

namespace StubGen

theorem isDigit_toLower (c : Char) : c.toLower.isDigit = c.isDigit := by
  by_cases hu : c.isUpper
  · have ha : c.isAlpha = true := by simp [Char.isAlpha, hu]
    rw [isDigit_of_isAlpha ha, isDigit_of_isAlpha ((Char.isAlpha_toLower_eq_isAlpha c).trans ha)]
  · rw [Char.toLower_eq_of_not_isUpper hu]

theorem isAlphanum_toLower (c : Char) : c.toLower.isAlphanum = c.isAlphanum := by
  simp [Char.isAlphanum, isDigit_toLower]

/-! ### `capJoin` -/

theorem capitalize_no_underscore {p : List Char} (h : '_' ∉ p) : '_' ∉ capitalize p := by
  cases p with
  | nil => simp [capitalize]
  | cons c cs =>
    simp only [capitalize, List.mem_cons, not_or] at h ⊢
    exact ⟨fun e => toUpper_ne_underscore (fun e' => h.1 e'.symm) e.symm, h.2⟩

theorem capJoin_no_underscore {ps : List (List Char)} (h : ∀ p ∈ ps, '_' ∉ p) : '_' ∉ capJoin ps := by
  induction ps with
  | nil => simp [capJoin]
  | cons p ps ih =>
    simp only [capJoin, List.mem_append, not_or]
    refine ⟨?_, ih (fun q hq => h q (by simp [hq]))⟩
    split
    · simp
    · exact capitalize_no_underscore (h p (by simp))

theorem map_toLower_capitalize (p : List Char) : (capitalize p).map Char.toLower = p.map Char.toLower := by
  cases p <;> simp [capitalize]

theorem map_toLower_capJoin (ps : List (List Char)) :
    (capJoin ps).map Char.toLower = ps.flatten.map Char.toLower := by
  induction ps with
  | nil => simp [capJoin]
  | cons p ps ih =>
    simp only [capJoin, List.map_append, ih, List.flatten_cons]
    congr 1
    split
    · rename_i h; simp at h; simp [h]
    · exact map_toLower_capitalize p

/-! ### stripping the underscores at both ends -/

theorem leadingUnderscores_take (cs : List Char) : ∀ x ∈ cs.take (leadingUnderscores cs), x = '_' := by
  induction cs with
  | nil => simp [leadingUnderscores]
  | cons c cs ih =>
    unfold leadingUnderscores
    split
    · rename_i h
      intro x hx
      simp [List.take_succ_cons] at hx
      rcases hx with rfl | hx
      · exact h
      · exact ih x hx
    · simp

theorem filter_drop_of_take {α : Type} (p : α → Bool) (l : List α) (n : Nat)
    (h : ∀ x ∈ l.take n, p x = false) : (l.drop n).filter p = l.filter p := by
  conv => rhs; rw [← List.take_append_drop n l]
  rw [List.filter_append]
  have : (l.take n).filter p = [] := by
    rw [List.filter_eq_nil_iff]; intro x hx; simp [h x hx]
  simp [this]

theorem filter_take_of_reverse {α : Type} (p : α → Bool) (l : List α) (e : Nat)
    (h : ∀ x ∈ l.reverse.take e, p x = false) : (l.take (l.length - e)).filter p = l.filter p := by
  have h1 : l.take (l.length - e) = (l.reverse.drop e).reverse := by
    rw [List.drop_reverse, List.reverse_reverse]
  rw [h1, List.filter_reverse, filter_drop_of_take p l.reverse e h, List.filter_reverse, List.reverse_reverse]

/-- the slice `name[start:-end]` only removes underscores -/
theorem filter_cleaned (cs : List Char) :
    ((cs.take (cs.length - leadingUnderscores cs.reverse)).drop (leadingUnderscores cs)).filter (· ≠ '_')
      = cs.filter (· ≠ '_') := by
  rw [filter_drop_of_take]
  · apply filter_take_of_reverse
    intro x hx
    simp [leadingUnderscores_take cs.reverse x hx]
  · intro x hx
    rw [List.take_take] at hx
    have hx' : x ∈ cs.take (leadingUnderscores cs) := by
      have : cs.take (min (leadingUnderscores cs) (cs.length - leadingUnderscores cs.reverse))
           = (cs.take (leadingUnderscores cs)).take (min (leadingUnderscores cs) (cs.length - leadingUnderscores cs.reverse)) := by
        rw [List.take_take]; congr 1; omega
      rw [this] at hx
      exact List.mem_of_mem_take hx
    simp [leadingUnderscores_take cs x hx']

/-! ### `convertChars` -/

/-- the conversion keeps exactly the non-underscore characters, in order, up to ASCII case -/
theorem convertChars_letters (cs : List Char) (b : Bool) (h : cs ≠ ['_']) :
    (convertChars cs b).map Char.toLower = (cs.filter (· ≠ '_')).map Char.toLower := by
  unfold convertChars
  simp only [h, if_false]
  rw [← filter_cleaned cs, ← flatten_splitOnChar]
  generalize splitOnChar '_' _ = parts
  cases b with
  | true => simp [map_toLower_capJoin]
  | false =>
    cases parts with
    | nil => simp
    | cons p ps => simp [map_toLower_capJoin]

theorem convertChars_no_underscore (cs : List Char) (b : Bool) (h : cs ≠ ['_']) :
    '_' ∉ convertChars cs b := by
  unfold convertChars
  simp only [h, if_false]
  have hp := mem_splitOnChar_not_sep '_'
    ((cs.take (cs.length - leadingUnderscores cs.reverse)).drop (leadingUnderscores cs))
  revert hp
  generalize splitOnChar '_' _ = parts
  intro hp
  cases b with
  | true => simpa using capJoin_no_underscore hp
  | false =>
    cases parts with
    | nil => simp
    | cons p ps =>
      simp only [Bool.false_eq_true, if_false, List.mem_append, not_or]
      exact ⟨hp p (by simp), capJoin_no_underscore (fun q hq => hp q (by simp [hq]))⟩

end StubGen

namespace StubGen

theorem filter_lstrip (cs : List Char) : (lstripChar '_' cs).filter (· ≠ '_') = cs.filter (· ≠ '_') := by
  induction cs with
  | nil => simp [lstripChar]
  | cons c cs ih =>
    unfold lstripChar
    split
    · rename_i h; simp only [h, ne_eq, not_true_eq_false, decide_false, Bool.false_eq_true,
        not_false_eq_true, List.filter_cons_of_neg]; exact ih
    · rfl

theorem convertChars_ident (cs : List Char) (b : Bool) (h : Convertible cs = true) :
    isIdent (convertChars cs b) = true := by
  unfold Convertible at h
  simp only [Bool.and_eq_true] at h
  obtain ⟨hall, hhead⟩ := h
  -- the first non-underscore character `a` is a letter
  split at hhead
  · simp at hhead
  · rename_i a t hstrip
    have ha : a ≠ '_' := by intro e; rw [e] at hhead; exact absurd hhead (by decide)
    have hne : cs ≠ ['_'] := by
      intro e; rw [e] at hstrip; simp [lstripChar] at hstrip
    have hF : cs.filter (· ≠ '_') = a :: t.filter (· ≠ '_') := by
      rw [← filter_lstrip, hstrip]; simp [ha]
    have hL := convertChars_letters cs b hne
    rw [hF] at hL
    -- every character of the result is alphanumeric
    have hchars : ∀ y ∈ convertChars cs b, isIdentChar y = true := by
      intro y hy
      have : y.toLower ∈ (convertChars cs b).map Char.toLower := List.mem_map_of_mem hy
      rw [hL, ← hF] at this
      obtain ⟨c, hc, hcy⟩ := List.mem_map.mp this
      simp only [List.mem_filter, ne_eq, decide_not, Bool.not_eq_eq_eq_not, Bool.not_true,
        decide_eq_false_iff_not] at hc
      have hci : isIdentChar c = true := List.all_eq_true.mp hall c hc.1
      have hca : c.isAlphanum = true := by
        simp only [isIdentChar, Bool.or_eq_true, beq_iff_eq] at hci
        rcases hci with h1 | h1
        · exact h1
        · exact absurd h1 hc.2
      have : y.isAlphanum = true := by
        rw [← isAlphanum_toLower y, ← hcy, isAlphanum_toLower c]; exact hca
      simp [isIdentChar, this]
    cases hres : convertChars cs b with
    | nil => rw [hres] at hL; simp at hL
    | cons x xs =>
      rw [hres] at hL hchars
      simp only [List.map_cons, List.cons.injEq] at hL
      have hx : x.isAlpha = true := by
        rw [← Char.isAlpha_toLower_eq_isAlpha x, hL.1, Char.isAlpha_toLower_eq_isAlpha a]; exact hhead
      simp only [isIdent, isIdentStart, hx, Bool.true_or, Bool.true_and, List.all_eq_true]
      intro y hy
      exact hchars y (by simp [hy])

/-! ### idempotence -/

theorem leadingUnderscores_of_not_mem (cs : List Char) (h : '_' ∉ cs) : leadingUnderscores cs = 0 := by
  cases cs with
  | nil => rfl
  | cons c cs =>
    simp only [List.mem_cons, not_or] at h
    unfold leadingUnderscores
    have : ¬ c = '_' := fun e => h.1 (Eq.symm e)
    simp [this]

theorem capitalize_capitalize (p : List Char) : capitalize (capitalize p) = capitalize p := by
  cases p <;> simp [capitalize]

theorem capitalize_capJoin (ps : List (List Char)) : capitalize (capJoin ps) = capJoin ps := by
  induction ps with
  | nil => rfl
  | cons p ps ih =>
    simp only [capJoin]
    split
    · simpa using ih
    · rename_i hp
      cases p with
      | nil => simp at hp
      | cons c cs => simp [capitalize]

theorem convertChars_idem (cs : List Char) (b : Bool) :
    convertChars (convertChars cs b) b = convertChars cs b := by
  by_cases h : cs = ['_']
  · subst h; simp [convertChars]
  · have hno := convertChars_no_underscore cs b h
    generalize hr : convertChars cs b = r at hno
    have hr1 : r ≠ ['_'] := by intro e; rw [e] at hno; simp at hno
    have hrev : '_' ∉ r.reverse := by simpa using hno
    conv => lhs; unfold convertChars
    simp only [hr1, if_false, leadingUnderscores_of_not_mem r hno, leadingUnderscores_of_not_mem _ hrev,
      Nat.sub_zero, List.take_length, List.drop_zero, splitOnChar_of_not_mem '_' r hno]
    cases b with
    | false => simp [capJoin]
    | true =>
      simp only [if_true, capJoin, List.append_nil]
      split
      · rename_i he; simp at he; simp [he]
      · -- r is itself a capJoin, hence already capitalised
        rw [← hr]
        unfold convertChars
        simp only [h, if_false, if_true]
        exact capitalize_capJoin _

end StubGen
