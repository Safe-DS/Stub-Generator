/-
C12 — the inventory: helper lemmas about the analyser model (`StubGen.Model.Analyze`).

* `k12_Keeps`   : frame predicate for the read-only parts: tables, declaration stack and file names stay (`k12_Fr`: the first two)
* `k12_Step`    : the abstract transitions of the declaration stack / the tables (one per `enter*`/`leave*`)
* `k12_walk*`   : every successful walk is a sequence of abstract steps; the walker visits class definitions directly
                  below a module or a class only (`k12_ModeTop`), so every class that is left is stored (`popClsM`/`popClsC`)
* invariants over `k12_Steps`: duplicate-free tables, id forms (attributes: `<id of a class of the table>/<name>`,
  `k12_Owned`), resolved references, recorded functions, provenance of parameters, results (`k12_Steps_parts`) and
  attributes (`k12_Listed`)
* the transitions carry two event lists: the functions written to `functions` and the classes written to `classes`
-/
import StubGen.Model.Analyze
import StubGen.Proofs.TypeText
import StubGen.Proofs.Files
import StubGen.Proofs.Hoare

namespace StubGen

/-! ### the analyser monad -/

theorem k12_throw_ok {α : Type} {e : PyErr} {s s' : VSt} {a : α} (h : (throwV e : V α) s = .ok (a, s')) : False := by
  simp [throwV] at h

/-! ### frame: the read-only parts of the analyser write `typeVars`, `doc` and `warnings` only

What they keep (`k12_Same`) is what the rest of the analyser, `isPublicV` in particular, reads. -/

/-- `s'` agrees with `s` on the tables, the declaration stack and the names of the analysed file -/
def k12_Same (s s' : VSt) : Prop :=
  (s'.api = s.api ∧ s'.stack = s.stack) ∧ s'.fileFullname = s.fileFullname ∧ s'.fileName = s.fileName

theorem k12_Same.refl (s : VSt) : k12_Same s s := ⟨⟨rfl, rfl⟩, rfl, rfl⟩

theorem k12_Same.trans {s t u : VSt} (h1 : k12_Same s t) (h2 : k12_Same t u) : k12_Same s u :=
  ⟨⟨h2.1.1.trans h1.1.1, h2.1.2.trans h1.1.2⟩, h2.2.1.trans h1.2.1, h2.2.2.trans h1.2.2⟩

structure k12_Fr {α : Type} (x : V α) : Prop where
  run : ∀ (s : VSt) (a : α) (s' : VSt), x s = .ok (a, s') → s'.api = s.api ∧ s'.stack = s.stack

/-- `x` keeps `k12_Same`, whatever the state it is compared with -/
@[reducible] def k12_Keeps {α : Type} (x : V α) : Prop := ∀ s0, Inv (k12_Same s0) (fun _ => True) x

namespace k12_Keeps
variable {α : Type}

theorem all {x : V α} (hx : k12_Keeps x) (s : VSt) (a : α) (s' : VSt) (h : x s = .ok (a, s')) : k12_Same s s' :=
  Inv.rel_of_ok k12_Same.refl hx h

theorem run {x : V α} (hx : k12_Keeps x) (s : VSt) (a : α) (s' : VSt) (h : x s = .ok (a, s')) :
    s'.api = s.api ∧ s'.stack = s.stack := (hx.all s a s' h).1

theorem fr {x : V α} (hx : k12_Keeps x) : k12_Fr x := ⟨hx.run⟩

theorem modify {g : VSt → VSt} (hg : ∀ s, k12_Same s (g s)) : k12_Keeps (modify g : V PUnit) :=
  fun _ => Triple.modify fun s hs => hs.trans (hg s)

end k12_Keeps

theorem Triple.throwV {α : Type} {P : VSt → Prop} {Q : α → VSt → Prop} (e : PyErr) :
    Triple P (throwV e : V α) Q (fun _ => True) := Triple.throw trivial

theorem k12_warnV_fr (m : String) : k12_Keeps (warnV m) := k12_Keeps.modify fun s => k12_Same.refl s

theorem k12_typeVars_fr (tv : VSt → List (String × Option AType)) :
    k12_Keeps (modify fun s => { s with typeVars := tv s } : V PUnit) :=
  k12_Keeps.modify fun s => k12_Same.refl s

theorem k12_withDoc_fr {α : Type} (f : ParserState → Except PyErr (α × ParserState)) : k12_Keeps (withDoc f) := by
  refine fun s0 => ⟨fun s hs => ?_⟩
  unfold withDoc
  cases f s.doc with
  | error e => trivial
  | ok v => exact hs

/-- `hoare` with the state-changing leaves of the read-only parts -/
macro "k12_keeps" "[" ls:term,* "]" : tactic =>
  `(tactic| hoare [Triple.throwV, k12_warnV_fr, k12_typeVars_fr, k12_withDoc_fr, $ls,*])

open Lean in
macro "k12_fr" "[" ls:term,* "]" : tactic => do
  let alts ← ls.getElems.mapM fun l => `(tacticSeq| apply $l)
  `(tactic| repeat' (first
      | with_reducible exact k12_Fr.pure _
      | with_reducible exact k12_Fr.throw _
      | with_reducible exact k12_Fr.get
      | with_reducible exact k12_warnV_fr _
      | with_reducible exact k12_Fr.withDoc _
      | with_reducible assumption
      | ((with_reducible apply k12_Fr.modify); intro _; exact ⟨rfl, rfl⟩)
      $[| with_reducible $alts:tacticSeq]*
      | with_reducible apply k12_Fr.bind
      | intro _
      | split
      | dsimp only))

theorem k12_classDocumentation_fr (env : AEnv) (fn : String) (defs : List Def) : k12_Keeps (classDocumentation env fn defs) := by
  unfold classDocumentation; k12_keeps []

theorem k12_functionDocumentation_fr (env : AEnv) (f : FuncDef) : k12_Keeps (functionDocumentation env f) := by
  unfold functionDocumentation; k12_keeps []

theorem k12_parameterDocumentation_fr (env : AEnv) (a b c : String) : k12_Keeps (parameterDocumentation env a b c) := by
  unfold parameterDocumentation; k12_keeps []

theorem k12_attributeDocumentation_fr (env : AEnv) (a b : String) : k12_Keeps (attributeDocumentation env a b) := by
  unfold attributeDocumentation; k12_keeps []

theorem k12_resultDocumentation_fr (env : AEnv) (a : String) : k12_Keeps (resultDocumentation env a) := by
  unfold resultDocumentation; k12_keeps []

theorem k12_toAbstracts_fr_of (env : AEnv) : (ts : List MType) → (∀ t ∈ ts, k12_Keeps (toAbstractNoUn env t)) →
    k12_Keeps (toAbstracts env ts)
  | [], _ => by unfold toAbstracts; k12_keeps []
  | t :: ts, h => by
    unfold toAbstracts
    k12_keeps [h t List.mem_cons_self, k12_toAbstracts_fr_of env ts fun t' ht' => h t' (List.mem_cons_of_mem _ ht')]

-- the list twin speaks of the members, so that every recursive call is on a direct part of the type (the `dict` case
-- needs the first two arguments, not the list)
mutual
theorem k12_toAbstractNoUn_fr (env : AEnv) : (t : MType) → k12_Keeps (toAbstractNoUn env t)
  | .tuple items => by
    unfold toAbstractNoUn; k12_keeps [k12_toAbstracts_fr_of env items (k12_toAbstractNoUn_fr_all env items)]
  | .union items => by
    unfold toAbstractNoUn; k12_keeps [k12_toAbstracts_fr_of env items (k12_toAbstractNoUn_fr_all env items)]
  | .typeVar name ub ubStr => by
    unfold toAbstractNoUn; k12_keeps [k12_toAbstractNoUn_fr env ub]
  | .callable args ret => by
    unfold toAbstractNoUn; k12_keeps [k12_toAbstracts_fr_of env args (k12_toAbstractNoUn_fr_all env args), k12_toAbstractNoUn_fr env ret]
  | .any t missing => by unfold toAbstractNoUn; k12_keeps []
  | .none => by unfold toAbstractNoUn; k12_keeps []
  | .literal v => by unfold toAbstractNoUn; k12_keeps []
  | .unbound name args => by
    unfold toAbstractNoUn; k12_keeps [k12_toAbstracts_fr_of env args (k12_toAbstractNoUn_fr_all env args)]
  | .inst name fullname args => by
    have hall := k12_toAbstractNoUn_fr_all env args
    unfold toAbstractNoUn
    k12_keeps [k12_toAbstracts_fr_of env args hall, hall]
    · exact List.mem_cons_self
    · exact List.mem_cons_of_mem _ List.mem_cons_self
  | .other _ _ => by unfold toAbstractNoUn; k12_keeps []
theorem k12_toAbstractNoUn_fr_all (env : AEnv) : (ts : List MType) → ∀ t ∈ ts, k12_Keeps (toAbstractNoUn env t)
  | [] => fun _ h => absurd h List.not_mem_nil
  | t :: ts => List.forall_mem_cons.2 ⟨k12_toAbstractNoUn_fr env t, k12_toAbstractNoUn_fr_all env ts⟩
end

theorem k12_toAbstracts_fr (env : AEnv) (ts : List MType) : k12_Keeps (toAbstracts env ts) :=
  k12_toAbstracts_fr_of env ts fun t _ => k12_toAbstractNoUn_fr env t

theorem k12_toAbstract_fr (env : AEnv) (t : MType) (un : Option MType) : k12_Keeps (toAbstract env t un) := by
  unfold toAbstract
  k12_keeps [k12_toAbstractNoUn_fr, k12_toAbstracts_fr]


theorem k12_parseParameter_fr (env : AEnv) (f : FuncDef) (fid : String) (a : Arg) : k12_Keeps (parseParameter env f fid a) := by
  unfold parseParameter
  k12_keeps [k12_toAbstract_fr, k12_parameterDocumentation_fr, Inv.forIn]

theorem k12_parseParameters_fr (env : AEnv) (f : FuncDef) (fid : String) : (as : List Arg) → k12_Keeps (parseParameters env f fid as)
  | [] => by unfold parseParameters; k12_keeps []
  | a :: as => by
    unfold parseParameters; k12_keeps [k12_parseParameter_fr, k12_parseParameters_fr env f fid as]

theorem k12_parseResults_fr (env : AEnv) (f : FuncDef) (fid : String) (docs : List ResultDoc) : k12_Keeps (parseResults env f fid docs) := by
  unfold parseResults
  k12_keeps [k12_toAbstract_fr]

theorem k12_reconcileParameter_fr (env : AEnv) (fid : String) (p : Parameter) : k12_Keeps (reconcileParameter env fid p) := by
  unfold reconcileParameter
  k12_keeps []

theorem k12_reconcileParameters_fr (env : AEnv) (fid : String) : (ps : List Parameter) → k12_Keeps (reconcileParameters env fid ps)
  | [] => by unfold reconcileParameters; k12_keeps []
  | a :: as => by
    unfold reconcileParameters; k12_keeps [k12_reconcileParameter_fr, k12_reconcileParameters_fr env fid as]

theorem k12_reconcileResults_fr (env : AEnv) (fid : String) : (ds : List ResultDoc) → (i : Nat) → (all rs : List Result) →
    k12_Keeps (reconcileResults env fid i all rs ds)
  | [], i, all, rs => by unfold reconcileResults; k12_keeps []
  | d :: ds, i, all, rs => by
    unfold reconcileResults
    -- kept opaque, so that the walk does not split `rs.head?` and `rs.drop 1` where they are used
    extract_lets cur rest
    clear_value cur rest
    k12_keeps [k12_reconcileResults_fr env fid ds]

theorem k12_typeParameter_fr (env : AEnv) (tv : TypeVarInfo) : k12_Keeps (typeParameter env tv) := by
  unfold typeParameter
  k12_keeps [k12_toAbstract_fr, k12_toAbstracts_fr]

theorem k12_typeParameters_fr (env : AEnv) : (l : List (Option TypeVarInfo)) → k12_Keeps (typeParameters env l)
  | [] => by unfold typeParameters; k12_keeps []
  | none :: _ => by unfold typeParameters; k12_keeps []
  | some tv :: rest => by
    unfold typeParameters; k12_keeps [k12_typeParameter_fr, k12_typeParameters_fr env rest]

theorem k12_ctorFullDoc_fr (env : AEnv) : (l : List Def) → k12_Keeps (ctorFullDoc env l)
  | [] => by unfold ctorFullDoc; k12_keeps []
  | .func f :: rest => by
    unfold ctorFullDoc; k12_keeps [k12_functionDocumentation_fr, k12_ctorFullDoc_fr env rest]
  | .decorator _ :: rest | .overloaded _ :: rest | .cls _ _ _ _ _ :: rest | .assign _ :: rest | .docExpr _ _ :: rest
  | .other _ :: rest => by
    unfold ctorFullDoc; k12_keeps [k12_ctorFullDoc_fr env rest]

theorem k12_createAttributeV_fr (env : AEnv) (isMember : Bool) (name fullname : String) (isVar : Bool) (var : Option VarInfo)
    (un : Option MType) (isStatic : Bool) : k12_Keeps (createAttributeV env isMember name fullname isVar var un isStatic) := by
  unfold createAttributeV
  -- the body is a join point that both branches of the first test call: its frame fact is proved once, with the two
  -- `let`s it reads kept opaque (substituting `attrType` makes `split` walk the matches that compute it)
  extract_lets qname attrType rest
  clear_value qname attrType
  have hrest : ∀ u, k12_Keeps (rest u) := by
    intro u
    k12_keeps [k12_toAbstract_fr, k12_attributeDocumentation_fr]
  clear_value rest
  k12_keeps [hrest]

theorem k12_parseAttributes_one_fr (env : AEnv) (un : Option MType) (isStatic : Bool) (isMember : Bool) (name fullname : String) (isVar : Bool) (var : Option VarInfo) :
    k12_Keeps (do
      let s ← get
      match attributeAlreadyDefined s name with
      | .error e => throwV e
      | .ok true => pure []
      | .ok false =>
        if isMember && !isVar then pure []
        else do
          let a ← createAttributeV env isMember name fullname isVar var un isStatic
          pure [a] : V (List Attribute)) := by
  k12_keeps [k12_createAttributeV_fr]

theorem k12_parseAttributes_go_fr (one : Bool → String → String → Bool → Option VarInfo → V (List Attribute))
    (h1 : ∀ a b c d e, k12_Keeps (one a b c d e)) : (l : List LValue) → k12_Keeps (parseAttributes.go one l)
  | [] => by unfold parseAttributes.go; k12_keeps []
  | .name .. :: rest | .member .. :: rest | .tuple _ :: rest | .other :: rest => by
    unfold parseAttributes.go; k12_keeps [h1, k12_parseAttributes_go_fr one h1 rest]

theorem k12_parseAttributes_fr (env : AEnv) (lv : LValue) (un : Option MType) (isStatic : Bool) :
    k12_Keeps (parseAttributes env lv un isStatic) := by
  unfold parseAttributes
  k12_keeps [k12_createAttributeV_fr, k12_parseAttributes_go_fr]

theorem k12_enterAssignment_go_fr (env : AEnv) (a : Assignment) : (l : List LValue) → k12_Keeps (enterAssignment.go env a l)
  | [] => by unfold enterAssignment.go; k12_keeps []
  | lv :: rest => by
    unfold enterAssignment.go; k12_keeps [k12_parseAttributes_fr, k12_enterAssignment_go_fr env a rest]


/-! ### output facts -/

structure k12_Outs {α : Type} (x : V α) (P : α → Prop) : Prop where
  run : ∀ (s : VSt) (a : α) (s' : VSt), x s = .ok (a, s') → P a

namespace k12_Outs
variable {α β : Type}

theorem pure {P : α → Prop} {a : α} (h : P a) : k12_Outs (Pure.pure a : V α) P := by
  refine ⟨fun s b s' h' => ?_⟩
  obtain ⟨rfl, _⟩ := se_pure_ok h'
  exact h

theorem throw {P : α → Prop} (e : PyErr) : k12_Outs (throwV e : V α) P := ⟨fun _ _ _ h => (k12_throw_ok h).elim⟩

theorem bind {P : β → Prop} {x : V α} {f : α → V β} (hf : ∀ a, k12_Outs (f a) P) : k12_Outs (x >>= f) P := by
  refine ⟨fun s b s' h => ?_⟩
  obtain ⟨a, s1, _, h2⟩ := se_bind_ok h
  exact (hf a).run s1 b s' h2

theorem bind' {Q : α → Prop} {P : β → Prop} {x : V α} {f : α → V β} (hx : k12_Outs x Q) (hf : ∀ a, Q a → k12_Outs (f a) P) :
    k12_Outs (x >>= f) P := by
  refine ⟨fun s b s' h => ?_⟩
  obtain ⟨a, s1, h1, h2⟩ := se_bind_ok h
  exact (hf a (hx.run s a s1 h1)).run s1 b s' h2

end k12_Outs

open Lean in
macro "k12_outs" "[" ls:term,* "]" : tactic => do
  let alts ← ls.getElems.mapM fun l => `(tacticSeq| apply $l)
  `(tactic| repeat' (first
      | with_reducible exact k12_Outs.throw _
      | with_reducible assumption
      $[| with_reducible $alts:tacticSeq]*
      | with_reducible apply k12_Outs.bind
      | with_reducible apply k12_Outs.pure
      | intro _
      | split
      | dsimp only))

theorem k12_parseParameter_out (env : AEnv) (f : FuncDef) (fid : String) (a : Arg) :
    k12_Outs (parseParameter env f fid a) (fun p => p.id = fid ++ "/" ++ a.name ∧ p.name = a.name) := by
  unfold parseParameter
  k12_outs []
  all_goals exact ⟨rfl, rfl⟩


theorem k12_parseParameters_out (env : AEnv) (f : FuncDef) (fid : String) : (as : List Arg) →
    k12_Outs (parseParameters env f fid as)
      (fun ps => ps.map (·.name) = as.map (·.name) ∧ ∀ p ∈ ps, p.id = fid ++ "/" ++ p.name)
  | [] => by
    unfold parseParameters
    exact k12_Outs.pure ⟨rfl, fun _ h => absurd h List.not_mem_nil⟩
  | a :: as => by
    unfold parseParameters
    refine k12_Outs.bind' (k12_parseParameter_out env f fid a) (fun p hp => ?_)
    refine k12_Outs.bind' (k12_parseParameters_out env f fid as) (fun ps hps => ?_)
    refine k12_Outs.pure ⟨?_, ?_⟩
    · simp only [List.map_cons, hp.2, hps.1]
    · intro q hq
      rcases List.mem_cons.1 hq with rfl | hq
      · rw [hp.1, hp.2]
      · exact hps.2 q hq

theorem k12_reconcileParameter_out (env : AEnv) (fid : String) (p : Parameter) :
    k12_Outs (reconcileParameter env fid p) (fun q => q.id = p.id ∧ q.name = p.name) := by
  unfold reconcileParameter
  k12_outs []
  all_goals exact ⟨rfl, rfl⟩

theorem k12_reconcileParameters_out (env : AEnv) (fid : String) : (ps : List Parameter) →
    k12_Outs (reconcileParameters env fid ps) (fun qs => qs.map (fun q => (q.id, q.name)) = ps.map (fun p => (p.id, p.name)))
  | [] => by
    unfold reconcileParameters
    exact k12_Outs.pure rfl
  | a :: as => by
    unfold reconcileParameters
    refine k12_Outs.bind' (k12_reconcileParameter_out env fid a) (fun p hp => ?_)
    refine k12_Outs.bind' (k12_reconcileParameters_out env fid as) (fun ps hps => ?_)
    refine k12_Outs.pure ?_
    rw [List.map_cons, List.map_cons, hp.1, hp.2, hps]

/-- the results of function `fid` carry ids `fid/<name>` -/
structure k12_ResForm (fid : String) (rs : List Result) : Prop where
  all : ∀ r ∈ rs, r.id = fid ++ "/" ++ r.name

theorem k12_ResForm.nil (fid : String) : k12_ResForm fid [] := ⟨fun _ h => absurd h List.not_mem_nil⟩

theorem k12_ResForm.snoc {fid : String} {rs : List Result} (h : k12_ResForm fid rs) (name : String) (t : Option AType) :
    k12_ResForm fid (rs ++ [{ id := fid ++ "/" ++ name, name := name, type := t }]) := by
  refine ⟨fun r hr => ?_⟩
  rcases List.mem_append.1 hr with hr | hr
  · exact h.all r hr
  · rw [List.mem_singleton.1 hr]

theorem k12_foldl_inv {α β : Type} (P : β → Prop) (f : β → α → β) (hf : ∀ b a, P b → P (f b a)) :
    ∀ (l : List α) (b : β), P b → P (l.foldl f b)
  | [], _, h => h
  | a :: l, b, h => k12_foldl_inv P f hf l (f b a) (hf b a h)

theorem k12_createInferredResults_out {types : List AType} {docs : List ResultDoc} {fid : String} {rs : List Result}
    (h : createInferredResults types docs fid = .ok rs) : k12_ResForm fid rs := by
  unfold createInferredResults at h
  dsimp only at h
  split at h
  · exact absurd h (by simp)
  · split at h
    · simp only [Except.ok.injEq] at h
      subst h
      exact (k12_ResForm.nil fid).snoc _ _
    · simp only [Except.ok.injEq] at h
      subst h
      refine k12_foldl_inv (fun (acc : List Result × Nat) => k12_ResForm fid acc.1) _ ?_ _ _ (k12_ResForm.nil fid)
      intro b a hb
      obtain ⟨out, k⟩ := b
      dsimp only
      split <;> exact k12_ResForm.snoc hb _ _


theorem k12_parseResults_out (env : AEnv) (f : FuncDef) (fid : String) (docs : List ResultDoc) :
    k12_Outs (parseResults env f fid docs) (k12_ResForm fid) := by
  unfold parseResults
  k12_outs []
  all_goals first
    | exact k12_ResForm.nil fid
    | exact k12_createInferredResults_out ‹_›
    | (refine k12_foldl_inv (fun (acc : List Result × Nat) => k12_ResForm fid acc.1) _ ?_ _ _ (k12_ResForm.nil fid)
       intro b a hb
       obtain ⟨out, k⟩ := b
       dsimp only
       repeat' split
       all_goals exact k12_ResForm.snoc hb _ _)

theorem k12_ResForm.mapIdx {fid : String} {rs : List Result} (h : k12_ResForm fid rs) (i : Nat) (t : Option AType) :
    k12_ResForm fid (rs.mapIdx (fun k x => if k == i then { x with type := t } else x)) := by
  refine ⟨fun r hr => ?_⟩
  rw [List.mem_mapIdx] at hr
  obtain ⟨k, hk, rfl⟩ := hr
  have := h.all _ (List.getElem_mem hk)
  split
  · exact this
  · exact this

theorem k12_reconcileResults_out (env : AEnv) (fid : String) : (ds : List ResultDoc) → (i : Nat) → (all rs : List Result) →
    k12_ResForm fid all → k12_Outs (reconcileResults env fid i all rs ds) (k12_ResForm fid)
  | [], i, all, rs, h => by unfold reconcileResults; exact k12_Outs.pure h
  | d :: ds, i, all, rs, h => by
    have ih := k12_reconcileResults_out env fid ds
    unfold reconcileResults
    extract_lets cur rest
    clear_value cur rest
    k12_outs [ih]
    all_goals first
      | exact k12_ResForm.snoc h _ _
      | exact k12_ResForm.mapIdx h _ _


/-! ### the declaration stack -/

/-- the id segments of a declaration stack, bottom first -/
def k12_segs (stk : List Frame) : List String := stk.reverse.filterMap frameSegment

theorem k12_createId_eq (s : VSt) (name : String) : createId s name = joinWith "/" (k12_segs s.stack ++ [name]) := rfl

/-- what `enter_funcdef` guarantees about the function it pushes -/
structure k12_FnOk (stk : List Frame) (fn : Function) : Prop where
  id_eq : fn.id = joinWith "/" (k12_segs stk ++ [fn.name])
  params : ∀ p ∈ fn.params, p.id = fn.id ++ "/" ++ p.name
  results : ∀ r ∈ fn.results, r.id = fn.id ++ "/" ++ r.name

/-- the recorded function carries the flags and parameter names of the source definition -/
structure k12_FnMatch (f : FuncDef) (fn : Function) : Prop where
  name : fn.name = f.name
  isStatic : fn.isStatic = f.isStatic
  isClassMethod : fn.isClassMethod = f.isClass
  isProperty : fn.isProperty = f.isProperty
  params : fn.params.map (·.name) = f.args.map (·.name)

theorem k12_isPublicV_ok_ne_nil {s : VSt} {n q : String} {b : Bool} (h : isPublicV s n q = .ok b) : s.stack ≠ [] := by
  intro he
  unfold isPublicV parentKind at h
  rw [he] at h
  simp at h

theorem k12_get_bind_ok {β : Type} {f : VSt → V β} {s s' : VSt} {b : β} (h : (get >>= f) s = .ok (b, s')) :
    f s s = .ok (b, s') := by
  obtain ⟨a, s1, h1, h2⟩ := se_bind_ok h
  obtain ⟨e1, e2⟩ := se_get_ok h1
  rw [e1, e2] at h2
  exact h2

/-- running a pure verdict inside the monad: `match r with | .ok b => pure b | .error e => throwV e` -/
theorem k12_liftExcept_ok {r : Except PyErr Bool} {s s' : VSt} {a : Bool}
    (h : (match r with | .ok b => pure b | .error e => throwV e : V Bool) s = .ok (a, s')) : r = .ok a ∧ s = s' := by
  cases r with
  | ok b =>
    obtain ⟨rfl, rfl⟩ := se_pure_ok h
    exact ⟨rfl, rfl⟩
  | error e => exact (k12_throw_ok h).elim

theorem k12_isPublicV_same {s s' : VSt} (h : k12_Same s s') (name qname : String) :
    isPublicV s' name qname = isPublicV s name qname := by
  obtain ⟨⟨ha, hs⟩, hq, hn⟩ := h
  unfold isPublicV parentKind checkPublicityInReexports
  rw [ha, hs, hq, hn]

theorem k12_getReexportedBy_congr {s t : VSt} (h : t.api = s.api) (q : String) :
    getReexportedBy t q = getReexportedBy s q := by
  unfold getReexportedBy
  rw [h]

/-- `enter_funcdef`: the function pushed on the stack; its `isPublic` and `reexportedBy` are computed in the entry state -/
theorem k12_enterFuncdef_ok {env : AEnv} {f : FuncDef} {s s' : VSt} {u : Unit} (h : enterFuncdef env f s = .ok (u, s')) :
    ∃ fn, s'.api = s.api ∧ s'.stack = .fn fn :: s.stack ∧ k12_FnOk s.stack fn ∧ k12_FnMatch f fn ∧ s.stack ≠ [] ∧
      isPublicV s f.name f.fullname = .ok fn.isPublic ∧ fn.reexportedBy = sortModRefs (getReexportedBy s f.fullname) := by
  unfold enterFuncdef at h
  replace h := k12_get_bind_ok h
  obtain ⟨pub, t1, h1, h⟩ := se_bind_ok h
  obtain ⟨hpub, rfl⟩ := k12_liftExcept_ok h1
  obtain ⟨doc, t2, h2, h⟩ := se_bind_ok h
  have e2 := (k12_functionDocumentation_fr env f).all _ _ _ h2
  obtain ⟨_, t3, h3, h⟩ := se_bind_ok h
  have e3 : k12_Same t2 t3 := by rw [se_modify_ok h3]; exact k12_Same.refl t2
  obtain ⟨params, t4, h4, h⟩ := se_bind_ok h
  have e4 := (k12_parseParameters_fr env f _ f.args).all _ _ _ h4
  have o4 := (k12_parseParameters_out env f _ f.args).run _ _ _ h4
  replace h := k12_get_bind_ok h
  obtain ⟨params', t6, h6, h⟩ := se_bind_ok h
  have e6 := (k12_reconcileParameters_fr env _ params).all _ _ _ h6
  have o6 := (k12_reconcileParameters_out env _ params).run _ _ _ h6
  obtain ⟨rdocs, t7, h7, h⟩ := se_bind_ok h
  have e7 := (k12_resultDocumentation_fr env f.fullname).all _ _ _ h7
  obtain ⟨results, t8, h8, h⟩ := se_bind_ok h
  have e8 := (k12_parseResults_fr env f _ rdocs).all _ _ _ h8
  have o8 := (k12_parseResults_out env f _ rdocs).run _ _ _ h8
  obtain ⟨results', t9, h9, h⟩ := se_bind_ok h
  have e9 := (k12_reconcileResults_fr env _ rdocs 0 results results).all _ _ _ h9
  have o9 := (k12_reconcileResults_out env _ rdocs 0 results results o8).run _ _ _ h9
  replace h := k12_get_bind_ok h
  have hs' := se_modify_ok h
  have e : k12_Same s t9 := (((((e2.trans e3).trans e4).trans e6).trans e7).trans e8).trans e9
  refine ⟨_, by rw [hs']; exact e.1.1, by rw [hs']; dsimp only; rw [e.1.2], ⟨k12_createId_eq s f.name, ?_, o9.all⟩,
    ⟨rfl, rfl, rfl, rfl, ?_⟩, k12_isPublicV_ok_ne_nil hpub, hpub, ?_⟩
  · intro q hq
    have hq' : (q.id, q.name) ∈ params.map (fun p => (p.id, p.name)) := o6 ▸ List.mem_map_of_mem hq
    obtain ⟨p, hp, he⟩ := List.mem_map.1 hq'
    simp only [Prod.mk.injEq] at he
    rw [← he.1, ← he.2]
    exact o4.2 p hp
  · have := congrArg (List.map Prod.snd) o6
    rw [List.map_map, List.map_map] at this
    exact this.trans o4.1
  · dsimp only
    rw [k12_getReexportedBy_congr e.1.1]


structure k12_ClsOk (stk : List Frame) (c : Class) : Prop where
  id_eq : c.id = joinWith "/" (k12_segs stk ++ [c.name])
  classes : c.classes = []
  methods : c.methods = []
  ctor : c.ctor = none
  attributes : c.attributes = []

structure k12_EnumOk (stk : List Frame) (e : Enum) : Prop where
  id_eq : e.id = joinWith "/" (k12_segs stk ++ [e.name])
  instances : e.instances = []

/-- `enter_classdef`: the class pushed on the stack; its `isPublic` and `reexportedBy` are as computed in the ENTRY state
    (the documentation / type-parameter steps before them do not change what `isPublicV` and `getReexportedBy` read) -/
theorem k12_enterClassdef_ok {env : AEnv} {name fullname : String} {bases removed : List BaseExpr} {defs : List Def}
    {s s' : VSt} {u : Unit} (h : enterClassdef env name fullname bases removed defs s = .ok (u, s')) :
    ∃ c, s'.api = s.api ∧ s'.stack = .cls c :: s.stack ∧ k12_ClsOk s.stack c ∧ c.name = name ∧ s.stack ≠ [] ∧
      isPublicV s name fullname = .ok c.isPublic ∧ c.reexportedBy = sortModRefs (getReexportedBy s fullname) := by
  unfold enterClassdef at h
  replace h := k12_get_bind_ok h
  obtain ⟨doc, t1, h1, h⟩ := se_bind_ok h
  have e1 := (k12_classDocumentation_fr env fullname defs).all _ _ _ h1
  obtain ⟨tps, t2, h2, h⟩ := se_bind_ok h
  have e2 := (by k12_keeps [k12_typeParameters_fr] : k12_Keeps _).all _ _ _ h2
  replace h := k12_get_bind_ok h
  obtain ⟨supers, t3, h3, h⟩ := se_bind_ok h
  have e3 := (by k12_keeps [Inv.mapM] : k12_Keeps _).all _ _ _ h3
  obtain ⟨_, t4, h4, h⟩ := se_bind_ok h
  have e4 := (k12_ctorFullDoc_fr env defs).all _ _ _ h4
  replace h := k12_get_bind_ok h
  obtain ⟨pub, t5, h5, h⟩ := se_bind_ok h
  obtain ⟨hpub, rfl⟩ := k12_liftExcept_ok h5
  have e : k12_Same s t4 := ((e1.trans e2).trans e3).trans e4
  rw [k12_isPublicV_same e] at hpub
  have hs' := se_modify_ok h
  refine ⟨_, by rw [hs']; exact e.1.1, by rw [hs']; dsimp only; rw [e.1.2], ⟨k12_createId_eq s name, rfl, rfl, rfl, rfl⟩,
    rfl, k12_isPublicV_ok_ne_nil hpub, hpub, ?_⟩
  dsimp only
  rw [k12_getReexportedBy_congr (e1.trans e2).1.1]

theorem k12_enterEnumdef_ok {env : AEnv} {name fullname : String} {defs : List Def}
    {s s' : VSt} {u : Unit} (h : enterEnumdef env name fullname defs s = .ok (u, s')) :
    ∃ e, s'.api = s.api ∧ s'.stack = .enum e :: s.stack ∧ k12_EnumOk s.stack e ∧ e.name = name := by
  unfold enterEnumdef at h
  replace h := k12_get_bind_ok h
  obtain ⟨doc, t1, h1, h⟩ := se_bind_ok h
  have e1 := (k12_classDocumentation_fr env fullname defs).run _ _ _ h1
  have hs' := se_modify_ok h
  refine ⟨_, by rw [hs']; exact e1.1, by rw [hs']; dsimp only; rw [e1.2], ⟨?_, rfl⟩, rfl⟩
  exact k12_createId_eq s name

theorem k12_enterModuledef_ok {m : SrcModule} {s s' : VSt} {u : Unit} (h : enterModuledef m s = .ok (u, s')) :
    ∃ md, s'.stack = .module md :: s.stack ∧ (∃ rm, s'.api = { s.api with reexportMap := rm }) ∧
      md.id = replaceChar m.fullname '.' "/" ∧ md.classes = [] ∧ md.functions = [] ∧ md.enums = [] := by
  unfold enterModuledef at h
  have hs' := se_modify_ok h
  rw [hs']
  refine ⟨_, rfl, ?_, rfl, rfl, rfl, rfl⟩
  dsimp only
  split
  · exact ⟨_, rfl⟩
  · exact ⟨s.api.reexportMap, rfl⟩


/-! ### attributes and enum instances: what `enter_assignmentstmt` collects -/

/-- output facts that may mention the (unchanged) declaration stack -/
structure k12_OutS {α : Type} (x : V α) (P : List Frame → α → Prop) : Prop where
  run : ∀ (s : VSt) (a : α) (s' : VSt), x s = .ok (a, s') → P s.stack a

namespace k12_OutS
variable {α β : Type}

theorem pure {P : List Frame → α → Prop} {a : α} (h : ∀ stk, P stk a) : k12_OutS (Pure.pure a : V α) P := by
  refine ⟨fun s b s' h' => ?_⟩
  obtain ⟨rfl, _⟩ := se_pure_ok h'
  exact h _

theorem throw {P : List Frame → α → Prop} (e : PyErr) : k12_OutS (throwV e : V α) P :=
  ⟨fun _ _ _ h => (k12_throw_ok h).elim⟩

theorem bind {P : List Frame → β → Prop} {x : V α} {f : α → V β} (hx : k12_Fr x) (hf : ∀ a, k12_OutS (f a) P) :
    k12_OutS (x >>= f) P := by
  refine ⟨fun s b s' h => ?_⟩
  obtain ⟨a, s1, h1, h2⟩ := se_bind_ok h
  have := (hf a).run s1 b s' h2
  rw [(hx.run s a s1 h1).2] at this
  exact this

theorem bind' {Q : List Frame → α → Prop} {P : List Frame → β → Prop} {x : V α} {f : α → V β} (hx : k12_Keeps x)
    (hq : k12_OutS x Q) (hf : ∀ a, k12_OutS (f a) (fun stk b => Q stk a → P stk b)) : k12_OutS (x >>= f) P := by
  refine ⟨fun s b s' h => ?_⟩
  obtain ⟨a, s1, h1, h2⟩ := se_bind_ok h
  have := (hf a).run s1 b s' h2
  rw [(hx.run s a s1 h1).2] at this
  exact this (hq.run s a s1 h1)

theorem get_bind {P : List Frame → β → Prop} {f : VSt → V β}
    (hf : ∀ s0, k12_OutS (f s0) (fun stk b => s0.stack = stk → P stk b)) : k12_OutS (get >>= f) P := by
  refine ⟨fun s b s' h => ?_⟩
  have h2 := k12_get_bind_ok h
  exact (hf s).run s b s' h2 rfl

theorem throw_bind {P : List Frame → β → Prop} {e : PyErr} {f : α → V β} : k12_OutS (throwV e >>= f) P := by
  refine ⟨fun s b s' h => ?_⟩
  obtain ⟨a, s1, h1, _⟩ := se_bind_ok h
  exact (k12_throw_ok h1).elim

end k12_OutS

/-- the id of the class that owns the attributes assigned at this point of the walk: the class on top of the stack,
    or the class directly below the function on top of the stack -/
def k12_ownerId : List Frame → Option String
  | .fn _ :: .cls c :: _ => some c.id
  | .cls c :: _ => some c.id
  | _ => none

/-- the id `_create_attribute` computes on the stack `stk`: `<id of the owning class>/<name>` -/
def k12_AttrOk (stk : List Frame) (a : Attribute) : Prop :=
  ∃ o, k12_ownerId stk = some o ∧ a.id = o ++ "/" ++ a.name

theorem k12_parentId_ok {stk : List Frame} {s s' : VSt} {pid : String}
    (h : (match stk with
      | .fn f :: .cls c :: _ => if f.name == "__init__" then pure c.id else throwV .assertionError
      | .cls c :: _ => pure c.id
      | _ => throwV .assertionError : V String) s = .ok (pid, s')) : k12_ownerId stk = some pid ∧ s' = s := by
  split at h
  · split at h
    · obtain ⟨rfl, e⟩ := se_pure_ok h
      exact ⟨rfl, e⟩
    · exact (k12_throw_ok h).elim
  · obtain ⟨rfl, e⟩ := se_pure_ok h
    exact ⟨rfl, e⟩
  · exact (k12_throw_ok h).elim

/-- `_create_attribute`: the attribute's id is formed from the owner of the entry stack, and its `isPublic` is the
    verdict on its name and the qualified name computed first, in the entry state -/
theorem k12_createAttributeV_ok {env : AEnv} {isMember : Bool} {name fullname : String} {isVar : Bool}
    {var : Option VarInfo} {un : Option MType} {isStatic : Bool} {s s' : VSt} {a : Attribute}
    (h : createAttributeV env isMember name fullname isVar var un isStatic s = .ok (a, s')) :
    k12_AttrOk s.stack a ∧ a.name = name ∧
      isPublicV s name (match (generalizing := false) var with
        | some v => if fullname == name || fullname == "" then v.fullname else fullname
        | none => fullname) = .ok a.isPublic := by
  generalize hx : createAttributeV env isMember name fullname isVar var un isStatic = x at h
  unfold createAttributeV at hx
  extract_lets qname attrType rest at hx
  clear_value attrType
  subst hx
  have hrest : rest () s = .ok (a, s') := by
    split at h
    · obtain ⟨_, _, h1, _⟩ := se_bind_ok h
      exact (k12_throw_ok h1).elim
    · exact h
  clear h
  obtain ⟨ty, t1, h1, h⟩ := se_bind_ok hrest
  have e1 := (by k12_keeps [k12_toAbstract_fr] : k12_Keeps _).all _ _ _ h1
  replace h := k12_get_bind_ok h
  obtain ⟨pid, t2, h2, h⟩ := se_bind_ok h
  obtain ⟨hown, e2⟩ := k12_parentId_ok h2
  rw [e2] at h
  obtain ⟨doc, t3, h3, h⟩ := se_bind_ok h
  have e3 := (k12_attributeDocumentation_fr env pid name).all _ _ _ h3
  replace h := k12_get_bind_ok h
  obtain ⟨pub, t4, h4, h⟩ := se_bind_ok h
  obtain ⟨hpub, rfl⟩ := k12_liftExcept_ok h4
  obtain ⟨rfl, _⟩ := se_pure_ok h
  rw [k12_isPublicV_same (e1.trans e3)] at hpub
  exact ⟨⟨pid, by rw [← e1.1.2]; exact hown, rfl⟩, rfl, hpub⟩

theorem k12_createAttributeV_out (env : AEnv) (isMember : Bool) (name fullname : String) (isVar : Bool) (var : Option VarInfo)
    (un : Option MType) (isStatic : Bool) :
    k12_OutS (createAttributeV env isMember name fullname isVar var un isStatic) (fun stk a => k12_AttrOk stk a) :=
  ⟨fun _ _ _ h => (k12_createAttributeV_ok h).1⟩

/-- what `enter_assignmentstmt` guarantees about a collected item -/
def k12_ItemOk (stk : List Frame) : AssignItem → Prop
  | .attr a => k12_AttrOk stk a
  | .inst e => ∀ en rest, stk = .enum en :: rest → e.id = en.id ++ "/" ++ e.name

structure k12_AttrsOk (stk : List Frame) (as : List Attribute) : Prop where
  all : ∀ a ∈ as, k12_AttrOk stk a

structure k12_ItemsOk (stk : List Frame) (items : List AssignItem) : Prop where
  all : ∀ it ∈ items, k12_ItemOk stk it

theorem k12_AttrsOk.nil (stk : List Frame) : k12_AttrsOk stk [] := ⟨fun _ h => absurd h List.not_mem_nil⟩
theorem k12_ItemsOk.nil (stk : List Frame) : k12_ItemsOk stk [] := ⟨fun _ h => absurd h List.not_mem_nil⟩

theorem k12_AttrsOk.append {stk : List Frame} {a b : List Attribute} (ha : k12_AttrsOk stk a) (hb : k12_AttrsOk stk b) :
    k12_AttrsOk stk (a ++ b) :=
  ⟨fun x hx => (List.mem_append.1 hx).elim (ha.all x) (hb.all x)⟩

theorem k12_ItemsOk.append {stk : List Frame} {a b : List AssignItem} (ha : k12_ItemsOk stk a) (hb : k12_ItemsOk stk b) :
    k12_ItemsOk stk (a ++ b) :=
  ⟨fun x hx => (List.mem_append.1 hx).elim (ha.all x) (hb.all x)⟩

theorem k12_AttrsOk.items {stk : List Frame} {as : List Attribute} (h : k12_AttrsOk stk as) :
    k12_ItemsOk stk (as.map AssignItem.attr) := by
  refine ⟨fun it hit => ?_⟩
  obtain ⟨a, ha, rfl⟩ := List.mem_map.1 hit
  exact h.all a ha

theorem k12_parseAttributes_one_out (env : AEnv) (un : Option MType) (isStatic : Bool) (isMember : Bool)
    (name fullname : String) (isVar : Bool) (var : Option VarInfo) :
    k12_OutS (do
      let s ← get
      match attributeAlreadyDefined s name with
      | .error e => throwV e
      | .ok true => pure []
      | .ok false =>
        if isMember && !isVar then pure []
        else do
          let a ← createAttributeV env isMember name fullname isVar var un isStatic
          pure [a] : V (List Attribute)) k12_AttrsOk := by
  refine k12_OutS.get_bind (fun s0 => ?_)
  split
  · exact k12_OutS.throw _
  · exact k12_OutS.pure (fun stk _ => k12_AttrsOk.nil stk)
  · split
    · exact k12_OutS.pure (fun stk _ => k12_AttrsOk.nil stk)
    · refine k12_OutS.bind' (k12_createAttributeV_fr _ _ _ _ _ _ _ _) (k12_createAttributeV_out ..) (fun a => ?_)
      refine k12_OutS.pure ?_
      intro stk ha _
      refine ⟨fun x hx => ?_⟩
      rw [List.mem_singleton.1 hx]
      exact ha

theorem k12_parseAttributes_go_out (one : Bool → String → String → Bool → Option VarInfo → V (List Attribute))
    (h1 : ∀ a b c d e, k12_Keeps (one a b c d e)) (h2 : ∀ a b c d e, k12_OutS (one a b c d e) k12_AttrsOk) :
    (l : List LValue) → k12_OutS (parseAttributes.go one l) k12_AttrsOk
  | [] => by unfold parseAttributes.go; exact k12_OutS.pure (fun stk => k12_AttrsOk.nil stk)
  | .name .. :: rest | .member .. :: rest => by
    have ih := k12_parseAttributes_go_out one h1 h2 rest
    unfold parseAttributes.go
    refine k12_OutS.bind' (h1 _ _ _ _ _) (h2 ..) (fun a => ?_)
    refine k12_OutS.bind' (k12_parseAttributes_go_fr one h1 rest) ih (fun r => ?_)
    refine k12_OutS.pure ?_
    intro stk hr ha
    exact ha.append hr
  | .tuple _ :: rest | .other :: rest => by
    have ih := k12_parseAttributes_go_out one h1 h2 rest
    unfold parseAttributes.go
    exact ih

theorem k12_parseAttributes_out (env : AEnv) (lv : LValue) (un : Option MType) (isStatic : Bool) :
    k12_OutS (parseAttributes env lv un isStatic) k12_AttrsOk := by
  unfold parseAttributes
  dsimp only
  split
  · exact k12_parseAttributes_one_out ..
  · exact k12_parseAttributes_one_out ..
  · refine k12_parseAttributes_go_out _ ?_ ?_ _
    · intro a b c d e; exact k12_parseAttributes_one_fr env un isStatic a b c d e
    · intro a b c d e; exact k12_parseAttributes_one_out env un isStatic a b c d e
  · exact k12_OutS.pure (fun stk => k12_AttrsOk.nil stk)

theorem k12_enterAssignment_go_out (env : AEnv) (a : Assignment) : (l : List LValue) →
    k12_OutS (enterAssignment.go env a l) k12_ItemsOk
  | [] => by unfold enterAssignment.go; exact k12_OutS.pure (fun stk => k12_ItemsOk.nil stk)
  | lv :: rest => by
    have ih := k12_enterAssignment_go_out env a rest
    unfold enterAssignment.go
    refine k12_OutS.get_bind (fun s0 => ?_)
    have hhere : k12_OutS (match s0.stack with
        | .cls _ :: _ => do let as ← parseAttributes env lv a.unanalyzedType true; pure (as.map AssignItem.attr)
        | .fn f :: .cls _ :: _ =>
          if f.name == "__init__" && !isNameLValue lv then do
            let as ← parseAttributes env lv a.unanalyzedType false; pure (as.map AssignItem.attr)
          else pure []
        | .enum e :: _ =>
          (match lvalueNames lv with
           | .error err => throwV err
           | .ok ns => pure (ns.map fun n => AssignItem.inst { id := e.id ++ "/" ++ n, name := n }))
        | _ => pure [] : V (List AssignItem)) (fun stk items => s0.stack = stk → k12_ItemsOk stk items) := by
      split
      · refine k12_OutS.bind' (k12_parseAttributes_fr _ _ _ _) (k12_parseAttributes_out ..) (fun as => ?_)
        refine k12_OutS.pure ?_
        intro stk has _
        exact has.items
      · split
        · refine k12_OutS.bind' (k12_parseAttributes_fr _ _ _ _) (k12_parseAttributes_out ..) (fun as => ?_)
          refine k12_OutS.pure ?_
          intro stk has _
          exact has.items
        · exact k12_OutS.pure (fun stk _ => k12_ItemsOk.nil stk)
      · split
        · exact k12_OutS.throw _
        · refine k12_OutS.pure ?_
          intro stk hstk
          refine ⟨fun it hit => ?_⟩
          obtain ⟨n, _, rfl⟩ := List.mem_map.1 hit
          intro en rest' he
          rename_i e0 tl0 hs0 _ _ _ _
          have he2 : Frame.enum e0 :: tl0 = Frame.enum en :: rest' := by rw [← hs0, hstk, he]
          simp only [List.cons.injEq, Frame.enum.injEq] at he2
          dsimp only
          rw [he2.1]
      · exact k12_OutS.pure (fun stk _ => k12_ItemsOk.nil stk)
    refine k12_OutS.bind' (by k12_keeps [k12_parseAttributes_fr]) hhere (fun here => ?_)
    refine k12_OutS.bind' (k12_enterAssignment_go_fr env a rest) ih (fun more => ?_)
    refine k12_OutS.pure ?_
    intro stk hmore hhere' hs0
    exact (hhere' hs0).append hmore

theorem k12_enterAssignment_ok {env : AEnv} {a : Assignment} {s s' : VSt} {u : Unit} (h : enterAssignment env a s = .ok (u, s')) :
    ∃ items, s'.api = s.api ∧ s'.stack = .assigns items :: s.stack ∧ k12_ItemsOk s.stack items := by
  unfold enterAssignment at h
  obtain ⟨items, t1, h1, h⟩ := se_bind_ok h
  have e1 := (k12_enterAssignment_go_fr env a a.lvalues).run _ _ _ h1
  have o1 := (k12_enterAssignment_go_out env a a.lvalues).run _ _ _ h1
  have hs' := se_modify_ok h
  exact ⟨items, by rw [hs']; exact e1.1, by rw [hs']; dsimp only; rw [e1.2], o1⟩


/-! ### the abstract transitions of tables and declaration stack -/

/-- `leave_funcdef`: the function, its results and its parameters go into the tables -/
def k12_apiAddFn (api : AnaResult) (f : Function) : AnaResult :=
  { api with functions := dictSet (·.id) api.functions f,
             results := f.results.foldl (dictSet (·.id)) api.results,
             parameters := f.params.foldl (dictSet (·.id)) api.parameters }

/-- `leave_funcdef`: the owner frame takes the function -/
def k12_fnParent (f : Function) : Frame → Frame
  | .module m => .module { m with functions := m.functions ++ [f] }
  | .cls c => if f.name == "__init__" then .cls { c with ctor := some f } else .cls { c with methods := c.methods ++ [f] }
  | other => other

/-- one transition; the `List Function` is the list of functions written to the `functions` table, the `List Class`
    the list of classes written to the `classes` table -/
inductive k12_Step : AnaResult → List Frame → List Function → List Class → AnaResult → List Frame → Prop
  | reexp (api : AnaResult) (stk : List Frame) (rm : List (String × List ModRef)) :
      k12_Step api stk [] [] { api with reexportMap := rm } stk
  | pushModule (api : AnaResult) (stk : List Frame) (m : Module) :
      m.classes = [] → m.functions = [] → m.enums = [] → k12_Step api stk [] [] api (.module m :: stk)
  | popModule (api : AnaResult) (m : Module) (rest : List Frame) :
      k12_Step api (.module m :: rest) [] [] { api with modules := dictSet (·.id) api.modules m } rest
  | pushFn (api : AnaResult) (stk : List Frame) (fn : Function) :
      k12_FnOk stk fn → stk ≠ [] → k12_Step api stk [] [] api (.fn fn :: stk)
  | popFn (api : AnaResult) (f : Function) (parent : Frame) (up : List Frame) :
      k12_Step api (.fn f :: parent :: up) [f] [] (k12_apiAddFn api f) (k12_fnParent f parent :: up)
  | pushCls (api : AnaResult) (stk : List Frame) (c : Class) :
      k12_ClsOk stk c → stk ≠ [] → k12_Step api stk [] [] api (.cls c :: stk)
  | popClsM (api : AnaResult) (c : Class) (m : Module) (up : List Frame) :
      k12_Step api (.cls c :: .module m :: up) [] [c] { api with classes := dictSet (·.id) api.classes c }
        (.module { m with classes := m.classes ++ [c] } :: up)
  | popClsC (api : AnaResult) (c p : Class) (up : List Frame) :
      k12_Step api (.cls c :: .cls p :: up) [] [c] { api with classes := dictSet (·.id) api.classes c }
        (.cls { p with classes := p.classes ++ [c] } :: up)
  | pushEnum (api : AnaResult) (stk : List Frame) (e : Enum) :
      k12_EnumOk stk e → stk ≠ [] → k12_Step api stk [] [] api (.enum e :: stk)
  | popEnumM (api : AnaResult) (e : Enum) (m : Module) (up : List Frame) :
      k12_Step api (.enum e :: .module m :: up) [] [] { api with enums := dictSet (·.id) api.enums e }
        (.module { m with enums := m.enums ++ [e] } :: up)
  | dropEnum (api : AnaResult) (en : Enum) (rest : List Frame) : k12_Step api (.enum en :: rest) [] [] api rest
  | addAttrF (api : AnaResult) (f : Function) (c : Class) (up : List Frame) (a : Attribute) :
      a.id = c.id ++ "/" ++ a.name →
      k12_Step api (.fn f :: .cls c :: up) [] [] { api with attributes := dictSet (·.id) api.attributes a }
        (.fn f :: .cls { c with attributes := c.attributes ++ [a] } :: up)
  | addAttrC (api : AnaResult) (c : Class) (up : List Frame) (a : Attribute) :
      a.id = c.id ++ "/" ++ a.name →
      k12_Step api (.cls c :: up) [] [] { api with attributes := dictSet (·.id) api.attributes a }
        (.cls { c with attributes := c.attributes ++ [a] } :: up)
  | addInst (api : AnaResult) (en : Enum) (up : List Frame) (e : EnumInstance) :
      e.id = en.id ++ "/" ++ e.name →
      k12_Step api (.enum en :: up) [] [] { api with enumInstances := dictSet (·.id) api.enumInstances e }
        (.enum { en with instances := en.instances ++ [e] } :: up)

inductive k12_Steps : AnaResult → List Frame → List Function → List Class → AnaResult → List Frame → Prop
  | refl (api : AnaResult) (stk : List Frame) : k12_Steps api stk [] [] api stk
  | cons {a : AnaResult} {s : List Frame} {e1 : List Function} {c1 : List Class} {a1 : AnaResult} {s1 : List Frame}
      {e2 : List Function} {c2 : List Class} {a2 : AnaResult} {s2 : List Frame} {e : List Function} {c : List Class} :
      k12_Step a s e1 c1 a1 s1 → k12_Steps a1 s1 e2 c2 a2 s2 → e = e1 ++ e2 → c = c1 ++ c2 → k12_Steps a s e c a2 s2

theorem k12_Steps.one {a : AnaResult} {s : List Frame} {e : List Function} {c : List Class} {a1 : AnaResult} {s1 : List Frame}
    (h : k12_Step a s e c a1 s1) : k12_Steps a s e c a1 s1 :=
  .cons h (.refl _ _) (List.append_nil e).symm (List.append_nil c).symm

theorem k12_Steps.trans {a : AnaResult} {s : List Frame} {e1 : List Function} {c1 : List Class} {a1 : AnaResult}
    {s1 : List Frame} {e2 : List Function} {c2 : List Class} {a2 : AnaResult} {s2 : List Frame}
    (h1 : k12_Steps a s e1 c1 a1 s1) (h2 : k12_Steps a1 s1 e2 c2 a2 s2) :
    ∀ e c, e = e1 ++ e2 → c = c1 ++ c2 → k12_Steps a s e c a2 s2 := by
  induction h1 with
  | refl => intro e c he hc; rw [he, hc, List.nil_append, List.nil_append]; exact h2
  | cons hs _ he1 hc1 ih =>
    intro e c he hc
    refine .cons hs (ih h2 _ _ rfl rfl) ?_ ?_
    · rw [he, he1, List.append_assoc]
    · rw [hc, hc1, List.append_assoc]

theorem k12_Steps.trans0 {a : AnaResult} {s : List Frame} {a1 : AnaResult} {s1 : List Frame}
    {e2 : List Function} {c2 : List Class} {a2 : AnaResult} {s2 : List Frame}
    (h1 : k12_Steps a s [] [] a1 s1) (h2 : k12_Steps a1 s1 e2 c2 a2 s2) : k12_Steps a s e2 c2 a2 s2 :=
  h1.trans h2 _ _ (List.nil_append _).symm (List.nil_append _).symm

theorem k12_Steps.trans0' {a : AnaResult} {s : List Frame} {a1 : AnaResult} {s1 : List Frame}
    {e1 : List Function} {c1 : List Class} {a2 : AnaResult} {s2 : List Frame}
    (h1 : k12_Steps a s e1 c1 a1 s1) (h2 : k12_Steps a1 s1 [] [] a2 s2) : k12_Steps a s e1 c1 a2 s2 :=
  h1.trans h2 _ _ (List.append_nil _).symm (List.append_nil _).symm

/-- the kind of a frame: 0 module, 1 class, 2 function, 3 enum, 4 assignment -/
def k12_kind : Frame → Nat
  | .module _ => 0
  | .cls _ => 1
  | .fn _ => 2
  | .enum _ => 3
  | .assigns _ => 4

/-- the id of the declaration of a frame -/
def k12_frameId : Frame → String
  | .module m => m.id
  | .cls c => c.id
  | .fn f => f.id
  | .enum e => e.id
  | .assigns _ => ""

/-- kind, id segment and id of a frame -/
def k12_frameSig (fr : Frame) : Nat × Option String × String := (k12_kind fr, frameSegment fr, k12_frameId fr)

/-- the kinds, segments and ids of the frames (`k12_segs` is computed from the segments) -/
def k12_shape (stk : List Frame) : List (Nat × Option String × String) := stk.map k12_frameSig

theorem k12_segs_eq_of_shape {stk stk' : List Frame} (h : k12_shape stk = k12_shape stk') : k12_segs stk = k12_segs stk' := by
  unfold k12_segs
  have e : ∀ l : List Frame, l.reverse.filterMap frameSegment = ((l.map k12_frameSig).reverse).filterMap (·.2.1) := by
    intro l
    rw [← List.map_reverse, List.filterMap_map]
    rfl
  rw [e, e]
  unfold k12_shape at h
  rw [h]

theorem k12_fnParent_sig (f : Function) (p : Frame) : k12_frameSig (k12_fnParent f p) = k12_frameSig p := by
  cases p with
  | cls c =>
    show k12_frameSig (if f.name == "__init__" then _ else _) = _
    split <;> rfl
  | _ => rfl

theorem k12_fnParent_segment (f : Function) (p : Frame) : frameSegment (k12_fnParent f p) = frameSegment p :=
  congrArg (·.2.1) (k12_fnParent_sig f p)

/-- the kind of the top frame -/
def k12_topKind (stk : List Frame) : Option Nat := (k12_shape stk).head?.map (·.1)

theorem k12_topKind_of_shape {stk stk' : List Frame} (h : k12_shape stk' = k12_shape stk) : k12_topKind stk' = k12_topKind stk := by
  unfold k12_topKind; rw [h]

/-- a class definition is visited below a module or a class only -/
def k12_ParentOk (stk : List Frame) : Prop := k12_topKind stk = some 0 ∨ k12_topKind stk = some 1

theorem k12_ParentOk_cases {stk : List Frame} (h : k12_ParentOk stk) :
    (∃ m up, stk = .module m :: up) ∨ (∃ p up, stk = .cls p :: up) := by
  cases stk with
  | nil => rcases h with h | h <;> simp [k12_topKind, k12_shape] at h
  | cons fr up =>
    cases fr with
    | module m => exact Or.inl ⟨m, up, rfl⟩
    | cls p => exact Or.inr ⟨p, up, rfl⟩
    | _ => rcases h with h | h <;> simp [k12_topKind, k12_shape, k12_frameSig, k12_kind] at h

/-! ### the `leave_*` functions as transitions -/

theorem k12_leaveFuncdef_ok {s s' : VSt} {u : Unit} (h : leaveFuncdef s = .ok (u, s')) :
    ∃ f rest, s.stack = .fn f :: rest ∧ k12_shape s'.stack = k12_shape rest ∧
      ((rest = [] ∧ s'.api = s.api ∧ s'.stack = []) ∨
       (∃ parent up, rest = parent :: up ∧ s'.api = k12_apiAddFn s.api f ∧ s'.stack = k12_fnParent f parent :: up)) := by
  unfold leaveFuncdef at h
  replace h := k12_get_bind_ok h
  cases hstk : s.stack with
  | nil => rw [hstk] at h; exact (k12_throw_ok h).elim
  | cons fr rest =>
    rw [hstk] at h
    cases fr with
    | fn f =>
      dsimp only at h
      cases rest with
      | nil =>
        have hs' := se_set_ok h
        refine ⟨f, [], rfl, by rw [hs'], Or.inl ⟨rfl, by rw [hs'], by rw [hs']⟩⟩
      | cons parent up =>
        have hs' := se_set_ok h
        refine ⟨f, parent :: up, rfl, ?_, Or.inr ⟨parent, up, rfl, ?_, ?_⟩⟩
        · rw [hs']
          show k12_shape (_ :: up) = _
          unfold k12_shape
          simp only [List.map_cons]
          congr 1
          exact k12_fnParent_sig f parent
        · rw [hs']; rfl
        · rw [hs']; rfl
    | _ => exact (k12_throw_ok h).elim


theorem k12_leaveClassdef_ok {s s' : VSt} {u : Unit} (h : leaveClassdef s = .ok (u, s')) :
    ∃ c rest, s.stack = .cls c :: rest ∧ k12_shape s'.stack = k12_shape rest ∧
      (∃ cs, s'.api = { s.api with classes := cs }) ∧
      (k12_ParentOk rest → k12_Step s.api s.stack [] [c] s'.api s'.stack) := by
  unfold leaveClassdef at h
  replace h := k12_get_bind_ok h
  cases hstk : s.stack with
  | nil => rw [hstk] at h; exact (k12_throw_ok h).elim
  | cons fr rest =>
    rw [hstk] at h
    cases fr with
    | cls c =>
      dsimp only at h
      refine ⟨c, rest, rfl, ?_⟩
      split at h
      · rw [se_set_ok h]; exact ⟨rfl, ⟨_, rfl⟩, fun _ => k12_Step.popClsM _ _ _ _⟩
      · rw [se_set_ok h]; exact ⟨rfl, ⟨_, rfl⟩, fun _ => k12_Step.popClsC _ _ _ _⟩
      · rename_i h1 h2
        rw [se_set_ok h]
        refine ⟨rfl, ⟨_, rfl⟩, fun hp => ?_⟩
        rcases k12_ParentOk_cases hp with ⟨m, up, e⟩ | ⟨p, up, e⟩
        · exact (h1 m up e).elim
        · exact (h2 p up e).elim
    | _ => exact (k12_throw_ok h).elim

theorem k12_leaveEnumdef_ok {s s' : VSt} {u : Unit} (h : leaveEnumdef s = .ok (u, s')) :
    ∃ e rest, s.stack = .enum e :: rest ∧ k12_shape s'.stack = k12_shape rest ∧
      k12_Step s.api s.stack [] [] s'.api s'.stack := by
  unfold leaveEnumdef at h
  replace h := k12_get_bind_ok h
  cases hstk : s.stack with
  | nil => rw [hstk] at h; exact (k12_throw_ok h).elim
  | cons fr rest =>
    rw [hstk] at h
    cases fr with
    | enum e =>
      dsimp only at h
      refine ⟨e, rest, rfl, ?_⟩
      split at h
      · have hs' := se_set_ok h
        rw [hs']
        exact ⟨rfl, k12_Step.popEnumM _ _ _ _⟩
      · have hs' := se_set_ok h
        rw [hs']
        exact ⟨rfl, k12_Step.dropEnum _ _ _⟩
    | _ => exact (k12_throw_ok h).elim

theorem k12_leaveModuledef_ok {s s' : VSt} {u : Unit} (h : leaveModuledef s = .ok (u, s')) :
    ∃ m rest, s.stack = .module m :: rest ∧ s'.stack = rest ∧
      k12_Step s.api s.stack [] [] s'.api s'.stack ∧ ∃ ms, s'.api = { s.api with modules := ms } := by
  unfold leaveModuledef at h
  replace h := k12_get_bind_ok h
  cases hstk : s.stack with
  | nil => rw [hstk] at h; exact (k12_throw_ok h).elim
  | cons fr rest =>
    rw [hstk] at h
    cases fr with
    | module m =>
      dsimp only at h
      have hs' := se_set_ok h
      rw [hs']
      exact ⟨m, rest, rfl, rfl, k12_Step.popModule _ _ _, _, rfl⟩
    | _ => exact (k12_throw_ok h).elim


theorem k12_forall_mem_snoc {α : Type} {l : List α} {v : α} {P : α → Prop} (h : ∀ x ∈ l, P x) (hv : P v) :
    ∀ x ∈ l ++ [v], P x :=
  fun x hx => (List.mem_append.1 hx).elim (h x) (fun e => List.mem_singleton.1 e ▸ hv)

theorem k12_foldl_inv_mem {α β : Type} (P : β → Prop) (f : β → α → β) :
    ∀ (l : List α) (b : β), (∀ b a, a ∈ l → P b → P (f b a)) → P b → P (l.foldl f b)
  | [], _, _, h => h
  | a :: l, b, hf, h =>
    k12_foldl_inv_mem P f l (f b a) (fun b' a' ha' => hf b' a' (List.mem_cons_of_mem _ ha'))
      (hf b a List.mem_cons_self h)

theorem k12_AttrOk_of_owner {stk stk' : List Frame} {a : Attribute} (h : k12_ownerId stk' = k12_ownerId stk)
    (ha : k12_AttrOk stk a) : k12_AttrOk stk' a := by
  unfold k12_AttrOk at ha ⊢
  rw [h]
  exact ha

theorem k12_AttrOk.id_eq {stk : List Frame} {a : Attribute} {o : String} (h : k12_AttrOk stk a)
    (ho : k12_ownerId stk = some o) : a.id = o ++ "/" ++ a.name := by
  obtain ⟨o', ho', hid⟩ := h
  rw [ho] at ho'
  rw [Option.some.inj ho']
  exact hid

/-- the invariant of the loop in `leave_assignmentstmt` -/
structure k12_AssignInv (api0 : AnaResult) (frames0 : List Frame) (st : AnaResult × List Frame) : Prop where
  steps : k12_Steps api0 frames0 [] [] st.1 st.2
  shape : k12_shape st.2 = k12_shape frames0
  top : ∀ en rest, st.2 = .enum en :: rest → ∃ en0 rest0, frames0 = .enum en0 :: rest0 ∧ en0.id = en.id
  topFn : ∀ f rest, frames0 = .fn f :: rest → ∃ rest', st.2 = .fn f :: rest'
  owner : k12_ownerId st.2 = k12_ownerId frames0

/-- one round of the loop of `leave_assignmentstmt`, for an attribute -/
def k12_addAttr (st : AnaResult × List Frame) (a : Attribute) : AnaResult × List Frame :=
  let (api, frames) := st
  match frames with
  | .fn f :: .cls c :: up' =>
    ({ api with attributes := dictSet (·.id) api.attributes a }, .fn f :: .cls { c with attributes := c.attributes ++ [a] } :: up')
  | .cls c :: up' =>
    ({ api with attributes := dictSet (·.id) api.attributes a }, .cls { c with attributes := c.attributes ++ [a] } :: up')
  | fr => (api, fr)

/-- one round of the loop, for an enum instance -/
def k12_addInst (st : AnaResult × List Frame) (e : EnumInstance) : AnaResult × List Frame :=
  let (api, frames) := st
  match frames with
  | .enum en :: up' =>
    ({ api with enumInstances := dictSet (·.id) api.enumInstances e }, .enum { en with instances := en.instances ++ [e] } :: up')
  | fr => (api, fr)

def k12_addItem (st : AnaResult × List Frame) (i : AssignItem) : AnaResult × List Frame :=
  match i with
  | .attr a => k12_addAttr st a
  | .inst e => k12_addInst st e

theorem k12_foldl_addItem_nil (api : AnaResult) : ∀ items : List AssignItem, items.foldl k12_addItem (api, []) = (api, [])
  | [] => rfl
  | i :: items => by
    rw [List.foldl_cons, show k12_addItem (api, []) i = (api, []) by cases i <;> rfl]
    exact k12_foldl_addItem_nil api items

/-- `leave_assignmentstmt`, when it succeeds, pops the collected items and folds them into the tables and the frames below -/
theorem k12_leaveAssignment_eq {s s' : VSt} {u : Unit} (h : leaveAssignment s = .ok (u, s')) :
    ∃ items rest, s.stack = .assigns items :: rest ∧
      s' = { s with api := (items.foldl k12_addItem (s.api, rest)).1, stack := (items.foldl k12_addItem (s.api, rest)).2 } := by
  unfold leaveAssignment at h
  replace h := k12_get_bind_ok h
  cases hstk : s.stack with
  | nil => rw [hstk] at h; exact (k12_throw_ok h).elim
  | cons fr rest =>
    rw [hstk] at h
    cases fr with
    | assigns items =>
      refine ⟨items, rest, rfl, ?_⟩
      cases rest with
      | nil => rw [k12_foldl_addItem_nil, se_set_ok h]
      | cons parent up =>
        dsimp only at h
        split at h
        all_goals first
          | exact se_set_ok h
          | (obtain ⟨_, _, _, h2⟩ := se_bind_ok h; exact se_set_ok h2)
    | _ => exact (k12_throw_ok h).elim

theorem k12_leaveAssignment_ok {s s' : VSt} {u : Unit} (h : leaveAssignment s = .ok (u, s')) :
    ∃ items rest, s.stack = .assigns items :: rest ∧
      (k12_ItemsOk rest items → k12_Steps s.api rest [] [] s'.api s'.stack ∧ k12_shape s'.stack = k12_shape rest ∧
        ∀ f r, rest = .fn f :: r → ∃ r', s'.stack = .fn f :: r') := by
  obtain ⟨items, rest, hstk, rfl⟩ := k12_leaveAssignment_eq h
  refine ⟨items, rest, hstk, fun hok => ?_⟩
  suffices key : k12_AssignInv s.api rest (items.foldl k12_addItem (s.api, rest)) from ⟨key.steps, key.shape, key.topFn⟩
  refine k12_foldl_inv_mem (k12_AssignInv _ _) _ items _ ?_
    ⟨k12_Steps.refl _ _, rfl, fun en rest he => ⟨en, rest, he, rfl⟩, fun f rest he => ⟨rest, he⟩, rfl⟩
  intro st it hit hst
  obtain ⟨api, frames⟩ := st
  have hitem := hok.all it hit
  cases it with
  | attr a =>
    have ha : k12_AttrOk frames a := k12_AttrOk_of_owner hst.owner hitem
    show k12_AssignInv _ _ (k12_addAttr (api, frames) a)
    unfold k12_addAttr
    dsimp only
    split
    · rename_i f c up'
      refine ⟨hst.steps.trans0' (k12_Steps.one (k12_Step.addAttrF _ _ _ _ _ (ha.id_eq rfl))), ?_, ?_, ?_, ?_⟩
      · rw [← hst.shape]; rfl
      · intro en rest he
        simp at he
      · intro f0 rest0 he
        obtain ⟨r', hr'⟩ := hst.topFn f0 rest0 he
        simp only [List.cons.injEq, Frame.fn.injEq] at hr'
        exact ⟨_, by rw [hr'.1]⟩
      · rw [← hst.owner]; rfl
    · rename_i c up'
      refine ⟨hst.steps.trans0' (k12_Steps.one (k12_Step.addAttrC _ _ _ _ (ha.id_eq rfl))), ?_, ?_, ?_, ?_⟩
      · rw [← hst.shape]; rfl
      · intro en rest he
        simp at he
      · intro f0 rest0 he
        obtain ⟨r', hr'⟩ := hst.topFn f0 rest0 he
        simp at hr'
      · rw [← hst.owner]; rfl
    · exact hst
  | inst e =>
    show k12_AssignInv _ _ (k12_addInst (api, frames) e)
    unfold k12_addInst
    dsimp only
    split
    · rename_i en up'
      obtain ⟨en0, rest0, h0, hid⟩ := hst.top en up' rfl
      have he : e.id = en.id ++ "/" ++ e.name := by
        rw [← hid]
        exact hitem en0 rest0 h0
      refine ⟨hst.steps.trans0' (k12_Steps.one (k12_Step.addInst _ _ _ _ he)), ?_, ?_, ?_, ?_⟩
      · rw [← hst.shape]; rfl
      · intro en' rest he'
        simp only [List.cons.injEq, Frame.enum.injEq] at he'
        refine ⟨en0, rest0, h0, ?_⟩
        rw [hid, ← he'.1]
      · intro f0 rest1 he'
        obtain ⟨r', hr'⟩ := hst.topFn f0 rest1 he'
        simp at hr'
      · rw [← hst.owner]; rfl
    · exact hst


theorem k12_walkAssignment_ok {env : AEnv} {a : Assignment} {s s' : VSt} {u : Unit} (h : walkAssignment env a s = .ok (u, s')) :
    k12_Steps s.api s.stack [] [] s'.api s'.stack ∧ k12_shape s'.stack = k12_shape s.stack ∧
      ∀ f r, s.stack = .fn f :: r → ∃ r', s'.stack = .fn f :: r' := by
  unfold walkAssignment at h
  obtain ⟨_, s1, h1, h2⟩ := se_bind_ok h
  obtain ⟨items, eapi, estk, hok⟩ := k12_enterAssignment_ok h1
  obtain ⟨items', rest, hstk, hres⟩ := k12_leaveAssignment_ok h2
  rw [estk] at hstk
  simp only [List.cons.injEq, Frame.assigns.injEq] at hstk
  obtain ⟨rfl, rfl⟩ := hstk
  rw [eapi] at hres
  exact hres hok

theorem k12_walkAssignments_ok {env : AEnv} : ∀ (l : List Assignment) {s s' : VSt} {u : PUnit},
    (forIn l PUnit.unit (fun a _ => do walkAssignment env a; pure (ForInStep.yield PUnit.unit)) : V PUnit) s = .ok (u, s') →
    k12_Steps s.api s.stack [] [] s'.api s'.stack ∧ k12_shape s'.stack = k12_shape s.stack ∧
      ∀ f r, s.stack = .fn f :: r → ∃ r', s'.stack = .fn f :: r'
  | [], s, s', u, h => by
    rw [List.forIn_nil] at h
    obtain ⟨_, rfl⟩ := se_pure_ok h
    exact ⟨k12_Steps.refl _ _, rfl, fun f r he => ⟨r, he⟩⟩
  | a :: l, s, s', u, h => by
    rw [List.forIn_cons] at h
    obtain ⟨r, s1, h1, h2⟩ := se_bind_ok h
    obtain ⟨_, s1', h1a, h1b⟩ := se_bind_ok h1
    obtain ⟨rfl, rfl⟩ := se_pure_ok h1b
    dsimp only at h2
    have ih := k12_walkAssignments_ok l h2
    have h0 := k12_walkAssignment_ok h1a
    refine ⟨h0.1.trans0 ih.1, ih.2.1.trans h0.2.1, fun f r he => ?_⟩
    obtain ⟨r', hr'⟩ := h0.2.2 f r he
    exact ih.2.2 f r' hr'


theorem k12_shape_tail {a b : Frame} {l l' : List Frame} (h : k12_shape (a :: l) = k12_shape (b :: l')) :
    k12_shape l = k12_shape l' := by
  unfold k12_shape at h ⊢
  simp only [List.map_cons, List.cons.injEq] at h
  exact h.2

theorem k12_shape_ne_nil {l l' : List Frame} (h : k12_shape l = k12_shape l') (hl : l' ≠ []) : l ≠ [] := by
  intro he
  subst he
  cases l' with
  | nil => exact hl rfl
  | cons a l' => simp [k12_shape] at h

theorem k12_walkFunc_ok {env : AEnv} {f : FuncDef} {s s' : VSt} {u : Unit} (h : walkFunc env f s = .ok (u, s')) :
    ∃ fn, k12_Steps s.api s.stack [fn] [] s'.api s'.stack ∧ k12_shape s'.stack = k12_shape s.stack ∧
      fn.id = joinWith "/" (k12_segs s.stack ++ [f.name]) ∧ k12_FnMatch f fn := by
  unfold walkFunc at h
  obtain ⟨_, s1, h1, h2⟩ := se_bind_ok h
  obtain ⟨fn, eapi, estk, hok, hm, hne, _⟩ := k12_enterFuncdef_ok h1
  have hpush : k12_Steps s.api s.stack [] [] s1.api s1.stack := by
    rw [eapi, estk]
    exact k12_Steps.one (k12_Step.pushFn _ _ _ hok hne)
  -- the constructor's assignments
  have hmid : ∃ s2 : VSt, leaveFuncdef s2 = .ok (u, s') ∧ k12_Steps s1.api s1.stack [] [] s2.api s2.stack ∧
      k12_shape s2.stack = k12_shape s1.stack ∧ ∃ r', s2.stack = .fn fn :: r' := by
    dsimp only at h2
    split at h2
    · obtain ⟨_, s2, h2a, h2b⟩ := se_bind_ok h2
      have := k12_walkAssignments_ok _ h2a
      exact ⟨s2, h2b, this.1, this.2.1, this.2.2 fn s.stack estk⟩
    · exact ⟨s1, h2, k12_Steps.refl _ _, rfl, s.stack, estk⟩
  obtain ⟨s2, hleave, hsteps2, hshape2, r', hstk2⟩ := hmid
  obtain ⟨f', rest, hstk, hshape3, hcase⟩ := k12_leaveFuncdef_ok hleave
  rw [hstk2] at hstk
  simp only [List.cons.injEq, Frame.fn.injEq] at hstk
  obtain ⟨rfl, rfl⟩ := hstk
  have hsh : k12_shape r' = k12_shape s.stack := by
    rw [hstk2, estk] at hshape2
    exact k12_shape_tail hshape2
  have hr' : r' ≠ [] := k12_shape_ne_nil hsh hne
  rcases hcase with ⟨he, _⟩ | ⟨parent, up, he, eapi3, estk3⟩
  · exact absurd he hr'
  · refine ⟨fn, ?_, hshape3.trans hsh, ?_, hm⟩
    · refine (hpush.trans0 hsteps2).trans0 ?_
      rw [hstk2, he, eapi3, estk3]
      exact k12_Steps.one (k12_Step.popFn _ _ _ _)
    · rw [hok.id_eq, hm.name]


/-! ### the functions of the source, in the order the walker records them -/

mutual
/-- `(id, definition)` of every function the walker records below the id prefix `pre` -/
def k12_defFuncs (pre : List String) (mode : WalkMode) : Def → List (String × FuncDef)
  | .func f => if mode == .enum then [] else [(joinWith "/" (pre ++ [f.name]), f)]
  | .decorator f => if mode == .enum then [] else [(joinWith "/" (pre ++ [f.name]), f)]
  | .overloaded impl =>
    if mode == .enum then [] else (match impl with | some f => [(joinWith "/" (pre ++ [f.name]), f)] | none => [])
  | .cls name _ bases _ defs =>
    if mode == .enum then []
    else if isEnumClass bases then k12_defsFuncs (pre ++ [name]) .enum defs
    else k12_defsFuncs (pre ++ [name]) .cls defs
  | .assign _ => []
  | .docExpr _ _ => []
  | .other _ => []
def k12_defsFuncs (pre : List String) (mode : WalkMode) : List Def → List (String × FuncDef)
  | [] => []
  | d :: ds => k12_defFuncs pre mode d ++ k12_defsFuncs pre mode ds
end

mutual
/-- the id of every class the walker stores below the id prefix `pre`, in the order `leave_classdef` stores them -/
def k12_defClasses (pre : List String) (mode : WalkMode) : Def → List String
  | .func _ => []
  | .decorator _ => []
  | .overloaded _ => []
  | .cls name _ bases _ defs =>
    if mode == .enum then []
    else if isEnumClass bases then k12_defsClasses (pre ++ [name]) .enum defs
    else k12_defsClasses (pre ++ [name]) .cls defs ++ [joinWith "/" (pre ++ [name])]
  | .assign _ => []
  | .docExpr _ _ => []
  | .other _ => []
def k12_defsClasses (pre : List String) (mode : WalkMode) : List Def → List String
  | [] => []
  | d :: ds => k12_defClasses pre mode d ++ k12_defsClasses pre mode ds
end

def k12_EvMatch (p : String × FuncDef) (fn : Function) : Prop := fn.id = p.1 ∧ k12_FnMatch p.2 fn

/-- a successful (part of the) walk: a sequence of transitions that keeps the shape of the stack, records
    exactly the functions `src` and stores exactly the classes with the ids `csrc` -/
def k12_WalkOk (s s' : VSt) (src : List (String × FuncDef)) (csrc : List String) : Prop :=
  ∃ evs cs, k12_Steps s.api s.stack evs cs s'.api s'.stack ∧ k12_shape s'.stack = k12_shape s.stack ∧
    List.Forall₂ k12_EvMatch src evs ∧ cs.map (·.id) = csrc

theorem k12_WalkOk.shape {s s' : VSt} {a : List (String × FuncDef)} {b : List String} (h : k12_WalkOk s s' a b) :
    k12_shape s'.stack = k12_shape s.stack := by
  obtain ⟨_, _, _, h2, _⟩ := h
  exact h2

theorem k12_WalkOk.refl {s s' : VSt} (h1 : s'.api = s.api) (h2 : s'.stack = s.stack) : k12_WalkOk s s' [] [] :=
  ⟨[], [], by rw [h1, h2]; exact k12_Steps.refl _ _, by rw [h2], List.Forall₂.nil, rfl⟩

theorem k12_WalkOk.trans {s s1 s2 : VSt} {a b : List (String × FuncDef)} {ca cb : List String}
    (h1 : k12_WalkOk s s1 a ca) (h2 : k12_WalkOk s1 s2 b cb) : k12_WalkOk s s2 (a ++ b) (ca ++ cb) := by
  obtain ⟨e1, c1, hs1, hsh1, hm1, hc1⟩ := h1
  obtain ⟨e2, c2, hs2, hsh2, hm2, hc2⟩ := h2
  exact ⟨e1 ++ e2, c1 ++ c2, hs1.trans hs2 _ _ rfl rfl, hsh2.trans hsh1, List.rel_append hm1 hm2,
    by rw [List.map_append, hc1, hc2]⟩

theorem k12_walkFunc_walkOk {env : AEnv} {f : FuncDef} {s s' : VSt} {u : Unit} (h : walkFunc env f s = .ok (u, s')) :
    k12_WalkOk s s' [(joinWith "/" (k12_segs s.stack ++ [f.name]), f)] [] := by
  obtain ⟨fn, h1, h2, h3, h4⟩ := k12_walkFunc_ok h
  exact ⟨[fn], [], h1, h2, List.Forall₂.cons ⟨h3, h4⟩ List.Forall₂.nil, rfl⟩

theorem k12_walkNone_ok {s s' : VSt} {u : Unit} (h : walkNone s = .ok (u, s')) : s'.api = s.api ∧ s'.stack = s.stack := by
  unfold walkNone at h
  replace h := k12_get_bind_ok h
  split at h
  · exact (k12_throw_ok h).elim
  · rw [se_set_ok h]
    exact ⟨rfl, rfl⟩

theorem k12_segs_cons (fr : Frame) (stk : List Frame) : k12_segs (fr :: stk) = k12_segs stk ++ (frameSegment fr).toList := by
  unfold k12_segs
  rw [List.reverse_cons, List.filterMap_append]
  congr 1

theorem k12_bracket {s s1 s2 s3 : VSt} {fr fr2 : Frame} {rest : List Frame} {src : List (String × FuncDef)}
    {csrc : List String} {cs3 : List Class}
    (hpush : k12_Steps s.api s.stack [] [] s1.api s1.stack) (estk : s1.stack = fr :: s.stack) (hmid : k12_WalkOk s1 s2 src csrc)
    (hstk2 : s2.stack = fr2 :: rest) (hsh3 : k12_shape s3.stack = k12_shape rest)
    (hpop : k12_Step s2.api s2.stack [] cs3 s3.api s3.stack) :
    k12_WalkOk s s3 src (csrc ++ cs3.map (·.id)) ∧ k12_frameSig fr2 = k12_frameSig fr := by
  obtain ⟨evs, cs, hsteps, hsh, hm, hc⟩ := hmid
  rw [hstk2, estk] at hsh
  refine ⟨⟨evs, cs ++ cs3, (hpush.trans0 hsteps).trans (k12_Steps.one hpop) _ _ (List.append_nil _).symm rfl, ?_, hm,
    by rw [List.map_append, hc]⟩, ?_⟩
  · exact hsh3.trans (k12_shape_tail hsh)
  · simp only [k12_shape, List.map_cons, List.cons.injEq] at hsh
    exact hsh.1

/-- the kind of frame below which the walker selects children in the given mode -/
def k12_modeKind : WalkMode → Nat
  | .module => 0
  | .cls => 1
  | .enum => 3

/-- the walker is in mode `mode` only directly below a frame of the matching kind -/
def k12_ModeTop (mode : WalkMode) (stk : List Frame) : Prop := k12_topKind stk = some (k12_modeKind mode)

theorem k12_ModeTop.parentOk {mode : WalkMode} {stk : List Frame} (h : k12_ModeTop mode stk) (hm : ¬ (mode == .enum) = true) :
    k12_ParentOk stk := by
  cases mode with
  | module => exact Or.inl h
  | cls => exact Or.inr h
  | enum => exact absurd rfl hm

/-- the three kinds of function definition: skipped in an enum body, else `walkFunc` -/
theorem k12_walkFuncUnlessEnum_ok {env : AEnv} {mode : WalkMode} {f : FuncDef} {s s' : VSt} {u : Unit}
    (h : (if mode == .enum then pure () else walkFunc env f : V Unit) s = .ok (u, s')) :
    k12_WalkOk s s' (if mode == .enum then [] else [(joinWith "/" (k12_segs s.stack ++ [f.name]), f)]) [] := by
  split at h
  · rename_i hm
    rw [if_pos hm]
    obtain ⟨_, rfl⟩ := se_pure_ok h
    exact k12_WalkOk.refl rfl rfl
  · rename_i hm
    rw [if_neg hm]
    exact k12_walkFunc_walkOk h

mutual
theorem k12_walkDef_ok (env : AEnv) (mode : WalkMode) : (d : Def) → ∀ {s s' : VSt} {u : Unit},
    walkDef env mode d s = .ok (u, s') → s.stack ≠ [] → k12_ModeTop mode s.stack →
    k12_WalkOk s s' (k12_defFuncs (k12_segs s.stack) mode d) (k12_defClasses (k12_segs s.stack) mode d)
  | .func f, s, s', u, h, _, _ | .decorator f, s, s', u, h, _, _ => by
    unfold walkDef at h
    unfold k12_defFuncs k12_defClasses
    exact k12_walkFuncUnlessEnum_ok h
  | .overloaded impl, s, s', u, h, _, _ => by
    unfold walkDef at h
    unfold k12_defFuncs k12_defClasses
    cases impl with
    | some f => exact k12_walkFuncUnlessEnum_ok h
    | none =>
      have e : s'.api = s.api ∧ s'.stack = s.stack := by
        split at h
        · obtain ⟨_, rfl⟩ := se_pure_ok h
          exact ⟨rfl, rfl⟩
        · exact k12_walkNone_ok h
      rw [ite_self]
      exact k12_WalkOk.refl e.1 e.2
  | .cls name fullname bases removed defs, s, s', u, h, hne, hmt => by
    unfold walkDef at h
    unfold k12_defFuncs k12_defClasses
    split at h
    · rename_i hm
      rw [if_pos hm, if_pos hm]
      obtain ⟨_, rfl⟩ := se_pure_ok h
      exact k12_WalkOk.refl rfl rfl
    · rename_i hm
      rw [if_neg hm, if_neg hm]
      split at h
      · rename_i he
        rw [if_pos he, if_pos he]
        obtain ⟨_, s1, h1, h⟩ := se_bind_ok h
        obtain ⟨_, s2, h2, h3⟩ := se_bind_ok h
        obtain ⟨e, eapi, estk, eok, ename⟩ := k12_enterEnumdef_ok h1
        have hne1 : s1.stack ≠ [] := by rw [estk]; simp
        have ih := k12_walkDefs_ok env .enum defs h2 hne1 (by rw [estk]; rfl)
        have hsegs : k12_segs s1.stack = k12_segs s.stack ++ [name] := by
          rw [estk, k12_segs_cons]; simp only [frameSegment, Option.toList_some, ename]
        rw [hsegs] at ih
        obtain ⟨e', rest, hstk2, hsh3, hstep⟩ := k12_leaveEnumdef_ok h3
        have hb := (k12_bracket (by rw [eapi, estk]; exact k12_Steps.one (k12_Step.pushEnum _ _ _ eok hne))
          estk ih hstk2 hsh3 hstep).1
        rw [List.map_nil, List.append_nil] at hb
        exact hb
      · rename_i he
        rw [if_neg he, if_neg he]
        obtain ⟨_, s1, h1, h⟩ := se_bind_ok h
        obtain ⟨_, s2, h2, h3⟩ := se_bind_ok h
        obtain ⟨c, eapi, estk, cok, cname, _⟩ := k12_enterClassdef_ok h1
        have hne1 : s1.stack ≠ [] := by rw [estk]; simp
        have ih := k12_walkDefs_ok env .cls defs h2 hne1 (by rw [estk]; rfl)
        have hsegs : k12_segs s1.stack = k12_segs s.stack ++ [name] := by
          rw [estk, k12_segs_cons]; simp only [frameSegment, Option.toList_some, cname]
        rw [hsegs] at ih
        have hk : ∀ c' rest, s2.stack = .cls c' :: rest → k12_ParentOk rest := by
          intro c' rest he2
          have hsh := ih.shape
          rw [he2, estk] at hsh
          have := k12_topKind_of_shape (k12_shape_tail hsh)
          unfold k12_ParentOk
          rw [this]
          exact hmt.parentOk hm
        obtain ⟨c', rest, hstk2, hsh3, _, hstep⟩ := k12_leaveClassdef_ok h3
        replace hstep := hstep (hk c' rest hstk2)
        have hb := k12_bracket (by rw [eapi, estk]; exact k12_Steps.one (k12_Step.pushCls _ _ _ cok hne))
          estk ih hstk2 hsh3 hstep
        have hid : c'.id = joinWith "/" (k12_segs s.stack ++ [name]) := by
          have := congrArg (·.2.2) hb.2
          rw [← cname, ← cok.id_eq]
          exact this
        have hb1 := hb.1
        rw [List.map_cons, List.map_nil, hid] at hb1
        exact hb1
  | .assign a, s, s', u, h, _, _ => by
    unfold walkDef at h
    unfold k12_defFuncs k12_defClasses
    split at h
    · obtain ⟨_, rfl⟩ := se_pure_ok h
      exact k12_WalkOk.refl rfl rfl
    · have := k12_walkAssignment_ok h
      exact ⟨[], [], this.1, this.2.1, List.Forall₂.nil, rfl⟩
  | .docExpr _ _, s, s', u, h, _, _ | .other _, s, s', u, h, _, _ => by
    unfold walkDef at h
    unfold k12_defFuncs k12_defClasses
    obtain ⟨_, rfl⟩ := se_pure_ok h
    exact k12_WalkOk.refl rfl rfl
theorem k12_walkDefs_ok (env : AEnv) (mode : WalkMode) : (ds : List Def) → ∀ {s s' : VSt} {u : Unit},
    walkDefs env mode ds s = .ok (u, s') → s.stack ≠ [] → k12_ModeTop mode s.stack →
    k12_WalkOk s s' (k12_defsFuncs (k12_segs s.stack) mode ds) (k12_defsClasses (k12_segs s.stack) mode ds)
  | [], s, s', u, h, _, _ => by
    unfold walkDefs at h
    unfold k12_defsFuncs k12_defsClasses
    obtain ⟨_, rfl⟩ := se_pure_ok h
    exact k12_WalkOk.refl rfl rfl
  | d :: ds, s, s', u, h, hne, hmt => by
    unfold walkDefs at h
    unfold k12_defsFuncs k12_defsClasses
    obtain ⟨_, s1, h1, h2⟩ := se_bind_ok h
    have r1 := k12_walkDef_ok env mode d h1 hne hmt
    have hne1 : s1.stack ≠ [] := k12_shape_ne_nil r1.shape hne
    have r2 := k12_walkDefs_ok env mode ds h2 hne1 ((k12_topKind_of_shape r1.shape).trans hmt)
    rw [k12_segs_eq_of_shape r1.shape] at r2
    exact r1.trans r2
end


/-- the functions of one source module / of all analysed modules, with the ids the analyser gives them -/
def k12_modFuncs (m : SrcModule) : List (String × FuncDef) :=
  k12_defsFuncs [replaceChar m.fullname '.' "/"] .module m.defs

def k12_srcFuncs : List SrcModule → List (String × FuncDef)
  | [] => []
  | m :: ms => k12_modFuncs m ++ k12_srcFuncs ms

/-- the ids of the classes of one source module / of all analysed modules, in the order the analyser stores them -/
def k12_modClasses (m : SrcModule) : List String :=
  k12_defsClasses [replaceChar m.fullname '.' "/"] .module m.defs

def k12_srcClasses : List SrcModule → List String
  | [] => []
  | m :: ms => k12_modClasses m ++ k12_srcClasses ms

theorem k12_walkModule_ok {env : AEnv} {m : SrcModule} {s s' : VSt} {u : Unit} (h : walkModule env m s = .ok (u, s'))
    (hs : s.stack = []) :
    s'.stack = [] ∧ ∃ evs cs, k12_Steps s.api [] evs cs s'.api [] ∧ List.Forall₂ k12_EvMatch (k12_modFuncs m) evs ∧
      cs.map (·.id) = k12_modClasses m := by
  unfold walkModule at h
  obtain ⟨_, s0, h0, h⟩ := se_bind_ok h
  have e0 : s0.api = s.api ∧ s0.stack = s.stack := by rw [se_modify_ok h0]; exact ⟨rfl, rfl⟩
  obtain ⟨_, s1, h1, h⟩ := se_bind_ok h
  obtain ⟨_, s2, h2, h3⟩ := se_bind_ok h
  obtain ⟨md, estk, ⟨rm, eapi⟩, eid, ec, ef, ee⟩ := k12_enterModuledef_ok h1
  rw [e0.2, hs] at estk
  rw [e0.1] at eapi
  have hne1 : s1.stack ≠ [] := by rw [estk]; simp
  have ih := k12_walkDefs_ok env .module m.defs h2 hne1 (by rw [estk]; rfl)
  have hsegs : k12_segs s1.stack = [replaceChar m.fullname '.' "/"] := by
    rw [estk, k12_segs_cons]; simp only [frameSegment, Option.toList_some, eid]; rfl
  rw [hsegs] at ih
  obtain ⟨evs, cs, hsteps, hsh, hm, hcs⟩ := ih
  obtain ⟨md', rest, hstk2, hstk3, hpop, _⟩ := k12_leaveModuledef_ok h3
  have hrest : rest = [] := by
    rw [hstk2, estk] at hsh
    have := k12_shape_tail hsh
    cases rest with
    | nil => rfl
    | cons a l => simp [k12_shape] at this
  subst hrest
  refine ⟨hstk3, evs, cs, ?_, hm, hcs⟩
  have hpush : k12_Steps s.api [] [] [] s1.api s1.stack := by
    rw [eapi, estk]
    exact .cons (k12_Step.reexp s.api [] rm) (k12_Steps.one (k12_Step.pushModule _ [] md ec ef ee)) rfl rfl
  have := (hpush.trans0 hsteps).trans0' (k12_Steps.one hpop)
  rw [hstk3] at this
  exact this

theorem k12_walkModules_ok {env : AEnv} : ∀ (ms : List SrcModule) {s s' : VSt} {u : Unit},
    walkModules env ms s = .ok (u, s') → s.stack = [] →
    s'.stack = [] ∧ ∃ evs cs, k12_Steps s.api [] evs cs s'.api [] ∧ List.Forall₂ k12_EvMatch (k12_srcFuncs ms) evs ∧
      cs.map (·.id) = k12_srcClasses ms
  | [], s, s', u, h, hs => by
    unfold walkModules at h
    obtain ⟨_, rfl⟩ := se_pure_ok h
    exact ⟨hs, [], [], k12_Steps.refl _ _, List.Forall₂.nil, rfl⟩
  | m :: ms, s, s', u, h, hs => by
    unfold walkModules at h
    obtain ⟨_, s1, h1, h2⟩ := se_bind_ok h
    obtain ⟨hs1, e1, c1, hst1, hm1, hc1⟩ := k12_walkModule_ok h1 hs
    obtain ⟨hs2, e2, c2, hst2, hm2, hc2⟩ := k12_walkModules_ok ms h2 hs1
    exact ⟨hs2, e1 ++ e2, c1 ++ c2, hst1.trans hst2 _ _ rfl rfl, List.rel_append hm1 hm2,
      by rw [List.map_append, hc1, hc2]; rfl⟩

/-- every successful analysis is a sequence of abstract transitions from the empty tables -/
theorem k12_analyze_steps {env : AEnv} {root : GNode} {mods : List SrcModule} {r : AnaResult} {w : List String}
    (h : analyze env root mods = .ok (r, w)) :
    ∃ evs cs, k12_Steps {} [] evs cs r [] ∧ List.Forall₂ k12_EvMatch (k12_srcFuncs mods) evs ∧
      cs.map (·.id) = k12_srcClasses mods := by
  unfold analyze at h
  dsimp only at h
  split at h
  · exact absurd h (by simp)
  · rename_i s hrun
    simp only [Except.ok.injEq, Prod.mk.injEq] at h
    obtain ⟨_, evs, cs, hsteps, hm, hcs⟩ := k12_walkModules_ok mods hrun rfl
    rw [h.1] at hsteps
    exact ⟨evs, cs, hsteps, hm, hcs⟩


/-! ### `dictSet` -/

section dictSet
variable {α : Type} (key : α → String)

theorem k12_dictSet_map (tbl : List α) (v : α) :
    (dictSet key tbl v).map key = if key v ∈ tbl.map key then tbl.map key else tbl.map key ++ [key v] := by
  unfold dictSet
  by_cases h : tbl.any (fun x => key x == key v) = true
  · rw [if_pos h]
    have hm : key v ∈ tbl.map key := by
      rw [List.any_eq_true] at h
      obtain ⟨x, hx, he⟩ := h
      exact List.mem_map.2 ⟨x, hx, by simpa using he⟩
    rw [if_pos hm, List.map_map]
    apply List.map_congr_left
    intro x _
    simp only [Function.comp]
    split
    · rename_i he; exact (by simpa using he : key x = key v).symm
    · rfl
  · rw [if_neg h]
    have hm : ¬ key v ∈ tbl.map key := by
      intro hm
      apply h
      obtain ⟨x, hx, he⟩ := List.mem_map.1 hm
      exact List.any_eq_true.2 ⟨x, hx, by simpa using he⟩
    rw [if_neg hm, List.map_append]
    rfl

theorem k12_dictSet_nodup {tbl : List α} (v : α) (h : (tbl.map key).Nodup) : ((dictSet key tbl v).map key).Nodup := by
  rw [k12_dictSet_map]
  split
  · exact h
  · rename_i hm
    rw [List.nodup_append]
    exact ⟨h, List.nodup_singleton _, fun a ha b hb => by rw [List.mem_singleton.1 hb]; exact fun e => hm (e ▸ ha)⟩

theorem k12_dictSet_ids (tbl : List α) (v : α) (k : String) :
    k ∈ (dictSet key tbl v).map key ↔ k ∈ tbl.map key ∨ k = key v := by
  rw [k12_dictSet_map]
  split
  · rename_i hm
    constructor
    · exact Or.inl
    · rintro (h | rfl)
      · exact h
      · exact hm
  · simp only [List.mem_append, List.mem_singleton]

theorem k12_mem_dictSet {tbl : List α} {v x : α} (h : x ∈ dictSet key tbl v) : x = v ∨ x ∈ tbl := by
  unfold dictSet at h
  split at h
  · obtain ⟨y, hy, he⟩ := List.mem_map.1 h
    split at he
    · exact Or.inl he.symm
    · exact Or.inr (he ▸ hy)
  · rcases List.mem_append.1 h with h | h
    · exact Or.inr h
    · exact Or.inl (List.mem_singleton.1 h)

theorem k12_self_mem_dictSet (tbl : List α) (v : α) : v ∈ dictSet key tbl v := by
  unfold dictSet
  split
  · rename_i h
    rw [List.any_eq_true] at h
    obtain ⟨x, hx, he⟩ := h
    exact List.mem_map.2 ⟨x, hx, by rw [if_pos he]⟩
  · exact List.mem_append_right _ (List.mem_singleton.2 rfl)

theorem k12_mem_dictSet_of_ne {tbl : List α} {v x : α} (hx : x ∈ tbl) (hne : key x ≠ key v) : x ∈ dictSet key tbl v := by
  unfold dictSet
  split
  · refine List.mem_map.2 ⟨x, hx, ?_⟩
    rw [if_neg]
    simpa using hne
  · exact List.mem_append_left _ hx

theorem k12_forall_mem_dictSet {tbl : List α} {v : α} {P : α → Prop} (hv : P v) (h : ∀ x ∈ tbl, P x) :
    ∀ x ∈ dictSet key tbl v, P x :=
  fun x hx => (k12_mem_dictSet key hx).elim (fun e => e ▸ hv) (h x)

theorem k12_foldl_dictSet_nodup {tbl : List α} (vs : List α) (h : (tbl.map key).Nodup) :
    ((vs.foldl (dictSet key) tbl).map key).Nodup :=
  k12_foldl_inv (fun t => (t.map key).Nodup) _ (fun _ v hb => k12_dictSet_nodup key v hb) vs tbl h

theorem k12_foldl_dictSet_ids (vs : List α) : ∀ (tbl : List α) (k : String),
    k ∈ (vs.foldl (dictSet key) tbl).map key ↔ k ∈ tbl.map key ∨ k ∈ vs.map key := by
  induction vs with
  | nil => intro tbl k; simp
  | cons v vs ih =>
    intro tbl k
    rw [List.foldl_cons, ih, k12_dictSet_ids]
    simp only [List.map_cons, List.mem_cons]
    tauto

theorem k12_mem_foldl_dictSet (vs : List α) : ∀ {tbl : List α} {x : α}, x ∈ vs.foldl (dictSet key) tbl → x ∈ vs ∨ x ∈ tbl := by
  induction vs with
  | nil => intro tbl x h; exact Or.inr h
  | cons v vs ih =>
    intro tbl x h
    rw [List.foldl_cons] at h
    rcases ih h with h | h
    · exact Or.inl (List.mem_cons_of_mem _ h)
    · rcases k12_mem_dictSet key h with rfl | h
      · exact Or.inl List.mem_cons_self
      · exact Or.inr h

end dictSet

/-! ### sorted id lists -/

theorem k12_sortStrings_strict {l : List String} (h : l.Nodup) : (sortStrings l).Pairwise (· < ·) :=
  ((sortStrings_pairwise_le l).and ((sortStrings_perm l).nodup_iff.2 h)).imp (fun h => lt_of_le_of_ne h.1 h.2)

theorem k12_Steps_inv (I : AnaResult → List Frame → Prop)
    (hstep : ∀ a s e c a' s', k12_Step a s e c a' s' → I a s → I a' s') :
    ∀ {a s e c a' s'}, k12_Steps a s e c a' s' → I a s → I a' s' := by
  intro a s e c a' s' h
  induction h with
  | refl => exact id
  | cons h1 _ _ _ ih => exact fun hi => ih (hstep _ _ _ _ _ _ h1 hi)

/-! ### invariant 1: no table holds two entries with the same id -/

structure k12_NodupTables (api : AnaResult) : Prop where
  modules : (api.modules.map (·.id)).Nodup
  classes : (api.classes.map (·.id)).Nodup
  functions : (api.functions.map (·.id)).Nodup
  results : (api.results.map (·.id)).Nodup
  enums : (api.enums.map (·.id)).Nodup
  enumInstances : (api.enumInstances.map (·.id)).Nodup
  attributes : (api.attributes.map (·.id)).Nodup
  parameters : (api.parameters.map (·.id)).Nodup

theorem k12_NodupTables_step {a : AnaResult} {s : List Frame} {e : List Function} {cs : List Class} {a' : AnaResult}
    {s' : List Frame} (h : k12_Step a s e cs a' s') (hi : k12_NodupTables a) : k12_NodupTables a' := by
  cases h with
  | reexp => exact { hi with }
  | pushModule | pushFn | pushCls | pushEnum | dropEnum => exact hi
  | popModule m => exact { hi with modules := k12_dictSet_nodup _ _ hi.modules }
  | popFn f =>
    exact { hi with functions := k12_dictSet_nodup _ _ hi.functions,
                    results := k12_foldl_dictSet_nodup _ _ hi.results,
                    parameters := k12_foldl_dictSet_nodup _ _ hi.parameters }
  | popClsM | popClsC => exact { hi with classes := k12_dictSet_nodup _ _ hi.classes }
  | popEnumM => exact { hi with enums := k12_dictSet_nodup _ _ hi.enums }
  | addAttrF | addAttrC => exact { hi with attributes := k12_dictSet_nodup _ _ hi.attributes }
  | addInst => exact { hi with enumInstances := k12_dictSet_nodup _ _ hi.enumInstances }

theorem k12_analyze_nodup {env : AEnv} {root : GNode} {mods : List SrcModule} {r : AnaResult} {w : List String}
    (h : analyze env root mods = .ok (r, w)) : k12_NodupTables r := by
  obtain ⟨evs, _, hsteps, _, _⟩ := k12_analyze_steps h
  exact k12_Steps_inv (fun a _ => k12_NodupTables a) (fun _ _ _ _ _ _ hs hi => k12_NodupTables_step hs hi) hsteps
    ⟨List.nodup_nil, List.nodup_nil, List.nodup_nil, List.nodup_nil, List.nodup_nil, List.nodup_nil, List.nodup_nil,
      List.nodup_nil⟩


/-! ### invariant 2: the form of the ids -/

/-- `id = <owner>/<name>` -/
def k12_Form (id name : String) : Prop := ∃ owner, id = owner ++ "/" ++ name

theorem k12_joinWith_cons2 (sep x y : String) (t : List String) :
    joinWith sep (x :: y :: t) = x ++ sep ++ joinWith sep (y :: t) := rfl

theorem k12_joinWith_snoc (sep : String) (a : String) : ∀ (l : List String), l ≠ [] →
    joinWith sep (l ++ [a]) = joinWith sep l ++ sep ++ a
  | [], h => absurd rfl h
  | [x], _ => rfl
  | x :: y :: t, _ => by
    have ih := k12_joinWith_snoc sep a (y :: t) (by simp)
    simp only [List.cons_append] at ih ⊢
    rw [k12_joinWith_cons2, ih, k12_joinWith_cons2]
    simp only [String.append_assoc]

/-- the bottom frame of the stack has an id segment (it is a module in every reachable state) -/
def k12_rooted (stk : List Frame) : Prop := ∀ o, (k12_shape stk).getLast? = some o → o.2.1 ≠ none

theorem k12_rooted_nil : k12_rooted [] := by intro o h; simp [k12_shape] at h

theorem k12_rooted_of_shape {stk stk' : List Frame} (h : k12_shape stk' = k12_shape stk) (hr : k12_rooted stk) :
    k12_rooted stk' := by
  unfold k12_rooted; rw [h]; exact hr

theorem k12_rooted_tail {fr : Frame} {rest : List Frame} (hr : k12_rooted (fr :: rest)) : k12_rooted rest := by
  intro o ho
  apply hr o
  cases rest with
  | nil => simp [k12_shape] at ho
  | cons a l =>
    simp only [k12_shape, List.map_cons] at ho ⊢
    rw [List.getLast?_cons_cons]
    exact ho

theorem k12_rooted_push {fr : Frame} {stk : List Frame} (hr : k12_rooted stk) (hne : stk ≠ []) : k12_rooted (fr :: stk) := by
  intro o ho
  apply hr o
  cases stk with
  | nil => exact absurd rfl hne
  | cons a l =>
    simp only [k12_shape, List.map_cons] at ho ⊢
    rw [List.getLast?_cons_cons] at ho
    exact ho

theorem k12_rooted_pushModule {m : Module} {stk : List Frame} (hr : k12_rooted stk) : k12_rooted (.module m :: stk) := by
  cases stk with
  | nil =>
    intro o ho
    simp only [k12_shape, List.map_cons, List.map_nil, List.getLast?_singleton, Option.some.injEq] at ho
    rw [← ho]; simp [k12_frameSig, frameSegment]
  | cons a l => exact k12_rooted_push hr (by simp)

theorem k12_segs_ne_nil {stk : List Frame} (hr : k12_rooted stk) (hne : stk ≠ []) : k12_segs stk ≠ [] := by
  have e : k12_segs stk = ((k12_shape stk).reverse).filterMap (·.2.1) := by
    unfold k12_segs k12_shape
    rw [← List.map_reverse, List.filterMap_map]
    rfl
  rw [e]
  have hsh : k12_shape stk ≠ [] := by
    unfold k12_shape
    simpa using hne
  obtain ⟨init, o, hio⟩ : ∃ init o, k12_shape stk = init ++ [o] := by
    refine ⟨(k12_shape stk).dropLast, (k12_shape stk).getLast hsh, ?_⟩
    exact (List.dropLast_append_getLast hsh).symm
  have ho := hr o (by rw [hio]; simp)
  rw [hio, List.reverse_append]
  obtain ⟨k, o, i⟩ := o
  cases o with
  | none => exact absurd rfl ho
  | some x => simp

theorem k12_form_of_id_eq {stk : List Frame} {id name : String} (hr : k12_rooted stk) (hne : stk ≠ [])
    (h : id = joinWith "/" (k12_segs stk ++ [name])) : k12_Form id name :=
  ⟨joinWith "/" (k12_segs stk), by rw [h, k12_joinWith_snoc _ _ _ (k12_segs_ne_nil hr hne)]⟩

def k12_FrameForm : Frame → Prop
  | .cls c => k12_Form c.id c.name ∧ ∀ a ∈ c.attributes, a.id = c.id ++ "/" ++ a.name
  | .fn f => k12_Form f.id f.name ∧ (∀ p ∈ f.params, p.id = f.id ++ "/" ++ p.name) ∧
      (∀ r ∈ f.results, r.id = f.id ++ "/" ++ r.name)
  | .enum e => k12_Form e.id e.name
  | _ => True

/-- `id` is the id of a class of the table or of a class that is still open (on the declaration stack) -/
def k12_Owned (api : AnaResult) (stk : List Frame) (id : String) : Prop :=
  (∃ c ∈ api.classes, c.id = id) ∨ (∃ c, Frame.cls c ∈ stk ∧ c.id = id)

/-- the id of an attribute: `<id of its class>/<name>` -/
def k12_AttrForm (api : AnaResult) (stk : List Frame) (a : Attribute) : Prop :=
  ∃ o, k12_Owned api stk o ∧ a.id = o ++ "/" ++ a.name

structure k12_FormInv (api : AnaResult) (stk : List Frame) : Prop where
  rooted : k12_rooted stk
  frames : ∀ fr ∈ stk, k12_FrameForm fr
  classes : ∀ x ∈ api.classes, k12_FrameForm (.cls x)
  functions : ∀ x ∈ api.functions, k12_FrameForm (.fn x)
  enums : ∀ x ∈ api.enums, k12_Form x.id x.name
  enumInstances : ∀ x ∈ api.enumInstances, k12_Form x.id x.name
  parameters : ∀ p ∈ api.parameters, ∃ fn ∈ api.functions, p.id = fn.id ++ "/" ++ p.name
  results : ∀ r ∈ api.results, ∃ fn ∈ api.functions, r.id = fn.id ++ "/" ++ r.name
  attributes : ∀ a ∈ api.attributes, k12_AttrForm api stk a

theorem k12_dictSet_exists_id {α : Type} (key : α → String) {tbl : List α} (v : α) {x : α} (hx : x ∈ tbl) :
    ∃ y ∈ dictSet key tbl v, key y = key x := by
  by_cases h : key x = key v
  · exact ⟨v, k12_self_mem_dictSet key tbl v, h.symm⟩
  · exact ⟨x, k12_mem_dictSet_of_ne key hx h, rfl⟩

/-- the parameters (results) of a stored function keep the form `<id of a function of the table>/<name>` -/
theorem k12_part_form {β : Type} (key name : β → String) {fns : List Function} {f : Function} {tbl vs : List β}
    (hv : ∀ p ∈ vs, key p = f.id ++ "/" ++ name p) (h : ∀ p ∈ tbl, ∃ fn ∈ fns, key p = fn.id ++ "/" ++ name p) :
    ∀ p ∈ vs.foldl (dictSet key) tbl, ∃ fn ∈ dictSet (·.id) fns f, key p = fn.id ++ "/" ++ name p := by
  intro p hp
  rcases k12_mem_foldl_dictSet _ _ hp with hp | hp
  · exact ⟨f, k12_self_mem_dictSet _ _ _, hv p hp⟩
  · obtain ⟨fn, hfn, hid⟩ := h p hp
    obtain ⟨y, hy, hyid⟩ := k12_dictSet_exists_id (·.id) f hfn
    exact ⟨y, hy, by rw [hid, ← hyid]⟩

theorem k12_fnParent_form (f : Function) {p : Frame} (h : k12_FrameForm p) : k12_FrameForm (k12_fnParent f p) := by
  cases p with
  | cls c =>
    show k12_FrameForm (if f.name == "__init__" then _ else _)
    split <;> exact h
  | _ => exact h

/-- what a transition does to an open class: it is stored (`cs`), or it stays open with its id and at least its
    attributes -/
theorem k12_Step_cls {a : AnaResult} {s : List Frame} {e : List Function} {cs : List Class} {a' : AnaResult}
    {s' : List Frame} (h : k12_Step a s e cs a' s') {c : Class} (hc : Frame.cls c ∈ s) :
    c ∈ cs ∨ ∃ c', Frame.cls c' ∈ s' ∧ c'.id = c.id ∧ ∀ x ∈ c.attributes, x ∈ c'.attributes := by
  have keep : ∀ {stk : List Frame}, Frame.cls c ∈ stk →
      c ∈ cs ∨ ∃ c', Frame.cls c' ∈ stk ∧ c'.id = c.id ∧ ∀ x ∈ c.attributes, x ∈ c'.attributes :=
    fun h => Or.inr ⟨c, h, rfl, fun _ hx => hx⟩
  cases h with
  | reexp => exact keep hc
  | pushModule | pushFn | pushCls | pushEnum => exact keep (List.mem_cons_of_mem _ hc)
  | popModule | dropEnum =>
    rcases List.mem_cons.1 hc with hc | hc
    · cases hc
    · exact keep hc
  | popFn f parent up =>
    rcases List.mem_cons.1 hc with hc | hc
    · cases hc
    rcases List.mem_cons.1 hc with hc | hc
    · subst hc
      show _ ∨ ∃ c', Frame.cls c' ∈ (if f.name == "__init__" then Frame.cls _ else Frame.cls _) :: up ∧ _
      split <;> exact Or.inr ⟨_, List.mem_cons_self, rfl, fun _ hx => hx⟩
    · exact keep (List.mem_cons_of_mem _ hc)
  | popClsM c0 m up =>
    rcases List.mem_cons.1 hc with hc | hc
    · cases hc; exact Or.inl List.mem_cons_self
    rcases List.mem_cons.1 hc with hc | hc
    · cases hc
    · exact keep (List.mem_cons_of_mem _ hc)
  | popClsC c0 p up =>
    rcases List.mem_cons.1 hc with hc | hc
    · cases hc; exact Or.inl List.mem_cons_self
    rcases List.mem_cons.1 hc with hc | hc
    · cases hc; exact Or.inr ⟨_, List.mem_cons_self, rfl, fun _ hx => hx⟩
    · exact keep (List.mem_cons_of_mem _ hc)
  | popEnumM en m up =>
    rcases List.mem_cons.1 hc with hc | hc
    · cases hc
    rcases List.mem_cons.1 hc with hc | hc
    · cases hc
    · exact keep (List.mem_cons_of_mem _ hc)
  | addAttrF f c0 up att _ =>
    rcases List.mem_cons.1 hc with hc | hc
    · cases hc
    rcases List.mem_cons.1 hc with hc | hc
    · cases hc
      exact Or.inr ⟨_, List.mem_cons_of_mem _ List.mem_cons_self, rfl, fun _ hx => List.mem_append_left _ hx⟩
    · exact keep (List.mem_cons_of_mem _ (List.mem_cons_of_mem _ hc))
  | addAttrC c0 up att _ =>
    rcases List.mem_cons.1 hc with hc | hc
    · cases hc; exact Or.inr ⟨_, List.mem_cons_self, rfl, fun _ hx => List.mem_append_left _ hx⟩
    · exact keep (List.mem_cons_of_mem _ hc)
  | addInst en up inst _ =>
    rcases List.mem_cons.1 hc with hc | hc
    · cases hc
    · exact keep (List.mem_cons_of_mem _ hc)

theorem k12_Step_classes {a : AnaResult} {s : List Frame} {e : List Function} {cs : List Class} {a' : AnaResult}
    {s' : List Frame} (h : k12_Step a s e cs a' s') : a'.classes = cs.foldl (dictSet (·.id)) a.classes := by
  cases h <;> rfl

/-- every class of the table and every open class stays, with its id, in the table or open after a transition -/
theorem k12_Owned_step {a : AnaResult} {s : List Frame} {e : List Function} {cs : List Class} {a' : AnaResult}
    {s' : List Frame} (h : k12_Step a s e cs a' s') {id : String} (ho : k12_Owned a s id) : k12_Owned a' s' id := by
  have stored : ∀ c, c ∈ a.classes ∨ c ∈ cs → ∃ c' ∈ a'.classes, c'.id = c.id := by
    intro c hc
    have : c.id ∈ a'.classes.map (·.id) := by
      rw [k12_Step_classes h, k12_foldl_dictSet_ids]
      exact hc.imp (fun h => List.mem_map.2 ⟨c, h, rfl⟩) (fun h => List.mem_map.2 ⟨c, h, rfl⟩)
    obtain ⟨c', hc', e⟩ := List.mem_map.1 this
    exact ⟨c', hc', e⟩
  rcases ho with ⟨c, hc, rfl⟩ | ⟨c, hc, rfl⟩
  · exact Or.inl (stored c (Or.inl hc))
  · rcases k12_Step_cls h hc with hcs | ⟨c', hc', e, _⟩
    · exact Or.inl (stored c (Or.inr hcs))
    · exact Or.inr ⟨c', hc', e⟩

theorem k12_AttrForm_step {a : AnaResult} {s : List Frame} {e : List Function} {cs : List Class} {a' : AnaResult}
    {s' : List Frame} (h : k12_Step a s e cs a' s') {x : Attribute} (hx : k12_AttrForm a s x) : k12_AttrForm a' s' x := by
  obtain ⟨o, ho, hid⟩ := hx
  exact ⟨o, k12_Owned_step h ho, hid⟩

theorem k12_FormInv_step {a : AnaResult} {s : List Frame} {e : List Function} {cs : List Class} {a' : AnaResult}
    {s' : List Frame} (h : k12_Step a s e cs a' s') (hi : k12_FormInv a s) : k12_FormInv a' s' := by
  have hattr : ∀ x ∈ a.attributes, k12_AttrForm a' s' x := fun x hx => k12_AttrForm_step h (hi.attributes x hx)
  have hfr := hi.frames
  cases h with
  | reexp => exact { hi with attributes := hattr }
  | pushModule _ m _ _ _ =>
    exact { hi with rooted := k12_rooted_pushModule hi.rooted, frames := List.forall_mem_cons.2 ⟨trivial, hfr⟩,
                    attributes := hattr }
  | popModule | dropEnum =>
    exact { hi with rooted := k12_rooted_tail hi.rooted, frames := (List.forall_mem_cons.1 hfr).2, attributes := hattr }
  | pushFn _ fn hok hne =>
    exact { hi with rooted := k12_rooted_push hi.rooted hne,
                    frames := List.forall_mem_cons.2
                      ⟨⟨k12_form_of_id_eq hi.rooted hne hok.id_eq, hok.params, hok.results⟩, hfr⟩,
                    attributes := hattr }
  | pushCls _ c hok hne =>
    refine { hi with rooted := k12_rooted_push hi.rooted hne,
                     frames := List.forall_mem_cons.2 ⟨⟨k12_form_of_id_eq hi.rooted hne hok.id_eq, ?_⟩, hfr⟩,
                     attributes := hattr }
    rw [hok.attributes]; exact fun _ h => absurd h List.not_mem_nil
  | pushEnum _ en hok hne =>
    exact { hi with rooted := k12_rooted_push hi.rooted hne,
                    frames := List.forall_mem_cons.2 ⟨k12_form_of_id_eq hi.rooted hne hok.id_eq, hfr⟩,
                    attributes := hattr }
  | popFn f parent up =>
    simp only [List.forall_mem_cons] at hfr
    have hf := hfr.1
    refine ⟨?_, List.forall_mem_cons.2 ⟨k12_fnParent_form f hfr.2.1, hfr.2.2⟩, hi.classes,
      k12_forall_mem_dictSet _ hf hi.functions, hi.enums, hi.enumInstances,
      k12_part_form Parameter.id Parameter.name hf.2.1 hi.parameters,
      k12_part_form Result.id Result.name hf.2.2 hi.results, hattr⟩
    refine k12_rooted_of_shape ?_ (k12_rooted_tail hi.rooted)
    show k12_shape (_ :: up) = k12_shape (parent :: up)
    simp only [k12_shape, List.map_cons, k12_fnParent_sig]
  | popClsM c _ up | popClsC c _ up =>
    simp only [List.forall_mem_cons] at hfr
    exact ⟨k12_rooted_tail hi.rooted, List.forall_mem_cons.2 ⟨hfr.2.1, hfr.2.2⟩,
      k12_forall_mem_dictSet _ hfr.1 hi.classes, hi.4, hi.5, hi.6, hi.7, hi.8, hattr⟩
  | popEnumM en m up =>
    simp only [List.forall_mem_cons] at hfr
    exact ⟨k12_rooted_tail hi.rooted, List.forall_mem_cons.2 ⟨trivial, hfr.2.2⟩, hi.3, hi.4,
      k12_forall_mem_dictSet _ hfr.1 hi.enums, hi.6, hi.7, hi.8, hattr⟩
  | addAttrF f c up att hok =>
    simp only [List.forall_mem_cons] at hfr
    exact ⟨k12_rooted_of_shape rfl hi.rooted,
      List.forall_mem_cons.2 ⟨hfr.1, List.forall_mem_cons.2 ⟨⟨hfr.2.1.1, k12_forall_mem_snoc hfr.2.1.2 hok⟩, hfr.2.2⟩⟩,
      hi.3, hi.4, hi.5, hi.6, hi.7, hi.8,
      k12_forall_mem_dictSet _ ⟨c.id, Or.inr ⟨_, List.mem_cons_of_mem _ List.mem_cons_self, rfl⟩, hok⟩ hattr⟩
  | addAttrC c up att hok =>
    simp only [List.forall_mem_cons] at hfr
    exact ⟨k12_rooted_of_shape rfl hi.rooted,
      List.forall_mem_cons.2 ⟨⟨hfr.1.1, k12_forall_mem_snoc hfr.1.2 hok⟩, hfr.2⟩, hi.3, hi.4, hi.5, hi.6, hi.7, hi.8,
      k12_forall_mem_dictSet _ ⟨c.id, Or.inr ⟨_, List.mem_cons_self, rfl⟩, hok⟩ hattr⟩
  | addInst en up inst hid =>
    exact ⟨k12_rooted_of_shape rfl hi.rooted, List.forall_mem_cons.2 ⟨(List.forall_mem_cons.1 hfr).1, (List.forall_mem_cons.1 hfr).2⟩,
      hi.3, hi.4, hi.5, k12_forall_mem_dictSet _ ⟨en.id, hid⟩ hi.enumInstances, hi.7, hi.8, hattr⟩

theorem k12_AttrForm_nil {api : AnaResult} {a : Attribute} (h : k12_AttrForm api [] a) :
    ∃ c ∈ api.classes, a.id = c.id ++ "/" ++ a.name := by
  obtain ⟨o, ho, hid⟩ := h
  rcases ho with ⟨c, hc, rfl⟩ | ⟨c, hc, _⟩
  · exact ⟨c, hc, hid⟩
  · exact absurd hc List.not_mem_nil

theorem k12_analyze_forms {env : AEnv} {root : GNode} {mods : List SrcModule} {r : AnaResult} {w : List String}
    (h : analyze env root mods = .ok (r, w)) : k12_FormInv r [] := by
  obtain ⟨evs, _, hsteps, _, _⟩ := k12_analyze_steps h
  refine k12_Steps_inv k12_FormInv (fun _ _ _ _ _ _ hs hi => k12_FormInv_step hs hi) hsteps ?_
  exact ⟨k12_rooted_nil, fun _ h => absurd h List.not_mem_nil, fun _ h => absurd h List.not_mem_nil,
    fun _ h => absurd h List.not_mem_nil, fun _ h => absurd h List.not_mem_nil, fun _ h => absurd h List.not_mem_nil,
    fun _ h => absurd h List.not_mem_nil, fun _ h => absurd h List.not_mem_nil, fun _ h => absurd h List.not_mem_nil⟩


/-! ### invariant 3: every referenced id has an entry -/

def k12_FnR (api : AnaResult) (f : Function) : Prop :=
  (∀ p ∈ f.params, p.id ∈ api.parameters.map (·.id)) ∧ (∀ r ∈ f.results, r.id ∈ api.results.map (·.id))

def k12_ClsR (api : AnaResult) (c : Class) : Prop :=
  (∀ x ∈ c.classes, x.id ∈ api.classes.map (·.id)) ∧ (∀ x ∈ c.methods, x.id ∈ api.functions.map (·.id)) ∧
  (∀ x, c.ctor = some x → x.id ∈ api.functions.map (·.id)) ∧ (∀ x ∈ c.attributes, x.id ∈ api.attributes.map (·.id))

def k12_EnumR (api : AnaResult) (e : Enum) : Prop := ∀ x ∈ e.instances, x.id ∈ api.enumInstances.map (·.id)

def k12_ModR (api : AnaResult) (m : Module) : Prop :=
  (∀ x ∈ m.classes, x.id ∈ api.classes.map (·.id)) ∧ (∀ x ∈ m.functions, x.id ∈ api.functions.map (·.id)) ∧
  (∀ x ∈ m.enums, x.id ∈ api.enums.map (·.id))

def k12_FrameR (api : AnaResult) : Frame → Prop
  | .module m => k12_ModR api m
  | .cls c => k12_ClsR api c
  | .enum e => k12_EnumR api e
  | _ => True

/-- the id sets of the tables only grow -/
structure k12_Sub (a b : AnaResult) : Prop where
  classes : ∀ k, k ∈ a.classes.map (·.id) → k ∈ b.classes.map (·.id)
  functions : ∀ k, k ∈ a.functions.map (·.id) → k ∈ b.functions.map (·.id)
  results : ∀ k, k ∈ a.results.map (·.id) → k ∈ b.results.map (·.id)
  enums : ∀ k, k ∈ a.enums.map (·.id) → k ∈ b.enums.map (·.id)
  enumInstances : ∀ k, k ∈ a.enumInstances.map (·.id) → k ∈ b.enumInstances.map (·.id)
  attributes : ∀ k, k ∈ a.attributes.map (·.id) → k ∈ b.attributes.map (·.id)
  parameters : ∀ k, k ∈ a.parameters.map (·.id) → k ∈ b.parameters.map (·.id)

theorem k12_FnR.mono {a b : AnaResult} (h : k12_Sub a b) {f : Function} (hf : k12_FnR a f) : k12_FnR b f :=
  ⟨fun p hp => h.parameters _ (hf.1 p hp), fun r hr => h.results _ (hf.2 r hr)⟩

theorem k12_ClsR.mono {a b : AnaResult} (h : k12_Sub a b) {c : Class} (hc : k12_ClsR a c) : k12_ClsR b c :=
  ⟨fun x hx => h.classes _ (hc.1 x hx), fun x hx => h.functions _ (hc.2.1 x hx),
   fun x hx => h.functions _ (hc.2.2.1 x hx), fun x hx => h.attributes _ (hc.2.2.2 x hx)⟩

theorem k12_EnumR.mono {a b : AnaResult} (h : k12_Sub a b) {e : Enum} (he : k12_EnumR a e) : k12_EnumR b e :=
  fun x hx => h.enumInstances _ (he x hx)

theorem k12_ModR.mono {a b : AnaResult} (h : k12_Sub a b) {m : Module} (hm : k12_ModR a m) : k12_ModR b m :=
  ⟨fun x hx => h.classes _ (hm.1 x hx), fun x hx => h.functions _ (hm.2.1 x hx), fun x hx => h.enums _ (hm.2.2 x hx)⟩

theorem k12_FrameR.mono {a b : AnaResult} (h : k12_Sub a b) {fr : Frame} (hf : k12_FrameR a fr) : k12_FrameR b fr := by
  cases fr with
  | module m => exact k12_ModR.mono h hf
  | cls c => exact k12_ClsR.mono h hf
  | enum e => exact k12_EnumR.mono h hf
  | _ => trivial

structure k12_RefInv (api : AnaResult) (stk : List Frame) : Prop where
  modules : ∀ m ∈ api.modules, k12_ModR api m
  classes : ∀ c ∈ api.classes, k12_ClsR api c
  functions : ∀ f ∈ api.functions, k12_FnR api f
  enums : ∀ e ∈ api.enums, k12_EnumR api e
  frames : ∀ fr ∈ stk, k12_FrameR api fr

theorem k12_RefInv.sub {a b : AnaResult} {stk : List Frame} (h : k12_Sub a b) (hi : k12_RefInv a stk) :
    (∀ m ∈ a.modules, k12_ModR b m) ∧ (∀ c ∈ a.classes, k12_ClsR b c) ∧ (∀ f ∈ a.functions, k12_FnR b f) ∧
      (∀ e ∈ a.enums, k12_EnumR b e) ∧ ∀ fr ∈ stk, k12_FrameR b fr :=
  ⟨fun m hx => k12_ModR.mono h (hi.modules m hx), fun m hx => k12_ClsR.mono h (hi.classes m hx),
   fun m hx => k12_FnR.mono h (hi.functions m hx), fun m hx => k12_EnumR.mono h (hi.enums m hx),
   fun fr hfr => k12_FrameR.mono h (hi.frames fr hfr)⟩

theorem k12_Sub.refl (a : AnaResult) : k12_Sub a a :=
  ⟨fun _ h => h, fun _ h => h, fun _ h => h, fun _ h => h, fun _ h => h, fun _ h => h, fun _ h => h⟩

theorem k12_sub_dictSet {α : Type} (key : α → String) (tbl : List α) (v : α) :
    ∀ k, k ∈ tbl.map key → k ∈ (dictSet key tbl v).map key :=
  fun k hk => (k12_dictSet_ids key tbl v k).2 (Or.inl hk)

theorem k12_new_dictSet {α : Type} (key : α → String) (tbl : List α) (v : α) : key v ∈ (dictSet key tbl v).map key :=
  (k12_dictSet_ids key tbl v _).2 (Or.inr rfl)

theorem k12_RefInv_step {a : AnaResult} {s : List Frame} {e : List Function} {cs : List Class} {a' : AnaResult}
    {s' : List Frame} (h : k12_Step a s e cs a' s') (hi : k12_RefInv a s) : k12_RefInv a' s' := by
  cases h with
  | reexp => exact { hi with }
  | pushModule _ m h1 h2 h3 =>
    refine { hi with frames := List.forall_mem_cons.2 ⟨⟨?_, ?_, ?_⟩, hi.frames⟩ }
    · rw [h1]; exact fun _ h => absurd h List.not_mem_nil
    · rw [h2]; exact fun _ h => absurd h List.not_mem_nil
    · rw [h3]; exact fun _ h => absurd h List.not_mem_nil
  | popModule m rest =>
    have hfr := List.forall_mem_cons.1 hi.frames
    exact { hi with modules := k12_forall_mem_dictSet _ hfr.1 hi.modules, frames := hfr.2 }
  | pushFn => exact { hi with frames := List.forall_mem_cons.2 ⟨trivial, hi.frames⟩ }
  | dropEnum => exact { hi with frames := (List.forall_mem_cons.1 hi.frames).2 }
  | popFn f parent up =>
    have hsub : k12_Sub a (k12_apiAddFn a f) :=
      ⟨fun _ h => h, k12_sub_dictSet _ _ _, fun k hk => (k12_foldl_dictSet_ids _ _ _ k).2 (Or.inl hk), fun _ h => h,
       fun _ h => h, fun _ h => h, fun k hk => (k12_foldl_dictSet_ids _ _ _ k).2 (Or.inl hk)⟩
    have hnew : f.id ∈ (k12_apiAddFn a f).functions.map (·.id) := k12_new_dictSet _ _ _
    have hfn : k12_FnR (k12_apiAddFn a f) f :=
      ⟨fun p hp => (k12_foldl_dictSet_ids _ _ _ _).2 (Or.inr (List.mem_map.2 ⟨p, hp, rfl⟩)),
       fun p hp => (k12_foldl_dictSet_ids _ _ _ _).2 (Or.inr (List.mem_map.2 ⟨p, hp, rfl⟩))⟩
    obtain ⟨hm, hc, hf, he, hfr⟩ := hi.sub hsub
    simp only [List.forall_mem_cons] at hfr
    refine ⟨hm, hc, k12_forall_mem_dictSet _ hfn hf, he, List.forall_mem_cons.2 ⟨?_, hfr.2.2⟩⟩
    have hp := hfr.2.1
    cases parent with
    | module m => exact ⟨hp.1, k12_forall_mem_snoc hp.2.1 hnew, hp.2.2⟩
    | cls c =>
      show k12_FrameR _ (if f.name == "__init__" then _ else _)
      split
      · refine ⟨hp.1, hp.2.1, ?_, hp.2.2.2⟩
        intro x hx
        simp only [Option.some.injEq] at hx
        rw [← hx]; exact hnew
      · exact ⟨hp.1, k12_forall_mem_snoc hp.2.1 hnew, hp.2.2⟩
    | _ => exact hp
  | pushCls _ c hok hne =>
    refine { hi with frames := List.forall_mem_cons.2 ⟨⟨?_, ?_, ?_, ?_⟩, hi.frames⟩ }
    · rw [hok.classes]; exact fun _ h => absurd h List.not_mem_nil
    · rw [hok.methods]; exact fun _ h => absurd h List.not_mem_nil
    · rw [hok.ctor]; exact fun _ h => absurd h (by simp)
    · rw [hok.attributes]; exact fun _ h => absurd h List.not_mem_nil
  | popClsM c _ up | popClsC c _ up =>
    have hsub : k12_Sub a { a with classes := dictSet (·.id) a.classes c } :=
      { k12_Sub.refl a with classes := k12_sub_dictSet _ _ _ }
    obtain ⟨hm, hc, hf, he, hfr⟩ := hi.sub hsub
    simp only [List.forall_mem_cons] at hfr
    exact ⟨hm, k12_forall_mem_dictSet _ hfr.1 hc, hf, he,
      List.forall_mem_cons.2 ⟨⟨k12_forall_mem_snoc hfr.2.1.1 (k12_new_dictSet _ _ _), hfr.2.1.2⟩, hfr.2.2⟩⟩
  | pushEnum _ en hok hne =>
    exact { hi with frames :=
      List.forall_mem_cons.2 ⟨fun x hx => absurd (hok.instances ▸ hx) List.not_mem_nil, hi.frames⟩ }
  | popEnumM en m up =>
    have hsub : k12_Sub a { a with enums := dictSet (·.id) a.enums en } :=
      { k12_Sub.refl a with enums := k12_sub_dictSet _ _ _ }
    obtain ⟨hm, hc, hf, he, hfr⟩ := hi.sub hsub
    simp only [List.forall_mem_cons] at hfr
    exact ⟨hm, hc, hf, k12_forall_mem_dictSet _ hfr.1 he, List.forall_mem_cons.2
      ⟨⟨hfr.2.1.1, hfr.2.1.2.1, k12_forall_mem_snoc hfr.2.1.2.2 (k12_new_dictSet _ _ _)⟩, hfr.2.2⟩⟩
  | addAttrF f c up att hok =>
    have hsub : k12_Sub a { a with attributes := dictSet (·.id) a.attributes att } :=
      { k12_Sub.refl a with attributes := k12_sub_dictSet _ _ _ }
    obtain ⟨hm, hc, hf, he, hfr⟩ := hi.sub hsub
    simp only [List.forall_mem_cons] at hfr
    exact ⟨hm, hc, hf, he, List.forall_mem_cons.2 ⟨trivial, List.forall_mem_cons.2
      ⟨⟨hfr.2.1.1, hfr.2.1.2.1, hfr.2.1.2.2.1, k12_forall_mem_snoc hfr.2.1.2.2.2 (k12_new_dictSet _ _ _)⟩, hfr.2.2⟩⟩⟩
  | addAttrC c up att hok =>
    have hsub : k12_Sub a { a with attributes := dictSet (·.id) a.attributes att } :=
      { k12_Sub.refl a with attributes := k12_sub_dictSet _ _ _ }
    obtain ⟨hm, hc, hf, he, hfr⟩ := hi.sub hsub
    simp only [List.forall_mem_cons] at hfr
    exact ⟨hm, hc, hf, he, List.forall_mem_cons.2
      ⟨⟨hfr.1.1, hfr.1.2.1, hfr.1.2.2.1, k12_forall_mem_snoc hfr.1.2.2.2 (k12_new_dictSet _ _ _)⟩, hfr.2⟩⟩
  | addInst en up inst hid =>
    have hsub : k12_Sub a { a with enumInstances := dictSet (·.id) a.enumInstances inst } :=
      { k12_Sub.refl a with enumInstances := k12_sub_dictSet _ _ _ }
    obtain ⟨hm, hc, hf, he, hfr⟩ := hi.sub hsub
    simp only [List.forall_mem_cons] at hfr
    exact ⟨hm, hc, hf, he, List.forall_mem_cons.2 ⟨k12_forall_mem_snoc hfr.1 (k12_new_dictSet _ _ _), hfr.2⟩⟩

theorem k12_analyze_refs {env : AEnv} {root : GNode} {mods : List SrcModule} {r : AnaResult} {w : List String}
    (h : analyze env root mods = .ok (r, w)) : k12_RefInv r [] := by
  obtain ⟨evs, _, hsteps, _, _⟩ := k12_analyze_steps h
  refine k12_Steps_inv k12_RefInv (fun _ _ _ _ _ _ hs hi => k12_RefInv_step hs hi) hsteps ?_
  exact ⟨fun _ h => absurd h List.not_mem_nil, fun _ h => absurd h List.not_mem_nil,
    fun _ h => absurd h List.not_mem_nil, fun _ h => absurd h List.not_mem_nil, fun _ h => absurd h List.not_mem_nil⟩


/-! ### the `functions` table is the fold of the recorded functions -/

theorem k12_Step_functions {a : AnaResult} {s : List Frame} {e : List Function} {cs : List Class} {a' : AnaResult}
    {s' : List Frame} (h : k12_Step a s e cs a' s') : a'.functions = e.foldl (dictSet (·.id)) a.functions := by
  cases h <;> rfl

theorem k12_Steps_functions {a : AnaResult} {s : List Frame} {e : List Function} {cs : List Class} {a' : AnaResult}
    {s' : List Frame} (h : k12_Steps a s e cs a' s') : a'.functions = e.foldl (dictSet (·.id)) a.functions := by
  induction h with
  | refl => rfl
  | cons h1 _ he _ ih => rw [ih, k12_Step_functions h1, he, List.foldl_append]

/-! ### parameters and results come from the recorded functions -/

theorem k12_Step_parts {a : AnaResult} {s : List Frame} {e : List Function} {cs : List Class} {a' : AnaResult}
    {s' : List Frame} (h : k12_Step a s e cs a' s') :
    (∀ p ∈ a'.parameters, p ∈ a.parameters ∨ ∃ f ∈ e, p ∈ f.params) ∧
    (∀ x ∈ a'.results, x ∈ a.results ∨ ∃ f ∈ e, x ∈ f.results) := by
  cases h with
  | popFn f parent up =>
    refine ⟨fun p hp => ?_, fun x hx => ?_⟩
    · rcases k12_mem_foldl_dictSet _ _ hp with hp | hp
      · exact Or.inr ⟨f, List.mem_singleton.2 rfl, hp⟩
      · exact Or.inl hp
    · rcases k12_mem_foldl_dictSet _ _ hx with hx | hx
      · exact Or.inr ⟨f, List.mem_singleton.2 rfl, hx⟩
      · exact Or.inl hx
  | _ => exact ⟨fun _ hp => Or.inl hp, fun _ hx => Or.inl hx⟩

theorem k12_Steps_parts {a : AnaResult} {s : List Frame} {e : List Function} {cs : List Class} {a' : AnaResult}
    {s' : List Frame} (h : k12_Steps a s e cs a' s') :
    (∀ p ∈ a'.parameters, p ∈ a.parameters ∨ ∃ f ∈ e, p ∈ f.params) ∧
    (∀ x ∈ a'.results, x ∈ a.results ∨ ∃ f ∈ e, x ∈ f.results) := by
  induction h with
  | refl => exact ⟨fun _ hp => Or.inl hp, fun _ hx => Or.inl hx⟩
  | cons h1 _ he _ ih =>
    have h0 := k12_Step_parts h1
    subst he
    refine ⟨fun p hp => ?_, fun x hx => ?_⟩
    · rcases ih.1 p hp with hp | ⟨f, hf, hp⟩
      · rcases h0.1 p hp with hp | ⟨f, hf, hp⟩
        · exact Or.inl hp
        · exact Or.inr ⟨f, List.mem_append_left _ hf, hp⟩
      · exact Or.inr ⟨f, List.mem_append_right _ hf, hp⟩
    · rcases ih.2 x hx with hx | ⟨f, hf, hx⟩
      · rcases h0.2 x hx with hx | ⟨f, hf, hx⟩
        · exact Or.inl hx
        · exact Or.inr ⟨f, List.mem_append_left _ hf, hx⟩
      · exact Or.inr ⟨f, List.mem_append_right _ hf, hx⟩

/-- without two writes to one key the table is the list of the written values -/
theorem k12_foldl_dictSet_of_nodup {α : Type} (key : α → String) : ∀ (vs tbl : List α),
    ((tbl ++ vs).map key).Nodup → vs.foldl (dictSet key) tbl = tbl ++ vs
  | [], tbl, _ => by simp
  | v :: vs, tbl, h => by
    have hv : dictSet key tbl v = tbl ++ [v] := by
      unfold dictSet
      rw [if_neg]
      intro hany
      rw [List.any_eq_true] at hany
      obtain ⟨x, hx, he⟩ := hany
      rw [List.map_append, List.nodup_append] at h
      exact h.2.2 (key x) (List.mem_map.2 ⟨x, hx, rfl⟩) (key v) (List.mem_map.2 ⟨v, List.mem_cons_self, rfl⟩)
        (by simpa using he)
    rw [List.foldl_cons, hv, k12_foldl_dictSet_of_nodup key vs (tbl ++ [v]) (by simpa using h)]
    simp

theorem k12_evs_ids {src : List (String × FuncDef)} {evs : List Function} (h : List.Forall₂ k12_EvMatch src evs) :
    evs.map (·.id) = src.map (·.1) := by
  induction h with
  | nil => rfl
  | cons hq _ ih => rw [List.map_cons, List.map_cons, ih, hq.1]

/-- if no two visited function definitions get the same id, every parameter and every result of the tables is
    listed by a function of the table -/
theorem k12_analyze_parts {env : AEnv} {root : GNode} {mods : List SrcModule} {r : AnaResult} {w : List String}
    (h : analyze env root mods = .ok (r, w)) (hu : ((k12_srcFuncs mods).map (·.1)).Nodup) :
    (∀ p ∈ r.parameters, ∃ f ∈ r.functions, p ∈ f.params) ∧ (∀ x ∈ r.results, ∃ f ∈ r.functions, x ∈ f.results) := by
  obtain ⟨evs, _, hsteps, hm, _⟩ := k12_analyze_steps h
  have hfun : r.functions = evs := by
    rw [k12_Steps_functions hsteps]
    have := k12_foldl_dictSet_of_nodup (fun (f : Function) => f.id) evs [] (by rw [List.nil_append, k12_evs_ids hm]; exact hu)
    rw [List.nil_append] at this
    exact this
  have hp := k12_Steps_parts hsteps
  rw [hfun]
  refine ⟨fun p hp' => ?_, fun x hx => ?_⟩
  · rcases hp.1 p hp' with h0 | h0
    · exact absurd h0 List.not_mem_nil
    · exact h0
  · rcases hp.2 x hx with h0 | h0
    · exact absurd h0 List.not_mem_nil
    · exact h0

/-! ### attributes come from the stored classes -/

theorem k12_Steps_classes {a : AnaResult} {s : List Frame} {e : List Function} {cs : List Class} {a' : AnaResult}
    {s' : List Frame} (h : k12_Steps a s e cs a' s') : a'.classes = cs.foldl (dictSet (·.id)) a.classes := by
  induction h with
  | refl => rfl
  | cons h1 _ _ hc ih => rw [ih, k12_Step_classes h1, hc, List.foldl_append]

/-- the attribute is listed by one of the classes `P` (the classes stored so far) or by a class that is still open -/
def k12_Listed (P : List Class) (stk : List Frame) (x : Attribute) : Prop :=
  (∃ c ∈ P, x ∈ c.attributes) ∨ (∃ c, Frame.cls c ∈ stk ∧ x ∈ c.attributes)

theorem k12_Listed_step {a : AnaResult} {s : List Frame} {e : List Function} {cs : List Class} {a' : AnaResult}
    {s' : List Frame} (h : k12_Step a s e cs a' s') {P P' : List Class} (hP : ∀ c ∈ P, c ∈ P') (hcs : ∀ c ∈ cs, c ∈ P')
    {x : Attribute} (hx : k12_Listed P s x) : k12_Listed P' s' x := by
  rcases hx with ⟨c, hc, hm⟩ | ⟨c, hc, hm⟩
  · exact Or.inl ⟨c, hP c hc, hm⟩
  · rcases k12_Step_cls h hc with h1 | ⟨c', hc', _, hat⟩
    · exact Or.inl ⟨c, hcs c h1, hm⟩
    · exact Or.inr ⟨c', hc', hat x hm⟩

theorem k12_ListedInv_step {a : AnaResult} {s : List Frame} {e : List Function} {cs : List Class} {a' : AnaResult}
    {s' : List Frame} (h : k12_Step a s e cs a' s') {P : List Class} (hi : ∀ x ∈ a.attributes, k12_Listed P s x) :
    ∀ x ∈ a'.attributes, k12_Listed (P ++ cs) s' x := by
  have hold : ∀ x, k12_Listed P s x → k12_Listed (P ++ cs) s' x :=
    fun x hx => k12_Listed_step h (fun c hc => List.mem_append_left _ hc) (fun c hc => List.mem_append_right _ hc) hx
  cases h with
  | addAttrF f c up att _ =>
    exact k12_forall_mem_dictSet _ (Or.inr ⟨_, List.mem_cons_of_mem _ List.mem_cons_self, List.mem_append_right _ (List.mem_singleton.2 rfl)⟩) (fun x hx => hold x (hi x hx))
  | addAttrC c up att _ =>
    exact k12_forall_mem_dictSet _ (Or.inr ⟨_, List.mem_cons_self, List.mem_append_right _ (List.mem_singleton.2 rfl)⟩) (fun x hx => hold x (hi x hx))
  | _ => exact fun x hx => hold x (hi x hx)

theorem k12_ListedInv_steps {a : AnaResult} {s : List Frame} {e : List Function} {cs : List Class} {a' : AnaResult}
    {s' : List Frame} (h : k12_Steps a s e cs a' s') : ∀ {P : List Class}, (∀ x ∈ a.attributes, k12_Listed P s x) →
    ∀ x ∈ a'.attributes, k12_Listed (P ++ cs) s' x := by
  induction h with
  | refl => intro P hi; rw [List.append_nil]; exact hi
  | cons h1 _ _ hc ih =>
    intro P hi
    have := ih (k12_ListedInv_step h1 hi)
    rw [hc, ← List.append_assoc]
    exact this

/-- if no two visited class definitions get the same id, every attribute of the table is listed by a class of the table -/
theorem k12_analyze_attrs {env : AEnv} {root : GNode} {mods : List SrcModule} {r : AnaResult} {w : List String}
    (h : analyze env root mods = .ok (r, w)) (hu : (k12_srcClasses mods).Nodup) :
    ∀ x ∈ r.attributes, ∃ c ∈ r.classes, x ∈ c.attributes := by
  obtain ⟨evs, cs, hsteps, _, hcs⟩ := k12_analyze_steps h
  have hcls : r.classes = cs := by
    rw [k12_Steps_classes hsteps]
    have := k12_foldl_dictSet_of_nodup (fun (c : Class) => c.id) cs [] (by rw [List.nil_append, hcs]; exact hu)
    rw [List.nil_append] at this
    exact this
  intro x hx
  have := k12_ListedInv_steps hsteps (P := []) (fun _ h0 => absurd h0 List.not_mem_nil) x hx
  rw [List.nil_append] at this
  rw [hcls]
  rcases this with h0 | ⟨c, hc, _⟩
  · exact h0
  · exact absurd hc List.not_mem_nil

/-- the last definition with id `id` in the walk order -/
def k12_lastDef (id : String) (src : List (String × FuncDef)) : Option FuncDef :=
  (src.reverse.find? (fun p => p.1 == id)).map (·.2)

theorem k12_lastDef_recorded_aux (tbl : List Function) : ∀ {rsrc : List (String × FuncDef)} {revs : List Function},
    List.Forall₂ k12_EvMatch rsrc revs → ∀ {id : String} {p : String × FuncDef}, rsrc.find? (fun p => p.1 == id) = some p →
    ∃ fn ∈ revs.foldr (fun v t => dictSet (·.id) t v) tbl, fn.id = id ∧ k12_FnMatch p.2 fn := by
  intro rsrc revs h
  induction h with
  | nil => intro id p hp; simp at hp
  | @cons q fn rsrc revs hq _ ih =>
    intro id p hp
    rw [List.foldr_cons]
    rw [List.find?_cons] at hp
    split at hp
    · rename_i hqid
      simp only [Option.some.injEq] at hp
      subst hp
      exact ⟨fn, k12_self_mem_dictSet _ _ _, by rw [hq.1]; simpa using hqid, hq.2⟩
    · rename_i hqid
      obtain ⟨fn', hfn', hid', hm'⟩ := ih hp
      refine ⟨fn', k12_mem_dictSet_of_ne _ hfn' ?_, hid', hm'⟩
      rw [hid', hq.1]
      intro e
      rw [e] at hqid
      simp at hqid

theorem k12_lastDef_recorded {src : List (String × FuncDef)} {evs : List Function} (h : List.Forall₂ k12_EvMatch src evs)
    {id : String} {f : FuncDef} (hl : k12_lastDef id src = some f) :
    ∃ fn ∈ evs.foldl (dictSet (·.id)) [], fn.id = id ∧ k12_FnMatch f fn := by
  unfold k12_lastDef at hl
  cases hp : src.reverse.find? (fun p => p.1 == id) with
  | none => rw [hp] at hl; simp at hl
  | some p =>
    rw [hp] at hl
    simp only [Option.map_some, Option.some.injEq] at hl
    have := k12_lastDef_recorded_aux [] (List.rel_reverse h) hp
    rw [List.foldr_reverse] at this
    rw [← hl]
    exact this

theorem k12_analyze_lastDef {env : AEnv} {root : GNode} {mods : List SrcModule} {r : AnaResult} {w : List String}
    (h : analyze env root mods = .ok (r, w)) {id : String} {f : FuncDef} (hl : k12_lastDef id (k12_srcFuncs mods) = some f) :
    ∃ fn ∈ r.functions, fn.id = id ∧ k12_FnMatch f fn := by
  obtain ⟨evs, _, hsteps, hm, _⟩ := k12_analyze_steps h
  rw [k12_Steps_functions hsteps]
  exact k12_lastDef_recorded hm hl

theorem k12_lastDef_of_unique {src : List (String × FuncDef)} {id : String} {f : FuncDef} (hmem : (id, f) ∈ src)
    (huniq : ∀ p ∈ src, p.1 = id → p.2 = f) : k12_lastDef id src = some f := by
  unfold k12_lastDef
  cases hp : src.reverse.find? (fun p => p.1 == id) with
  | none =>
    have := List.find?_eq_none.1 hp (id, f) (List.mem_reverse.2 hmem)
    simp at this
  | some p =>
    have h1 := List.find?_some hp
    have h2 := List.mem_of_find?_eq_some hp
    simp only [Option.map_some, Option.some.injEq]
    exact huniq p (List.mem_reverse.1 h2) (by simpa using h1)

theorem k12_mem_defsFuncs {pre : List String} {mode : WalkMode} {p : String × FuncDef} : ∀ {ds : List Def} {d : Def},
    d ∈ ds → p ∈ k12_defFuncs pre mode d → p ∈ k12_defsFuncs pre mode ds
  | [], _, h, _ => absurd h List.not_mem_nil
  | d0 :: ds, d, h, hp => by
    unfold k12_defsFuncs
    rcases List.mem_cons.1 h with rfl | h
    · exact List.mem_append_left _ hp
    · exact List.mem_append_right _ (k12_mem_defsFuncs h hp)

theorem k12_mem_srcFuncs {p : String × FuncDef} {ms : List SrcModule} {m : SrcModule}
    (h : m ∈ ms) (hp : p ∈ k12_modFuncs m) : p ∈ k12_srcFuncs ms := by
  induction ms with
  | nil => exact absurd h List.not_mem_nil
  | cons m0 ms ih =>
    unfold k12_srcFuncs
    rcases List.mem_cons.1 h with rfl | h
    · exact List.mem_append_left _ hp
    · exact List.mem_append_right _ (ih h)

/-- a top-level function of a module is in the list of recorded functions -/
theorem k12_toplevel_mem_srcFuncs {mods : List SrcModule} {m : SrcModule} {f : FuncDef} (hm : m ∈ mods)
    (hd : Def.func f ∈ m.defs ∨ Def.decorator f ∈ m.defs) :
    (replaceChar m.fullname '.' "/" ++ "/" ++ f.name, f) ∈ k12_srcFuncs mods := by
  refine k12_mem_srcFuncs hm ?_
  unfold k12_modFuncs
  rcases hd with hd | hd
  · refine k12_mem_defsFuncs hd ?_
    unfold k12_defFuncs
    rw [if_neg (by decide)]
    exact List.mem_singleton.2 rfl
  · refine k12_mem_defsFuncs hd ?_
    unfold k12_defFuncs
    rw [if_neg (by decide)]
    exact List.mem_singleton.2 rfl

/-- a top-level overloaded function with an implementation is in the list of recorded functions -/
theorem k12_toplevel_overloaded_mem_srcFuncs {mods : List SrcModule} {m : SrcModule} {f : FuncDef} (hm : m ∈ mods)
    (hd : Def.overloaded (some f) ∈ m.defs) :
    (replaceChar m.fullname '.' "/" ++ "/" ++ f.name, f) ∈ k12_srcFuncs mods := by
  refine k12_mem_srcFuncs hm ?_
  unfold k12_modFuncs
  refine k12_mem_defsFuncs hd ?_
  unfold k12_defFuncs
  rw [if_neg (by decide)]
  exact List.mem_singleton.2 rfl

theorem k12_joinWith3 (a b c : String) : joinWith "/" ([a] ++ [b] ++ [c]) = a ++ "/" ++ b ++ "/" ++ c := by
  show joinWith "/" [a, b, c] = _
  rw [k12_joinWith_cons2, k12_joinWith_cons2]
  show a ++ "/" ++ (b ++ "/" ++ c) = _
  simp only [String.append_assoc]

/-- a method of a top-level class is in the list of recorded functions -/
theorem k12_method_mem_srcFuncs {mods : List SrcModule} {m : SrcModule} {name fullname : String}
    {bases removed : List BaseExpr} {defs : List Def} {f : FuncDef} (hm : m ∈ mods)
    (hc : Def.cls name fullname bases removed defs ∈ m.defs) (he : isEnumClass bases = false)
    (hd : Def.func f ∈ defs ∨ Def.decorator f ∈ defs) :
    (replaceChar m.fullname '.' "/" ++ "/" ++ name ++ "/" ++ f.name, f) ∈ k12_srcFuncs mods := by
  refine k12_mem_srcFuncs hm ?_
  unfold k12_modFuncs
  refine k12_mem_defsFuncs hc ?_
  unfold k12_defFuncs
  rw [if_neg (by decide), he, if_neg (by decide)]
  rcases hd with hd | hd
  · refine k12_mem_defsFuncs hd ?_
    unfold k12_defFuncs
    rw [if_neg (by decide), k12_joinWith3]
    exact List.mem_singleton.2 rfl
  · refine k12_mem_defsFuncs hd ?_
    unfold k12_defFuncs
    rw [if_neg (by decide), k12_joinWith3]
    exact List.mem_singleton.2 rfl


end StubGen
