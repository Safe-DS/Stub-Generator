/-
C08 — determinism: the output is a function of the package's files and the options alone.

In the model every source of non-determinism of the Python code is an explicit ORDER of a list that
stands for a Python `set` (hash-seed dependent iteration) or for the `Path.glob` enumeration.  The
theorems below are permutation-invariance statements, one per item of the property's mechanism list:

 1. `sorted(...)` is canonical on permutation classes           (`sortBy_perm_invariant`, …)
 2. `_get_shortest_public_reexport`                              (`shortestPublicReexport_perm`, `pickShortest_spec`)
 3. the `// TODO` block and the import block                     (`todo_block_perm`, `imports_block_perm`)
 4. the placeholder stubs for classes outside the package        (`placeholder_order`)
 5. `reexported_by` is sorted by id by the visitor               (`reexportedBy_sorted`)
 6. the packages phase only ADDS to the re-export map            (`reexport_map_add_commutes`, `RmEquiv` consumers)
 7. file discovery and AST selection                             (`discovery_enumeration_order`)
 8. the former scope exclusions, now theorems: `_find_alias` iterates `sorted(qnames)`
    (`findAlias_perm`, for every known qualified name; `findAlias_known`: a non-empty known name wins,
    the candidates are not consulted),
    the inferred return types come in SOURCE order (`InferTie` is no exclusion any
    more), the re-exported elements are sorted by `(name, id)` (`reexport_elements_order`)
 9. non-vacuity examples.

Helper lemmas are in `Proofs/Order.lean`.
-/
import StubGen.Proofs.Order
import StubGen.Theorems.C15

namespace StubGen.C08

open List

/-! ### 1. sorting -/

/-- Insertion sort (`sortBy`, the model of `sorted(..., key=...)`) by a total preorder gives the same
    list for every enumeration order of its input, provided the preorder is antisymmetric on the
    elements of the list (ties are only between equal elements). -/
theorem sortBy_perm_invariant {α : Type} (le : α → α → Bool)
    (total : ∀ a b, le a b = true ∨ le b a = true)
    (trans : ∀ a b c, le a b = true → le b c = true → le a c = true)
    {l l' : List α}
    (antisymm : ∀ a ∈ l, ∀ b ∈ l, le a b = true → le b a = true → a = b)
    (h : l ~ l') : sortBy le l = sortBy le l' :=
  StubGen.sortBy_perm_invariant le total trans antisymm h

/-- Without antisymmetry: if `le` compares a key by a total order on keys, the KEY SEQUENCE of the
    sorted list is the same for every enumeration order. -/
theorem sortBy_perm_invariant_key {α κ : Type} (key : α → κ) (le : α → α → Bool) (leK : κ → κ → Bool)
    (hle : ∀ a b, le a b = leK (key a) (key b))
    (total : ∀ a b, leK a b = true ∨ leK b a = true)
    (trans : ∀ a b c, leK a b = true → leK b c = true → leK a c = true)
    (antisymm : ∀ a b, leK a b = true → leK b a = true → a = b)
    {l l' : List α} (h : l ~ l') : (sortBy le l).map key = (sortBy le l').map key :=
  p08_sortBy_map_key key le leK hle total trans antisymm h

/-- `sorted(strings)` -/
theorem sortStrings_perm {l l' : List String} (h : l ~ l') : sortStrings l = sortStrings l' :=
  p08_sortStrings_perm h

/-- sorting records by a string key that is injective on the list (e.g. modules by id) -/
theorem sortBy_key_perm {α : Type} (key : α → String) {l l' : List α}
    (hinj : ∀ a ∈ l, ∀ b ∈ l, key a = key b → a = b) (h : l ~ l') :
    sortBy (fun a b => strLe (key a) (key b)) l = sortBy (fun a b => strLe (key a) (key b)) l' :=
  p08_sortBy_key_perm key hinj h

/-- The instance for the `(module id, alias)` tuples of `_get_shortest_public_reexport`.  `tupleLe`
    reads an alias `None` as `""`, so it identifies `(id, None)` and `(id, "")`; what is invariant is the
    sorted sequence of `(id, alias or "")` — which is all the caller uses (`alias.getD ""`). -/
theorem sortBy_tupleLe_perm {l l' : List (String × Option String)} (h : l ~ l') :
    (sortBy tupleLe l).map (fun t => (t.1, t.2.getD "")) = (sortBy tupleLe l').map (fun t => (t.1, t.2.getD "")) :=
  p08_sortBy_tupleLe_perm h

/-- … and the sorted list itself when no two elements differ only by `None` / `""` -/
theorem sortBy_tupleLe_perm_eq {l l' : List (String × Option String)}
    (hinj : ∀ a ∈ l, ∀ b ∈ l, (a.1, a.2.getD "") = (b.1, b.2.getD "") → a = b) (h : l ~ l') :
    sortBy tupleLe l = sortBy tupleLe l' :=
  p08_sortBy_key_inj p08_tupleKey tupleLe p08_pairLe p08_tupleLe_key p08_pairLe_total p08_pairLe_trans
    p08_pairLe_antisymm hinj h

/-- the identification is real: the raw sorted list does depend on the order for such a pair -/
example : sortBy tupleLe [("a", none), ("a", some "")] ≠ sortBy tupleLe [("a", some ""), ("a", none)] := by
  decide +kernel

/-! ### 2. `_get_shortest_public_reexport` -/

/-- `rm'` arises from `rm` by permuting the module lists inside the values (`set[Module]` iteration
    order) and then permuting the entries. -/
abbrev RmPerm := p08_RmPerm

/-- `m` is in the module set stored under key `k` -/
abbrev PairMem := p08_PairMem

/-- The result depends on the re-export map only through the SET of `(key, module)` pairs. -/
theorem shortestPublicReexport_set {rm rm' : List (String × List ModRef)}
    (h : ∀ k m, PairMem rm k m ↔ PairMem rm' k m) (name qname : String) (isModule : Bool) :
    shortestPublicReexport rm name qname isModule = shortestPublicReexport rm' name qname isModule := by
  rw [p08_shortest_eq, p08_shortest_eq]
  have hp : p08_dedup (p08_cands (p08_check name qname isModule) rm)
      ~ p08_dedup (p08_cands (p08_check name qname isModule) rm') := by
    apply p08_dedup_perm
    intro t
    simp only [p08_mem_cands, h]
  rw [p08_sortBy_tupleLe_perm hp]

/-- (a) permuting the module lists inside the map's values and (b) permuting the entries of the map
    does not change the result (the repaired hash-seed dependence F08-reexport-tie: the candidate
    tuples are de-duplicated, SORTED, and the first strictly shortest one is picked).
    Distinctness of the keys is not even needed. -/
theorem shortestPublicReexport_perm {rm rm' : List (String × List ModRef)} (h : RmPerm rm rm')
    (name qname : String) (isModule : Bool) :
    shortestPublicReexport rm name qname isModule = shortestPublicReexport rm' name qname isModule :=
  shortestPublicReexport_set h.pairMem name qname isModule

/-- `pickShortest none l` returns the FIRST element of `l` among those with the fewest `/`-segments:
    every earlier candidate has strictly more segments, every later one at least as many.
    (Applied to the sorted candidate list this is the least `(id, alias)` among the shortest.) -/
theorem pickShortest_spec (l : List (String × Option String)) (hne : l ≠ []) :
    ∃ pre u post, l = pre ++ u :: post ∧ pickShortest none l = some (splitSlash u.1, u.2) ∧
      (∀ p ∈ pre, (splitSlash u.1).length < (splitSlash p.1).length) ∧
      (∀ q ∈ post, (splitSlash u.1).length ≤ (splitSlash q.1).length) := by
  match l, hne with
  | t :: ts, _ =>
    have he : pickShortest none (t :: ts) = pickShortest (some (splitSlash t.1, t.2)) ts := rfl
    rw [he]
    rcases p08_pickShortest_some ts (splitSlash t.1) t.2 with ⟨h1, h2⟩ | ⟨pre, u, post, h1, h2, h3, h4, h5⟩
    · exact ⟨[], t, ts, rfl, h1, by simp, h2⟩
    · refine ⟨t :: pre, u, post, by rw [h1]; rfl, h2, ?_, h5⟩
      intro p hp
      rcases List.mem_cons.1 hp with rfl | hp
      · exact h3
      · exact h4 p hp

theorem pickShortest_nil : pickShortest none [] = none := rfl

/-! ### 3. the `// TODO` block and the import block -/

/-- `_create_todo_msg` gives the same result (text, final state, or `KeyError`) for every order of
    the pending-marker set. -/
theorem todo_block_perm (indent : String) (s : St) (todos' : List String) (h : s.todos ~ todos') :
    createTodoMsg indent { s with todos := todos' } = createTodoMsg indent s := by
  rw [p08_createTodoMsg_eq, p08_createTodoMsg_eq]
  have hc : (∀ k ∈ todos', (assocGet? Generated.todoMessages k).isSome = true) ↔
      (∀ k ∈ s.todos, (assocGet? Generated.todoMessages k).isSome = true) :=
    ⟨fun H k hk => H k (h.mem_iff.1 hk), fun H k hk => H k (h.mem_iff.2 hk)⟩
  simp only [hc, p08_renderTodos_perm indent h.symm]

/-- the same for two duplicate-free lists with the same members (two iteration orders of one set) -/
theorem todo_block_set (indent : String) (s : St) (todos' : List String) (hnd : s.todos.Nodup)
    (hnd' : todos'.Nodup) (h : ∀ k, k ∈ s.todos ↔ k ∈ todos') :
    createTodoMsg indent { s with todos := todos' } = createTodoMsg indent s :=
  todo_block_perm indent s todos' ((List.perm_ext_iff_of_nodup hnd hnd').2 h)

/-- `_create_imports_string` prints the same text for every order of the import set (it never fails
    and does not change the state). -/
theorem imports_block_perm (env : Env) (s : St) (imports' : List String) (h : s.imports ~ imports') :
    ∃ text, createImportsString env s = .ok (text, s) ∧
      createImportsString env { s with imports := imports' } = .ok (text, { s with imports := imports' }) := by
  refine ⟨p08_importsText env.safe s.imports, p08_createImportsString_eq env s, ?_⟩
  rw [p08_createImportsString_eq, p08_importsText_perm env.safe h]

/-- union members: the text depends on the SET of rendered members only -/
theorem union_block_set {l l' : List String} (h : ∀ a, a ∈ l ↔ a ∈ l') (hasNamed : Bool) :
    finishUnion l hasNamed = finishUnion l' hasNamed := by
  rw [finishUnion_eq, finishUnion_eq, unionText_congr h]

/-! ### 4. placeholder stubs -/

/-- `create_stub_files` processes `classes_outside_package` in sorted order: the complete write log
    is the same for every iteration order of that set.  (Duplicate-freeness is not needed.) -/
theorem placeholder_order (safe : Bool) (stubs : List StubData) (outside outside' pre : List String)
    (h : outside ~ outside') :
    createStubFiles safe stubs outside pre = createStubFiles safe stubs outside' pre := by
  unfold createStubFiles
  rw [p08_sortStrings_perm h]

theorem placeholder_order_set (safe : Bool) (stubs : List StubData) (outside outside' pre : List String)
    (hnd : outside.Nodup) (hnd' : outside'.Nodup) (h : ∀ c, c ∈ outside ↔ c ∈ outside') :
    createStubFiles safe stubs outside pre = createStubFiles safe stubs outside' pre :=
  placeholder_order safe stubs outside outside' pre ((List.perm_ext_iff_of_nodup hnd hnd').2 h)

/-! ### 5. `reexported_by` -/

/-- same keys in the same order, every module list permuted -/
abbrev ValuesPerm := p08_ValuesPerm

/-- The visitor sorts `reexported_by` by module id: for maps that differ by the iteration order of
    the module sets — ids within each set distinct — the sorted list is the same. -/
theorem reexportedBy_sorted (s s' : VSt) (qname : String)
    (hperm : ValuesPerm s.api.reexportMap s'.api.reexportMap)
    (hids : ∀ kv ∈ s.api.reexportMap, (kv.2.map (·.id)).Nodup) :
    sortModRefs (getReexportedBy s qname) = sortModRefs (getReexportedBy s' qname) :=
  p08_sorted_reexportedBy_congr s s' hids hperm.lookD qname

/-- the collected modules have pairwise distinct ids (so the sort by id has no ties) -/
theorem reexportedBy_ids_nodup (s : VSt) (qname : String)
    (hids : ∀ kv ∈ s.api.reexportMap, (kv.2.map (·.id)).Nodup) :
    ((getReexportedBy s qname).map (·.id)).Nodup := by
  rw [p08_getReexportedBy_eq]
  exact (p08_grb_perm (p08_lookD_ids_nodup hids) (fun _ => Perm.refl _) qname).2

/-- hence the fold of `_has_node_shorter_reexport` (first strictly shortest id wins) sees a canonical order -/
theorem hasNodeShorterReexport_canonical (s s' : VSt) (qname nodeName : String) (node : Node)
    (hperm : ValuesPerm s.api.reexportMap s'.api.reexportMap)
    (hids : ∀ kv ∈ s.api.reexportMap, (kv.2.map (·.id)).Nodup) :
    hasNodeShorterReexport nodeName (sortModRefs (getReexportedBy s qname)) node =
      hasNodeShorterReexport nodeName (sortModRefs (getReexportedBy s' qname)) node := by
  rw [reexportedBy_sorted s s' qname hperm hids]

/-- the hypothesis on ids is needed: two module objects with one id in one set, first one wins -/
example :
    let a1 : ModRef := { id := "p", qualifiedImports := [⟨"p.m.f", none⟩] }
    let a2 : ModRef := { id := "p", qualifiedImports := [⟨"p.m.f", some "g"⟩] }
    let s : VSt := { doc := { root := { name := "p" }, style := .numpy }, api := { reexportMap := [("p.m.f", [a1, a2])] } }
    let s' : VSt := { doc := { root := { name := "p" }, style := .numpy }, api := { reexportMap := [("p.m.f", [a2, a1])] } }
    sortModRefs (getReexportedBy s "p.m.f") ≠ sortModRefs (getReexportedBy s' "p.m.f") := by
  decide +kernel

/-! ### 6. the packages phase only adds to the re-export map -/

/-- distinct keys; distinct module ids inside every module list -/
abbrev RmWf := p08_RmWf

/-- `RmEquiv rm rm'`: every key has the same module set in both maps (the lists are equal up to
    order; a missing key counts as the empty set).  The order of the KEYS is not constrained. -/
abbrev RmEquiv := p08_RmEquiv

/-- `_add_reexports` for two different `__init__` modules commutes up to `RmEquiv`, and keeps the
    map well-formed.  What does NOT commute is the order of the keys: a new key is appended when it
    is first met (see the example below). -/
theorem reexport_map_add_commutes (api : AnaResult) (m1 m2 : Module) (hne : m1.id ≠ m2.id)
    (w : RmWf api.reexportMap) :
    RmEquiv (addReexports (addReexports api m1) m2).reexportMap (addReexports (addReexports api m2) m1).reexportMap
    ∧ RmWf (addReexports (addReexports api m1) m2).reexportMap
    ∧ RmWf (addReexports (addReexports api m2) m1).reexportMap :=
  ⟨p08_addReexports_comm api m1 m2 hne, p08_wf_addReexports _ _ (p08_wf_addReexports _ _ w),
    p08_wf_addReexports _ _ (p08_wf_addReexports _ _ w)⟩

/-- every map the packages phase can build (from the empty map, in any order) is well-formed -/
theorem reexport_map_wf (ms : List Module) : RmWf (ms.foldl addReexports {}).reexportMap :=
  p08_wf_foldl_addReexports ms {} p08_wf_nil

/-- adding is idempotent -/
theorem reexport_map_add_idempotent (api : AnaResult) (m : Module) :
    RmEquiv (addReexports (addReexports api m) m).reexportMap (addReexports api m).reexportMap := by
  intro k
  simp only [p08_lookD_addReexports]
  split
  · rw [p08_addToSetById_idem]
  · exact Perm.refl _

/-- adding respects the equivalence (so any two analysis orders of the packages give equivalent maps) -/
theorem reexport_map_add_congr {api api' : AnaResult} (h : RmEquiv api.reexportMap api'.reexportMap) (m : Module) :
    RmEquiv (addReexports api m).reexportMap (addReexports api' m).reexportMap := by
  intro k
  rw [p08_lookD_addReexports, p08_lookD_addReexports]
  split
  · exact p08_addToSetById_perm (h k) _
  · exact h k

/-- the contents of the map after `_add_reexports(m)`, key by key -/
theorem reexport_map_add_lookup (api : AnaResult) (m : Module) (k : String) :
    p08_lookD (addReexports api m).reexportMap k =
      if k ∈ m.qualifiedImports.map (·.qualifiedName) ++ m.wildcardImports.map (· ++ ".*")
      then addToSetById (p08_lookD api.reexportMap k) m.ref else p08_lookD api.reexportMap k :=
  p08_lookD_addReexports api m k

/-- the KEY order does depend on the order in which the packages are analysed -/
example :
    let m1 : Module := { id := "p/a", name := "__init__", qualifiedImports := [⟨"p.a.x.f", none⟩] }
    let m2 : Module := { id := "p/b", name := "__init__", qualifiedImports := [⟨"p.b.y.g", none⟩] }
    (addReexports (addReexports {} m1) m2).reexportMap ≠ (addReexports (addReexports {} m2) m1).reexportMap := by
  decide +kernel

/-- equivalent well-formed maps hold the same `(key, module)` pairs -/
theorem RmEquiv_pairs {rm rm' : List (String × List ModRef)} (h : RmEquiv rm rm') (w : RmWf rm) (w' : RmWf rm')
    (k : String) (m : ModRef) : PairMem rm k m ↔ PairMem rm' k m :=
  h.pairMem w.keys w'.keys k m

/-- maps related by `RmPerm` are equivalent -/
theorem RmPerm_equiv {rm rm' : List (String × List ModRef)} (w : RmWf rm) (h : RmPerm rm rm') :
    RmEquiv rm rm' ∧ RmWf rm' := by
  obtain ⟨mid, h1, h2⟩ := h
  have wm := h1.wf w
  exact ⟨h1.lookD.trans (p08_entriesPerm_lookD wm.keys h2), p08_entriesPerm_wf wm h2⟩

/-- Everything the later phases compute from the map is invariant under `RmEquiv`:
    (item 2) the shortest public re-export, -/
theorem RmEquiv_shortestPublicReexport {rm rm' : List (String × List ModRef)} (h : RmEquiv rm rm')
    (w : RmWf rm) (w' : RmWf rm') (name qname : String) (isModule : Bool) :
    shortestPublicReexport rm name qname isModule = shortestPublicReexport rm' name qname isModule :=
  shortestPublicReexport_set (RmEquiv_pairs h w w') name qname isModule

/-- (item 5) the sorted `reexported_by` list, -/
theorem RmEquiv_reexportedBy (s s' : VSt) (h : RmEquiv s.api.reexportMap s'.api.reexportMap)
    (w : RmWf s.api.reexportMap) (qname : String) :
    sortModRefs (getReexportedBy s qname) = sortModRefs (getReexportedBy s' qname) :=
  p08_sorted_reexportedBy_congr s s' w.ids h qname

/-- `_check_publicity_in_reexports` (an `any` over keys and modules), -/
theorem RmEquiv_checkPublicity (s s' : VSt) (hf : s.fileFullname = s'.fileFullname) (hn : s.fileName = s'.fileName)
    (h : RmEquiv s.api.reexportMap s'.api.reexportMap)
    (w : RmWf s.api.reexportMap) (w' : RmWf s'.api.reexportMap) (name qname : String) (parentOk : Bool) :
    checkPublicityInReexports s name qname parentOk = checkPublicityInReexports s' name qname parentOk :=
  p08_checkPublicity_congr hf hn (RmEquiv_pairs h w w') name qname parentOk

/-- and `_is_path_connected_to_class` (an `any`). -/
theorem RmEquiv_isPathConnectedToClass {rm rm' : List (String × List ModRef)} (h : RmEquiv rm rm')
    (w : RmWf rm) (w' : RmWf rm') (path classPath : String) :
    isPathConnectedToClass rm path classPath = isPathConnectedToClass rm' path classPath :=
  p08_isPathConnectedToClass_congr (RmEquiv_pairs h w w') path classPath

/-! ### 7. discovery -/

/-- `selectAsts graph d` depends on `d` only through the member sets -/
theorem selectAsts_sets (graph : List String) {d d' : Discovered}
    (hw : ∀ p, p ∈ d.walkable ↔ p ∈ d'.walkable) (hp : ∀ p, p ∈ d.packages ↔ p ∈ d'.packages) :
    selectAsts graph d = selectAsts graph d' := by
  unfold selectAsts
  simp only [p08_contains_map_congr hw, p08_contains_map_congr hp]

/-- `root.glob("./**/*.py")` enumeration order: the kept files and the package directories are
    permuted along (the loop is an order-preserving filter), the `ValueError` for "no files" does
    not depend on it, and `_get_mypy_asts` uses both lists as sets only — so the selected ASTs, in
    mypy's graph order (an input outside the model), are the same. -/
theorem discovery_enumeration_order (isTestRun : Bool) {files files' : List PathParts} (h : files ~ files') :
    (discoverLoop isTestRun files).walkable ~ (discoverLoop isTestRun files').walkable ∧
    (discoverLoop isTestRun files).packages ~ (discoverLoop isTestRun files').packages ∧
    ∀ graph, selectAsts graph (discoverLoop isTestRun files) = selectAsts graph (discoverLoop isTestRun files') := by
  rw [C15.discoverLoop_eq, C15.discoverLoop_eq]
  have h1 := h.filter fun f => !C15.skipped isTestRun f && !isInitFile f
  have h2 := (h.filter fun f => !C15.skipped isTestRun f && isInitFile f).map List.dropLast
  exact ⟨h1, h2, fun graph => selectAsts_sets graph (fun _ => h1.mem_iff) (fun _ => h2.mem_iff)⟩

/-- `discover` raises for one enumeration order iff it raises for the other -/
theorem discover_enumeration_order (isTestRun : Bool) {files files' : List PathParts} (h : files ~ files') :
    (∃ e, discover files isTestRun = .error e ∧ discover files' isTestRun = .error e) ∨
    (∃ d d', discover files isTestRun = .ok d ∧ discover files' isTestRun = .ok d' ∧
        d.walkable ~ d'.walkable ∧ d.packages ~ d'.packages) := by
  obtain ⟨h1, h2, _⟩ := discovery_enumeration_order isTestRun h
  unfold discover
  by_cases he : (discoverLoop isTestRun files).walkable = []
  · have he' : (discoverLoop isTestRun files').walkable = [] := by rw [he] at h1; exact h1.nil_eq.symm
    left
    exact ⟨.valueError, by simp [he], by simp [he']⟩
  · have he' : ¬ (discoverLoop isTestRun files').walkable = [] := fun e => he (by rw [e] at h1; exact h1.eq_nil)
    right
    exact ⟨_, _, by simp [he], by simp [he'], h1, h2⟩

/-- the same for `get_api`'s whole discovery step, including the replacement of the root by the unique
    topmost package directory (`_get_nearest_init_dirs`): same root, same error, permuted lists -/
theorem discoverFrom_enumeration_order (root : PathParts) (isTestRun : Bool) {files files' : List PathParts}
    (h : files ~ files') :
    (∃ e, discoverFrom root files isTestRun = .error e ∧ discoverFrom root files' isTestRun = .error e) ∨
    (∃ r d d', discoverFrom root files isTestRun = .ok (r, d) ∧ discoverFrom root files' isTestRun = .ok (r, d') ∧
        d.walkable ~ d'.walkable ∧ d.packages ~ d'.packages) := by
  unfold discoverFrom
  rw [← p08_adjustRoot_perm root h]
  have hf : filesUnder (adjustRoot root files) files ~ filesUnder (adjustRoot root files) files' := h.filter _
  rcases discover_enumeration_order isTestRun hf with ⟨e, h1, h2⟩ | ⟨d, d', h1, h2, h3, h4⟩
  · left; exact ⟨e, by simp only [h1], by simp only [h2]⟩
  · right; exact ⟨adjustRoot root files, d, d', by simp only [h1], by simp only [h2], h3, h4⟩

/-! ### 8. the former scope exclusions are theorems now

After the repairs (`for alias_qname in sorted(qnames)`; the inferred types collected in an
insertion-ordered dict; `elements.sort(key=lambda x: (x.name, x.id))`) no order of a Python `set` is
left that reaches the output.  The situations that used to be excluded (`FindAliasTie`,
`FindAliasNoHit`, `InferTie`) are kept as definitions: they describe inputs on which the result is now
DETERMINED by a rule (first hit in sorted order / last name in sorted order / source order), and the
examples below are positive. -/

/-- the alias table with every candidate list permuted (`dict[str, set[str]]`: same keys, the
    iteration order of each value set is free) -/
abbrev AliasesPerm := p08_AliasesPerm

/-- The loop `for alias_qname in sorted(qnames)`: whatever the loop body and the start value, the
    result is the same for every iteration order of the candidate set. -/
theorem findAlias_loop_perm {β : Type} (step : β → String → β) (init : β) {qs qs' : List String}
    (h : qs ~ qs') : (sortStrings qs).foldl step init = (sortStrings qs').foldl step init := by
  rw [p08_sortStrings_perm h]

/-- `_find_alias` gives the same answer for every iteration order of `aliases[typeName]` — with NO
    side condition, and for EVERY known qualified name `k` the caller passes (`known_qname`; the
    default `""` gives the three-argument statement).  (A single candidate is returned directly; a
    permutation of a singleton is the same singleton and permutations keep the length, so both sides
    take the same branch; with a non-empty `known_qname` the candidates are not consulted at all, so
    the invariance is trivial in that branch.) -/
theorem findAlias_perm (env env' : AEnv) (s : VSt) (typeName : String) {qs qs' : List String}
    (h1 : assocGet? env.aliases typeName = some qs) (h2 : assocGet? env'.aliases typeName = some qs')
    (h : qs ~ qs') (k : String := "") :
    findAlias env s typeName k = findAlias env' s typeName k :=
  p08_findAlias_perm env env' s typeName h1 h2 h k

/-- … and for two environments whose alias tables differ by the iteration order of every candidate
    set, for every looked-up name (`findAlias` reads nothing else of the environment). -/
theorem findAlias_perm_all (env env' : AEnv) (s : VSt) (typeName : String)
    (h : AliasesPerm env.aliases env'.aliases) (k : String := "") :
    findAlias env s typeName k = findAlias env' s typeName k := by
  rcases assocGet?_forall₂ h typeName with ⟨h1, h2⟩ | ⟨qs, qs', h1, h2, hp⟩
  · rw [p08_findAlias_eq, p08_findAlias_eq, h1, h2]
  · exact findAlias_perm env env' s typeName h1 h2 hp k

/-- The known qualified name wins.  If the name has no hit in the qualified imports of the current
    module and the qualified name `k` the caller already knows (`enterClassdef`: the superclass's full
    name, when mypy resolved it to a class definition) is not empty, then `_find_alias` returns `k`
    (with its last dotted component as the name) — whatever `aliases[typeName]` is: neither the
    candidates nor the sorted loop with its substring heuristic are consulted. -/
theorem findAlias_known (env : AEnv) (s : VSt) (typeName k : String) {m : Module}
    (hm : bottomModule s = some m)
    (himp : ((searchAliasInImports m.qualifiedImports typeName).1 != "" &&
      (searchAliasInImports m.qualifiedImports typeName).2 != "") = false)
    (hk : k ≠ "") :
    findAlias env s typeName k = .ok (lastD "" (splitDot k), k) := by
  rw [p08_findAlias_eq, hm]
  have hk' : (k != "") = true := by simpa using hk
  simp only [himp, Bool.false_eq_true, if_false, hk', if_true]
  rfl

/-- (i) FORMERLY EXCLUDED, now decided by the sorted order: the name is defined in several modules
    (`aliases[name]` has ≥ 2 qualified names) and more than one of them has a module path that
    contains the current module's full name as a substring.  The loop `break`s at the first hit in
    SORTED order. -/
def FindAliasTie (env : AEnv) (s : VSt) (typeName : String) : Prop :=
  ∃ qs, assocGet? env.aliases typeName = some qs ∧
    2 ≤ (qs.filter fun aq => pyIn s.fileFullname (joinWith "." (dropLast' (splitDot aq)))).length

/-- (i') FORMERLY EXCLUDED, now decided by the sorted order: none of the candidates matches and
    they do not all end in the same name: the loop leaves the name of the LAST candidate in SORTED
    order (with the qualified name found before the loop). -/
def FindAliasNoHit (env : AEnv) (s : VSt) (typeName : String) : Prop :=
  ∃ qs, assocGet? env.aliases typeName = some qs ∧ 2 ≤ qs.length ∧
    (qs.all fun aq => !pyIn s.fileFullname (joinWith "." (dropLast' (splitDot aq)))) ∧
    ∃ a ∈ qs, ∃ b ∈ qs, lastD "" (splitDot a) ≠ lastD "" (splitDot b)

/-- (ii) NO LONGER AN EXCLUSION — order = source order.  `_infer_type_from_return_stmts` sorts the
    inferred types by a key (the name of a named type, the length of a tuple) that does not separate
    all types; the sort is stable, so types with equal keys keep the order in which they were
    collected.  The Python code now collects them in an insertion-ordered dict, i.e. in the order of
    their first occurrence in the SOURCE TEXT — exactly what the model's `inferFromReturns` computes
    (first-occurrence order, then a stable sort by `inferSortKey`).  The member order of the result
    is therefore a function of the source, and no `set` order is involved.  `InferTie` only describes
    when the stable sort leaves something to the source order. -/
def InferTie (types : List AType) : Prop :=
  ∃ a ∈ types, ∃ b ∈ types, a.pyEq b = false ∧ inferSortKey a = inferSortKey b

/-- The scope condition of C08 on the model side is EMPTY: no exclusion is left.  (Formerly: no
    `FindAliasTie`/`FindAliasNoHit` for any alias lookup and no `InferTie` for any inferred return
    set.  `findAlias_perm` needs no hypothesis any more, and the order of the inferred types is the
    source order, which is part of the input.)  Kept, with its old signature, so that statements
    mentioning the scope stay well-formed. -/
def NoTies (_env : AEnv) (_s : VSt) (_typeNames : List String) (_inferred : List (List AType)) : Prop := True

theorem noTies_trivial (env : AEnv) (s : VSt) (typeNames : List String) (inferred : List (List AType)) :
    NoTies env s typeNames inferred := trivial

/-- the old statement, kept: its two tie hypotheses are not needed any more (see `findAlias_perm`) -/
theorem findAlias_noTies (env env' : AEnv) (s : VSt) (typeName : String) {qs qs' : List String}
    (h1 : assocGet? env.aliases typeName = some qs) (h2 : assocGet? env'.aliases typeName = some qs')
    (h : qs ~ qs') (_hTie : ¬ FindAliasTie env s typeName) (_hNoHit : ¬ FindAliasNoHit env s typeName)
    (k : String := "") :
    findAlias env s typeName k = findAlias env' s typeName k :=
  findAlias_perm env env' s typeName h1 h2 h k

/-- The sort step alone, as a statement about an arbitrary enumeration of a SET of types (pairwise
    different) without two members of equal sort key: every enumeration gives the same list.  (In the
    model and in the repaired Python code the input of the sort is not a set but the source-ordered
    list, so this is no longer needed for determinism; it says when the result does not even depend on
    the order of the `return` statements.) -/
theorem inferSort_noTies {types types' : List AType}
    (hset : types.Pairwise (fun a b => a.pyEq b = false)) (hno : ¬ InferTie types) (h : types ~ types') :
    sortBy (fun a b => strLe (inferSortKey a) (inferSortKey b)) types
      = sortBy (fun a b => strLe (inferSortKey a) (inferSortKey b)) types' := by
  apply p08_sortBy_key_perm inferSortKey _ h
  intro a ha b hb e
  rcases p08_pairwise_cases hset ha hb with h1 | h1 | h1
  · exact h1
  · exact absurd ⟨a, ha, b, hb, h1, e⟩ hno
  · exact absurd ⟨b, hb, a, ha, h1, e.symm⟩ hno

/-- The re-exported elements of one module are sorted by `(name, id)`
    (`elements.sort(key=lambda x: (x.name, x.id))`, `nodeLe`): as soon as `(name, id)` identifies an
    element, the sorted list is the same for every order in which the elements were queued. -/
theorem reexport_elements_order {l l' : List Node} (h : l ~ l')
    (hinj : ∀ a ∈ l, ∀ b ∈ l, a.name = b.name → a.id = b.id → a = b) :
    sortBy nodeLe l = sortBy nodeLe l' :=
  p08_sortBy_key_inj p08_nodeKey nodeLe p08_pairLe p08_nodeLe_key p08_pairLe_total p08_pairLe_trans
    p08_pairLe_antisymm (fun a ha b hb e => hinj a ha b hb (congrArg Prod.fst e) (congrArg Prod.snd e)) h

/-- without the hypothesis: the sequence of `(name, id)` pairs of the sorted list is determined -/
theorem reexport_elements_order_key {l l' : List Node} (h : l ~ l') :
    (sortBy nodeLe l).map (fun n => (n.name, n.id)) = (sortBy nodeLe l').map (fun n => (n.name, n.id)) :=
  p08_sortBy_map_key p08_nodeKey nodeLe p08_pairLe p08_nodeLe_key p08_pairLe_total p08_pairLe_trans
    p08_pairLe_antisymm h

/-- consequence for `create_reexport_module_strings`: the whole computation (stubs, final state,
    error) for a re-export module is the same for both orders of its element list -/
theorem reexport_modules_order (env : Env) (moduleId : String) {l l' : List Node}
    (rest : List (String × List Node)) (h : l ~ l')
    (hinj : ∀ a ∈ l, ∀ b ∈ l, a.name = b.name → a.id = b.id → a = b) :
    createReexportModules env ((moduleId, l) :: rest) = createReexportModules env ((moduleId, l') :: rest) := by
  rw [createReexportModules, createReexportModules, reexport_elements_order h hinj]

def exVSt : VSt :=
  { doc := { root := { name := "pkg" }, style := .numpy },
    stack := [.module { id := "pkg/mod", name := "mod" }], fileFullname := "pkg.mod", fileName := "mod" }

def exEnv (qs : List String) : AEnv := { opts := {}, aliases := [("T", qs)], infoBases := [] }

/-- (i) two iteration orders of `aliases["T"]`, both candidates match: ONE answer, the first in sorted order -/
example :
    findAlias (exEnv ["pkg.mod.a.T", "pkg.mod.b.T"]) exVSt "T" = .ok ("T", "pkg.mod.a.T") ∧
    findAlias (exEnv ["pkg.mod.b.T", "pkg.mod.a.T"]) exVSt "T" = .ok ("T", "pkg.mod.a.T") := by
  decide +kernel

/-- the situation is the formerly excluded one, in both orders -/
example : FindAliasTie (exEnv ["pkg.mod.a.T", "pkg.mod.b.T"]) exVSt "T" ∧
    FindAliasTie (exEnv ["pkg.mod.b.T", "pkg.mod.a.T"]) exVSt "T" :=
  ⟨⟨_, rfl, by decide +kernel⟩, ⟨_, rfl, by decide +kernel⟩⟩

/-- … and the theorem applies to it -/
example : findAlias (exEnv ["pkg.mod.a.T", "pkg.mod.b.T"]) exVSt "T" = findAlias (exEnv ["pkg.mod.b.T", "pkg.mod.a.T"]) exVSt "T" :=
  findAlias_perm _ _ exVSt "T" rfl rfl (List.Perm.swap _ _ _)

/-- (i') no candidate matches: ONE answer, the last one in sorted order names the result -/
example :
    findAlias (exEnv ["x.a.T", "y.b.U"]) exVSt "T" = .ok ("U", "") ∧
    findAlias (exEnv ["y.b.U", "x.a.T"]) exVSt "T" = .ok ("U", "") := by
  decide +kernel

example : FindAliasNoHit (exEnv ["x.a.T", "y.b.U"]) exVSt "T" ∧ FindAliasNoHit (exEnv ["y.b.U", "x.a.T"]) exVSt "T" :=
  ⟨⟨_, rfl, by decide +kernel, by decide +kernel, "x.a.T", by decide +kernel, "y.b.U", by decide +kernel, by decide +kernel⟩,
   ⟨_, rfl, by decide +kernel, by decide +kernel, "x.a.T", by decide +kernel, "y.b.U", by decide +kernel, by decide +kernel⟩⟩

example : findAlias (exEnv ["x.a.T", "y.b.U"]) exVSt "T" = findAlias (exEnv ["y.b.U", "x.a.T"]) exVSt "T" :=
  findAlias_perm_all (exEnv ["x.a.T", "y.b.U"]) (exEnv ["y.b.U", "x.a.T"]) exVSt "T"
    (List.Forall₂.cons ⟨rfl, List.Perm.swap _ _ _⟩ List.Forall₂.nil)

/-- the special case of a single candidate: returned as it is, whether or not it matches -/
example : findAlias (exEnv ["x.a.T"]) exVSt "T" = .ok ("T", "x.a.T") := by decide +kernel

def exVStM : VSt :=
  { doc := { root := { name := "pkg" }, style := .numpy },
    stack := [.module { id := "pkg/m", name := "m" }], fileFullname := "pkg.m", fileName := "m" }

def exEnvTable (qs : List String) : AEnv := { opts := {}, aliases := [("Table", qs)], infoBases := [] }

/-- the known qualified name wins: both candidates contain the module name `pkg.m`; with the known
    name `pkg.m.Table` (what mypy resolved) the answer is that one, in both iteration orders, whereas
    with the default `""` the sorted loop stops at `pkg.m.A.Table` (`'A' < 'T'`) -/
example :
    findAlias (exEnvTable ["pkg.m.A.Table", "pkg.m.Table"]) exVStM "Table" "pkg.m.Table" = .ok ("Table", "pkg.m.Table") ∧
    findAlias (exEnvTable ["pkg.m.Table", "pkg.m.A.Table"]) exVStM "Table" "pkg.m.Table" = .ok ("Table", "pkg.m.Table") ∧
    findAlias (exEnvTable ["pkg.m.A.Table", "pkg.m.Table"]) exVStM "Table" = .ok ("Table", "pkg.m.A.Table") ∧
    findAlias (exEnvTable ["pkg.m.Table", "pkg.m.A.Table"]) exVStM "Table" = .ok ("Table", "pkg.m.A.Table") := by
  decide +kernel

/-- … the same by the theorem (its hypotheses hold here) -/
example : findAlias (exEnvTable ["pkg.m.A.Table", "pkg.m.Table"]) exVStM "Table" "pkg.m.Table" = .ok ("Table", "pkg.m.Table") :=
  findAlias_known _ exVStM "Table" "pkg.m.Table" (m := { id := "pkg/m", name := "m" }) rfl (by decide +kernel)
    (by decide)

/-- ONLY the nested class is a candidate (the module-level `Table` is not in the alias table): the
    known name `pkg.m.Table` is returned all the same; with the default `""` the single candidate is -/
example :
    findAlias (exEnvTable ["pkg.m.A.Table"]) exVStM "Table" "pkg.m.Table" = .ok ("Table", "pkg.m.Table") ∧
    findAlias (exEnvTable ["pkg.m.A.Table"]) exVStM "Table" = .ok ("Table", "pkg.m.A.Table") := by
  decide +kernel

/-- … and the permutation theorem with a known name -/
example : findAlias (exEnvTable ["pkg.m.A.Table", "pkg.m.Table"]) exVStM "Table" "pkg.m.Table" =
    findAlias (exEnvTable ["pkg.m.Table", "pkg.m.A.Table"]) exVStM "Table" "pkg.m.Table" :=
  findAlias_perm _ _ exVStM "Table" rfl rfl (List.Perm.swap _ _ _) "pkg.m.Table"

/-- a known name that is NOT among the candidates is returned as well (the candidates are not consulted) -/
example : findAlias (exEnvTable ["pkg.m.A.Table", "pkg.m.Table"]) exVStM "Table" "other.Table" = .ok ("Table", "other.Table") := by
  decide +kernel

def exTupInt : Expr := .tuple [.int 1, .int 2]
def exTupStr : Expr := .tuple [.str "a", .str "b"]

/-- what is observed: the members of the inferred result, as structural equality with an expected list
    (`TupleType.__eq__`/`__hash__` are order-insensitive, so `pyEq`/`hashKey` cannot see the member order;
    `to_dict` — the API JSON — does) -/
def inferIs (r : Except PyErr (Option AType)) (expected : List AType) : Bool :=
  match r with
  | .ok (some (.tuple ts)) => AType.beqL ts expected
  | _ => false

def exTInt : AType := .tuple [.named "int" "builtins.int", .named "int" "builtins.int"]
def exTStr : AType := .tuple [.named "str" "builtins.str", .named "str" "builtins.str"]

/-- (ii) order = source order: two tuples of the same length keep the order of their `return`
    statements (the sort is stable); swapping the statements in the SOURCE swaps the members — a
    different input, not a non-determinism -/
example :
    inferIs (inferFromReturns [.ret (some exTupInt), .ret (some exTupStr)]) [exTInt, exTStr] = true ∧
    inferIs (inferFromReturns [.ret (some exTupStr), .ret (some exTupInt)]) [exTStr, exTInt] = true ∧
    AType.beqL [exTInt, exTStr] [exTStr, exTInt] = false := by
  decide +kernel

example : InferTie [exTInt, exTStr] :=
  ⟨_, List.mem_cons_self, _, List.mem_cons_of_mem _ List.mem_cons_self, by decide +kernel, by decide +kernel⟩

def exFn (id name : String) : Node := .fn { id := id, name := name, isPublic := true }

/-- re-exported elements: same name from two modules — the id decides, whatever the queue order;
    the raw lists differ -/
example :
    [exFn "pkg/b/f" "f", exFn "pkg/a/f" "f", exFn "pkg/a/e" "e"].map Node.id ≠
      [exFn "pkg/a/e" "e", exFn "pkg/a/f" "f", exFn "pkg/b/f" "f"].map Node.id ∧
    (sortBy nodeLe [exFn "pkg/b/f" "f", exFn "pkg/a/f" "f", exFn "pkg/a/e" "e"]).map Node.id = ["pkg/a/e", "pkg/a/f", "pkg/b/f"] ∧
    (sortBy nodeLe [exFn "pkg/a/f" "f", exFn "pkg/a/e" "e", exFn "pkg/b/f" "f"]).map Node.id = ["pkg/a/e", "pkg/a/f", "pkg/b/f"] := by
  decide +kernel

/-- the hypothesis of `reexport_elements_order` is needed: two different nodes with one `(name, id)`
    keep their queue order (stable sort) -/
example :
    let a : Node := .fn { id := "p/f", name := "f", isPublic := true }
    let b : Node := .fn { id := "p/f", name := "f", isPublic := false }
    (sortBy nodeLe [a, b]).map (fun n => match n with | .fn f => f.isPublic | _ => false) = [true, false] ∧
    (sortBy nodeLe [b, a]).map (fun n => match n with | .fn f => f.isPublic | _ => false) = [false, true] := by
  decide +kernel

/-! ### 9. non-vacuity -/

def exA : ModRef := { id := "pkg/a", qualifiedImports := [⟨"pkg.mod.f", none⟩] }
def exB : ModRef := { id := "pkg/b", qualifiedImports := [⟨"pkg.mod.f", some "g"⟩] }
def exC : ModRef := { id := "pkg/sub/c", wildcardImports := ["pkg.mod"] }

def exRm1 : List (String × List ModRef) := [("pkg.mod.f", [exB, exA]), ("pkg.mod.*", [exC])]
def exRm2 : List (String × List ModRef) := [("pkg.mod.*", [exC]), ("pkg.mod.f", [exA, exB])]

theorem exRm_perm : RmPerm exRm1 exRm2 :=
  ⟨[("pkg.mod.f", [exA, exB]), ("pkg.mod.*", [exC])],
    List.Forall₂.cons ⟨rfl, List.Perm.swap _ _ _⟩ (List.Forall₂.cons ⟨rfl, Perm.refl _⟩ List.Forall₂.nil),
    List.Perm.swap _ _ _⟩

/-- item 2: a tie between `pkg/a` and `pkg/b` (two segments each; `pkg/sub/c` is longer): the sorted
    order decides, whatever the set order — and the two maps really differ -/
example :
    exRm1 ≠ exRm2 ∧
    shortestPublicReexport exRm1 "f" "pkg.mod.f" false = ("pkg.a", "") ∧
    shortestPublicReexport exRm2 "f" "pkg.mod.f" false = ("pkg.a", "") := by
  decide +kernel

example : shortestPublicReexport exRm1 "f" "pkg.mod.f" false = shortestPublicReexport exRm2 "f" "pkg.mod.f" false :=
  shortestPublicReexport_perm exRm_perm _ _ _

def exS (rm : List (String × List ModRef)) : VSt :=
  { doc := { root := { name := "pkg" }, style := .numpy }, api := { reexportMap := rm } }

/-- item 5: the raw lists differ, the sorted ones agree -/
example :
    getReexportedBy (exS exRm1) "pkg.mod.f" ≠ getReexportedBy (exS [("pkg.mod.f", [exA, exB]), ("pkg.mod.*", [exC])]) "pkg.mod.f" ∧
    sortModRefs (getReexportedBy (exS exRm1) "pkg.mod.f") = [exA, exB, exC] ∧
    sortModRefs (getReexportedBy (exS [("pkg.mod.f", [exA, exB]), ("pkg.mod.*", [exC])]) "pkg.mod.f") = [exA, exB, exC] := by
  decide +kernel

example : RmWf exRm1 := ⟨by decide +kernel, by decide +kernel⟩

/-- item 6 on a concrete pair of `__init__` modules that share a key -/
example :
    let m1 : Module := { id := "p/a", name := "__init__", qualifiedImports := [⟨"p.x.f", none⟩] }
    let m2 : Module := { id := "p/b", name := "__init__", qualifiedImports := [⟨"p.x.f", some "g"⟩] }
    (addReexports (addReexports {} m1) m2).reexportMap = [("p.x.f", [m1.ref, m2.ref])] ∧
    (addReexports (addReexports {} m2) m1).reexportMap = [("p.x.f", [m2.ref, m1.ref])] := by
  decide +kernel

end StubGen.C08
