/-
C01 — whole-tool part: where `_run_stub_generator` can fail.
-/
import StubGen.Proofs.Pipeline
import StubGen.Proofs.ToolErrors
import StubGen.Theorems.C01
import StubGen.Theorems.C01a

namespace StubGen.C01b

open StubGen

/-- END TO END: an error of the whole run is the documented "No files found to analyse." rejection of the discovery, or
    an error of the walk, of the JSON serialisation, or of the stub generator on the API the walk produced.  The alias
    collection (`_get_aliases`) contributes none: it is a total function (after the repair c9b80ef; before it, a
    function reached through its module object raised `TypeError` there). -/
theorem tool_error_sources {i : ToolInput} {e : PyErr} (h : runTool i = .error e) :
    discoverSorted i.srcDir i.files i.isTestRun = .error e ∨
    ∃ root d, discoverSorted i.srcDir i.files i.isTestRun = .ok (root, d) ∧
      (analyze { opts := i.opts, aliases := getAliases (pathStem root) i.aliasFacts, infoBases := i.infoBases } i.docRoot
          (selectModules i.graph d) = .error e ∨
       ∃ r ws, analyze { opts := i.opts, aliases := getAliases (pathStem root) i.aliasFacts, infoBases := i.infoBases } i.docRoot
          (selectModules i.graph d) = .ok (r, ws) ∧
         (apiJsonText (pathStem root) r = .error e ∨ runGenerator (r.toApi (pathStem root)) i.safe i.preexisting = .error e)) := by
  rcases pl_runTool_error h with h | ⟨a, ha, h⟩
  · rcases pl_getApi_error.1 h with h | ⟨root, d, hd, h⟩
    · exact Or.inl h
    · exact Or.inr ⟨root, d, hd, Or.inl h⟩
  · obtain ⟨root, d, r, ws, hd, han, rfl⟩ := pl_getApi_ok.1 ha
    exact Or.inr ⟨root, d, hd, Or.inr ⟨r, ws, han, h⟩⟩

/-- END TO END (the generator half of totality lifted to the whole run): if the discovery keeps a module file, the walk
    completes, the API serialises, and the API the walk produced lies in the decidable scope `Spec.Scope01` (every reached
    type renderable and importable, every reached private superclass resolvable, nesting within the fuel), then the whole
    run completes: the API file and every stub are written, whatever files are already in the output directory. -/
theorem tool_completes (i : ToolInput) (root : PathParts) (d : Discovered) (r : AnaResult) (ws : List String) (text : String)
    (hd : discoverSorted i.srcDir i.files i.isTestRun = .ok (root, d))
    (ha : analyze { opts := i.opts, aliases := getAliases (pathStem root) i.aliasFacts, infoBases := i.infoBases } i.docRoot
            (selectModules i.graph d) = .ok (r, ws))
    (ht : apiJsonText (pathStem root) r = .ok text)
    (hs : Spec.Scope01 (r.toApi (pathStem root)) = true) :
    ∃ o, runTool i = .ok o ∧ o.api = r ∧ o.apiFileText = text := by
  obtain ⟨gen, hg⟩ := C01.generator_total (r.toApi (pathStem root)) i.safe i.preexisting hs
  exact ⟨_, pl_runTool_of_stages hd ha ht hg, rfl, rfl⟩

/-- … and when a run fails although discovery, walk and serialisation succeeded, the error is one of the generator's
    (`ValueError`, `IndexError`, `LookupError`, fuel): never a `KeyError`, `TypeError`, `AttributeError`, `AssertionError` -/
theorem tool_generator_errors (i : ToolInput) (root : PathParts) (d : Discovered) (r : AnaResult) (ws : List String) (text : String)
    (e : PyErr)
    (hd : discoverSorted i.srcDir i.files i.isTestRun = .ok (root, d))
    (ha : analyze { opts := i.opts, aliases := getAliases (pathStem root) i.aliasFacts, infoBases := i.infoBases } i.docRoot
            (selectModules i.graph d) = .ok (r, ws))
    (ht : apiJsonText (pathStem root) r = .ok text)
    (h : runTool i = .error e) :
    e ∈ [PyErr.valueError, .indexError, .lookupError, .unsupported] := by
  rcases tool_error_sources h with h1 | ⟨_, _, hd', h2 | ⟨_, _, ha', h3⟩⟩
  · rw [hd] at h1; cases h1
  · rw [hd] at hd'; cases hd'
    rw [ha] at h2; cases h2
  · rw [hd] at hd'; cases hd'
    rw [ha] at ha'; cases ha'
    rcases h3 with h3 | h3
    · rw [ht] at h3; cases h3
    · exact C01.never_keyError _ _ _ _ h3

/-- the serialisation step fails only with the `TypeError` of `json.dump` on a docstring record that holds an enum type -/
theorem api_file_error_is_typeError (pkg : String) (r : AnaResult) (e : PyErr) (h : apiJsonText pkg r = .error e) :
    e = .typeError := by
  have h1 := te_mapExcept_err Attribute.toJ te_Attribute_toJ_err (sortedById (·.id) r.attributes) e
  have h2 := te_mapExcept_err Parameter.toJ te_Parameter_toJ_err (sortedById (·.id) r.parameters) e
  simp only [apiJsonText, AnaResult.toJ, bind, Except.bind, pure, Except.pure] at h
  grind

/-- END TO END: THE WHOLE RUN NEVER ENDS IN AN `AssertionError` — none of the consistency guards of the visitor, of the
    walker or of the generator can fire, for every directory listing, mypy graph, expression-type dict, docstring tree, option
    set and state of the output directory.  (`sd_noNoneL`: no definition is the stand-in for an `OverloadedFuncDef` without
    items, which mypy does not build.) -/
theorem tool_never_asserts (i : ToolInput) (hn : ∀ m ∈ i.graph, sd_noNoneL m.defs = true) :
    runTool i ≠ .error .assertionError := by
  intro h
  have hg := C01a.get_api_never_asserts i hn
  rcases tool_error_sources h with hd | ⟨root, d, hd, ha | ⟨r, ws, ha, ht | hgen⟩⟩
  · exact hg (pl_getApi_error.2 (Or.inl hd))
  · exact hg (pl_getApi_error.2 (Or.inr ⟨root, d, hd, ha⟩))
  · -- API file
    have := api_file_error_is_typeError _ _ _ ht
    cases this
  · -- generator
    have := C01.never_keyError _ _ _ _ hgen
    simp at this

/-- the only error of the discovery phase is the documented rejection (`ValueError("No files found to analyse.")`), and it
    is raised exactly when no module file is kept -/
theorem discovery_error_is_no_files (root : PathParts) (files : List PathParts) (b : Bool) (e : PyErr)
    (h : discoverFrom root files b = .error e) :
    e = .valueError ∧ (discoverLoop b (filesUnder (adjustRoot root files) files)).walkable = [] := by
  unfold discoverFrom discover at h
  by_cases hw : (discoverLoop b (filesUnder (adjustRoot root files) files)).walkable.isEmpty = true
  · simp only [hw, if_true, Except.error.injEq] at h
    exact ⟨h.symm, List.isEmpty_iff.mp hw⟩
  · simp [hw] at h

/-- every entry of mypy's expression-type dict is processed without an exception: one of the two outcomes -/
theorem alias_step_total (pkg : String) (f : AliasFact) :
    aliasStep pkg f = .skip ∨ ∃ n t, aliasStep pkg f = .add n t := by
  cases h : aliasStep pkg f with
  | skip => exact Or.inl rfl
  | add n t => exact Or.inr ⟨n, t, rfl⟩

/-- the input that aborted the run before the repair: `utils.helper` — a `MemberExpr` of the package whose type is an
    unbound callable — is skipped -/
example : aliasStep "pkg" { kind := .memberExpr, name := "helper", fullname := "pkg.utils.helper", val := .callable "" } = .skip := by
  decide +kernel

/-- … as is a module member of union / `None` / tuple type -/
example : aliasStep "pkg" { kind := .memberExpr, name := "LIMIT", fullname := "pkg.utils.LIMIT", val := .other } = .skip := by
  decide +kernel

end StubGen.C01b
