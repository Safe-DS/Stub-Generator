/-
C09 — naming conversion renames consistently and keeps Python names recoverable.
Property theorems about `_convert_name_to_convention` / `_replace_if_safeds_keyword` /
the "annotation iff the rendered name differs" rule used at every emission site.
Helper lemmas are in `Proofs/Naming.lean`.
-/
import StubGen.Proofs.Naming

namespace StubGen.C09

/-- flag off: every identifier is emitted verbatim -/
theorem convert_off (n : String) (c : Bool) : convertName n false c = n := by
  simp [convertName]

/-- flag on: the rendered name contains no underscore (the lone `_` is kept as it is) -/
theorem convert_on_no_underscore (n : String) (c : Bool) (h : n ≠ "_") :
    '_' ∉ (convertName n true c).toList := by
  have h' : n.toList ≠ ['_'] := by
    intro e; apply h; rw [← String.ofList_toList (s := n), e]
  simp only [convertName, h, decide_false, Bool.not_true, Bool.or_self, Bool.false_eq_true, if_false,
    String.toList_ofList]
  exact convertChars_no_underscore _ _ h'

/-- flag on: exactly the non-underscore characters survive, in order, up to ASCII case -/
theorem convert_on_letters (n : String) (c : Bool) (h : n ≠ "_") :
    (convertName n true c).toList.map Char.toLower = (n.toList.filter (· ≠ '_')).map Char.toLower := by
  have h' : n.toList ≠ ['_'] := by
    intro e; apply h; rw [← String.ofList_toList (s := n), e]
  simp only [convertName, h, decide_false, Bool.not_true, Bool.or_self, Bool.false_eq_true, if_false,
    String.toList_ofList]
  exact convertChars_letters _ _ h'

/-- flag on: a convertible name (identifier characters, a letter after the leading underscores)
    becomes a legal Safe-DS identifier -/
theorem convert_on_legal (n : String) (c : Bool) (h : Convertible n.toList = true) :
    isIdent (convertName n true c).toList = true := by
  have hn : n ≠ "_" := by
    intro e; subst e; revert h; decide
  simp only [convertName, hn, decide_false, Bool.not_true, Bool.or_self, Bool.false_eq_true, if_false,
    String.toList_ofList]
  exact convertChars_ident _ _ h

/-- converting twice changes nothing (a converted name is its own rendering) -/
theorem convert_idempotent (n : String) (s c : Bool) :
    convertName (convertName n s c) s c = convertName n s c := by
  cases s with
  | false => simp [convertName]
  | true =>
    by_cases h : n = "_"
    · subst h; simp [convertName]
    · have h1 : convertName n true c = String.ofList (convertChars n.toList c) := by
        simp [convertName, h]
      rw [h1]
      by_cases h2 : String.ofList (convertChars n.toList c) = "_"
      · simp [convertName, h2]
      · simp only [convertName, h2, decide_false, Bool.not_true, Bool.or_self, Bool.false_eq_true, if_false,
          String.toList_ofList, convertChars_idem]

/-- `(annotation?, rendered name)` as emitted at every declaration site of the generator:
    the annotation carries the Python name and is present iff conversion changed it. -/
def emitName (n : String) (safe cls : Bool) : Option String × String :=
  let r := convertName n safe cls
  (if r ≠ n then some n else none, r)

/-- what a reader of the stub recovers as the Python name -/
def recover (e : Option String × String) : String := e.1.getD e.2

theorem annotation_iff_differs (n : String) (s c : Bool) :
    ((emitName n s c).1.isSome ↔ (emitName n s c).2 ≠ n) ∧ ((emitName n s c).1 = some n ∨ (emitName n s c).1 = none) := by
  unfold emitName
  by_cases h : convertName n s c = n <;> simp [h]

/-- the Python name is recoverable under both settings, and the settings agree -/
theorem recover_eq (n : String) (s c : Bool) : recover (emitName n s c) = n := by
  unfold recover emitName
  by_cases h : convertName n s c = n <;> simp [h]

theorem recover_flag_independent (n : String) (c : Bool) :
    recover (emitName n true c) = recover (emitName n false c) := by
  rw [recover_eq, recover_eq]

/-- no annotation at all with the flag off -/
theorem no_annotation_off (n : String) (c : Bool) : (emitName n false c).1 = none := by
  simp [emitName, convert_off]

/-! Non-vacuity: concrete names meeting the hypotheses, and what they render to. -/
example : Convertible "__my_func_name_".toList = true ∧ convertName "__my_func_name_" true false = "myFuncName" := by decide +kernel
example : convertName "my_class" true true = "MyClass" ∧ convertName "HTTPServer_x" true true = "HTTPServerX" := by decide +kernel
example : emitName "my_attr" true false = (some "my_attr", "myAttr") ∧ emitName "attr" true false = (none, "attr") := by decide +kernel
/-- outside `Convertible` the rendering is not an identifier (DESIGN A8): `__` becomes the empty string -/
example : Convertible "__".toList = false ∧ convertName "__" true false = "" ∧ convertName "_1" true false = "1" := by decide +kernel

end StubGen.C09
