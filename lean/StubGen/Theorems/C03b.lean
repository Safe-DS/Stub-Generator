/-
C03 — whole-tool part: the emission log of a complete run of `_run_stub_generator`.
-/
import StubGen.Proofs.Pipeline
import StubGen.Proofs.Files
import StubGen.Theorems.C03

namespace StubGen.C03b

open StubGen

/-- END TO END: the emission log of a completed run of the whole tool is a function of the API the walk produced: the module
    stubs of every analysed module but the `__init__` files, in the order of `api.modules`, each with the log of its public
    declarations (`C03.module_log`), then the re-export stubs of everything queued on the way (`C03.reexport_phase_log`).
    Nothing else is ever emitted, nothing of it is emitted twice by the run itself. -/
theorem tool_emission_log {i : ToolInput} {o : ToolOutput} (h : runTool i = .ok o) :
    let env : Env := { api := o.api.toApi o.packageName, safe := i.safe }
    o.gen.log =
      ((o.api.modules.filter fun m => m.name != "__init__").flatMap fun m => ("module", m.id) :: n03_moduleLog env m.id m)
      ++ n03_reexportPhaseLog env (n03_enqueue []
          ((o.api.modules.filter fun m => m.name != "__init__").flatMap fun m => n03_moduleQueue env m.id m)) := by
  obtain ⟨root, d, r, ws, text, gen, _, _, _, hg, ho⟩ := pl_runTool_ok h
  subst ho
  dsimp only
  obtain ⟨stubs, st, ops, hs, _, rfl⟩ := runGenerator_ok.1 hg
  have := C03.whole_run_log { api := r.toApi (pathStem root), safe := i.safe } {} st stubs hs rfl
  simpa [AnaResult.toApi] using this

end StubGen.C03b
