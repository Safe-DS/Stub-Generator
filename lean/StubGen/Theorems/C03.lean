/-
C03 — "Each public declaration … appears in the generated stub files exactly once …  Nothing public
is dropped and nothing is emitted twice."  GENERATOR side, stated on the ghost emission log `St.log`
(model: `StubGen.Model.Gen`; the log never influences any text).

Reading guide.  `Δlog` = the entries a call appends (`st'.log = st.log ++ Δ`).  For every generator
function `Δlog` is given EXACTLY, as a pure function of the arguments (definitions with prefix `n03_`
in `StubGen.Proofs.Emission`; their defining equations are restated here as `*_eq` theorems).  All
statements hold for all inputs and all generator states; the only hypothesis is that the run
succeeds (`= .ok …`).

Kinds: `module`, `fun`, `moved`, `prop`, `attr`, `class` … `endclass`, `enum`, `restub`.
-/
import StubGen.Proofs.Emission

namespace StubGen.C03

open StubGen

/-! ### 0. the log is append-only -/

theorem append_only_createFunctionString (env : Env) (f : Function) (indent : String) (isMethod inRe : Bool)
    (st st' : St) (t : String) (h : createFunctionString env f indent isMethod inRe st = .ok (t, st')) :
    ∃ Δ, st'.log = st.log ++ Δ :=
  ⟨_, (n03_createFunctionString_tr env f indent isMethod inRe st t st' h).log⟩

theorem append_only_createPropertyFunctionString (env : Env) (f : Function) (indent : String)
    (st st' : St) (t : String) (h : createPropertyFunctionString env f indent st = .ok (t, st')) :
    ∃ Δ, st'.log = st.log ++ Δ :=
  ⟨_, (n03_createPropertyFunctionString_tr env f indent st t st' h).log⟩

theorem append_only_createAttributes (env : Env) (inner : String) (as : List Attribute)
    (st st' : St) (r : List String × List String) (h : createAttributes env inner as st = .ok (r, st')) :
    ∃ Δ, st'.log = st.log ++ Δ :=
  ⟨_, (n03_createAttributes_tr env inner as st r st' h).2.2.log⟩

theorem append_only_createMethods (env : Env) (inner : String) (isInt : Bool) (ad : List String) (ms : List Function)
    (st st' : St) (r : List String × List String × List String)
    (h : createMethods env inner isInt ad ms st = .ok (r, st')) :
    ∃ Δ, st'.log = st.log ++ Δ :=
  ⟨_, (n03_createMethods_tr env inner isInt ad ms st r st' h).2.2.2.log⟩

theorem append_only_createClassString (env : Env) (fuel : Nat) (c : Class) (indent : String) (inRe : Bool)
    (st st' : St) (t : String) (h : createClassString env fuel c indent inRe st = .ok (t, st')) :
    ∃ Δ, st'.log = st.log ++ Δ :=
  ⟨_, (n03_createClassString_tr env fuel c indent inRe st t st' h).log⟩

theorem append_only_createInternalClassString (env : Env) (fuel : Nat) (sc inner : String) (ad : List String)
    (st st' : St) (t : String) (h : createInternalClassString env fuel sc inner ad st = .ok (t, st')) :
    ∃ Δ, st'.log = st.log ++ Δ :=
  ⟨_, ((n03_class_tr env fuel).2 sc inner ad st t st' h).log⟩

theorem append_only_createFunctions (env : Env) (inRe : Bool) (fs : List Function)
    (st st' : St) (t : String) (h : createFunctions env inRe fs st = .ok (t, st')) :
    ∃ Δ, st'.log = st.log ++ Δ :=
  ⟨_, (n03_createFunctions_tr env inRe fs st t st' h).log⟩

theorem append_only_createClasses (env : Env) (inRe : Bool) (cs : List Class)
    (st st' : St) (t : String) (h : createClasses env inRe cs st = .ok (t, st')) :
    ∃ Δ, st'.log = st.log ++ Δ :=
  ⟨_, (n03_createClasses_tr env inRe cs st t st' h).log⟩

theorem append_only_createModuleString (env : Env) (m : Module)
    (st st' : St) (r : String × String) (h : createModuleString env m st = .ok (r, st')) :
    ∃ Δ, st'.log = st.log ++ Δ :=
  ⟨_, (n03_createModuleString_tr env m st r st' h).log⟩

theorem append_only_callGenerator (env : Env) (m : Module)
    (st st' : St) (r : String × String) (h : callGenerator env m st = .ok (r, st')) :
    ∃ Δ, st'.log = st.log ++ Δ :=
  ⟨_, (n03_callGenerator_log env m st r st' h).1⟩

theorem append_only_createReexportModuleStrings (env : Env)
    (st st' : St) (r : List StubData) (h : createReexportModuleStrings env st = .ok (r, st')) :
    ∃ Δ, st'.log = st.log ++ Δ :=
  ⟨_, (n03_createReexportModuleStrings_log env st r st' h).log⟩

/-- the rendering of types, parameters, results, type variables, marker comments and imports leaves the log
    (and the re-export queue and the module ids) untouched -/
theorem quiet_leaves (env : Env) :
    (∀ t, n03_Quiet (typeStr env t)) ∧ (∀ ps indent b, n03_Quiet (createParameterString env ps indent b)) ∧
    (∀ rs, n03_Quiet (createResultString env rs)) ∧ (∀ b tvs, n03_Quiet (typeVarStrings env b tvs)) ∧
    (∀ tps, n03_Quiet (typeParamStrings env tps)) ∧ (∀ indent, n03_Quiet (createTodoMsg indent)) ∧
    (∀ q, n03_Quiet (addToImports env q)) ∧ n03_Quiet (createImportsString env) :=
  ⟨n03_typeStr_quiet env, n03_createParameterString_quiet env, n03_createResultString_quiet env,
    n03_typeVarStrings_quiet env, n03_typeParamStrings_quiet env, n03_createTodoMsg_quiet,
    n03_addToImports_quiet env, n03_createImportsString_quiet env⟩

example {α : Type} (x : G α) : n03_Quiet x ↔ ∀ st a st', x st = .ok (a, st') → n03_Tr st st' [] [] :=
  ⟨fun h => h.run, fun h => ⟨h⟩⟩

/-! ### when does a top-level declaration move to a re-export stub? -/

/-- `hasNodeShorterReexport` answers `true` exactly under `n03_moves`: some re-exporting module has an id
    with fewer `/`-segments than the current module id … -/
theorem moves_iff (cur : String) (rb : List ModRef) :
    n03_moves cur rb = true ↔ ∃ m ∈ rb, (splitSlash m.id).length < (splitSlash cur).length := by
  unfold n03_moves
  rcases n03_shortest_spec cur rb with ⟨h2, _, hall⟩ | ⟨m, hm, h2, h1, hlt, _⟩
  · rw [h2]
    constructor
    · intro h; cases h
    · rintro ⟨m, hm, hlt⟩; exact absurd hlt (hall m hm)
  · rw [h2]
    dsimp only
    rw [h1]
    constructor
    · intro _; exact ⟨m, hm, hlt⟩
    · intro _
      have : m.id ≠ cur := by
        intro he; rw [he] at hlt; exact Nat.lt_irrefl _ hlt
      simpa using this

/-- … and the test is made only outside re-export stubs (`n03_movedB _ false inRe _` is the condition under
    which a top-level function or class is logged as `moved`) -/
theorem movedOut_iff (cur : String) (inRe : Bool) (rb : List ModRef) :
    n03_movedB cur false inRe rb = true ↔
      inRe = false ∧ ∃ m ∈ rb, (splitSlash m.id).length < (splitSlash cur).length := by
  unfold n03_movedB
  rw [Bool.and_eq_true, moves_iff]
  cases inRe <;> simp

theorem hasNodeShorterReexport_result (n : String) (rb : List ModRef) (node : Node) (st st' : St) (b : Bool)
    (h : hasNodeShorterReexport n rb node st = .ok (b, st')) :
    b = n03_moves (getModuleId st) rb ∧
      st' = (let e := n03_queueEntry n node (getModuleId st) rb
             if b then { st with reexports := appendReexport st.reexports e.1 e.2 } else st) :=
  n03_hasNodeShorterReexport_wp n rb node st b st' h

/-! ### 1. the functions of a module -/

/-- one entry per PUBLIC function, in order: `moved` if it is re-exported on a shorter path, else `fun`;
    nothing for a private function.  (`createFunctions` logs no other kinds, so this is all of `Δlog`.) -/
theorem functions_log (env : Env) (inRe : Bool) (fs : List Function) (st st' : St) (text : String)
    (h : createFunctions env inRe fs st = .ok (text, st')) :
    st'.log = st.log ++ (fs.filter (·.isPublic)).map fun f =>
      (if n03_movedB (getModuleId st) false inRe f.reexportedBy then "moved" else "fun", f.id) := by
  rw [← n03_functionsLog_eq_map]
  exact (n03_createFunctions_tr env inRe fs st text st' h).log

/-! ### 2. the classes of a module -/

/-- the exact log: per class that gets a stub (public, not derived from an exception), in order, either
    `moved` or the class block -/
theorem classes_log_exact (env : Env) (inRe : Bool) (cs : List Class) (st st' : St) (text : String)
    (h : createClasses env inRe cs st = .ok (text, st')) :
    st'.log = st.log ++ (cs.filter fun c => c.isPublic && !c.inheritsFromException).flatMap fun c =>
      if n03_movedB (getModuleId st) false inRe c.reexportedBy then [("moved", c.id)]
      else n03_classLog env (classFuel env) c :=
  (n03_createClasses_tr env inRe cs st text st' h).log

/-- the top-level entries (`n03_top 0`: those not nested inside a `class` … `endclass` pair) are exactly one
    `class`/`moved` entry per class with `isPublic ∧ ¬ inheritsFromException`, in order -/
theorem classes_log (env : Env) (inRe : Bool) (cs : List Class) (st st' : St) (text : String)
    (h : createClasses env inRe cs st = .ok (text, st')) :
    ∃ Δ, st'.log = st.log ++ Δ ∧
      n03_top 0 Δ = (cs.filter fun c => c.isPublic && !c.inheritsFromException).map fun c =>
        (if n03_movedB (getModuleId st) false inRe c.reexportedBy then "moved" else "class", c.id) :=
  ⟨_, (n03_createClasses_tr env inRe cs st text st' h).log, n03_top_classesLog env _ inRe cs⟩

/-- the top-level view, defined -/
theorem top_eq (d : Nat) (e : LogEntry) (es : List LogEntry) :
    n03_top d [] = [] ∧
    n03_top d (e :: es) =
      if e.1 = "class" then (if d = 0 then e :: n03_top (d + 1) es else n03_top (d + 1) es)
      else if e.1 = "endclass" then n03_top (d - 1) es
      else if d = 0 then e :: n03_top d es else n03_top d es :=
  ⟨rfl, rfl⟩

/-! ### 3. a module -/

/-- functions part ++ classes part ++ one `enum` entry per enum — EVERY enum, also a private one
    (known finding K04-private-enum, see `C04.private_enum_is_logged`) -/
theorem module_log (env : Env) (m : Module) (st st' : St) (r : String × String)
    (h : createModuleString env m st = .ok (r, st')) :
    st'.log = st.log
      ++ ((m.functions.filter (·.isPublic)).map fun f =>
            (if n03_movedB (getModuleId st) false (n03_modInRe env m) f.reexportedBy then "moved" else "fun", f.id))
      ++ ((m.classes.filter fun c => c.isPublic && !c.inheritsFromException).flatMap fun c =>
            if n03_movedB (getModuleId st) false (n03_modInRe env m) c.reexportedBy then [("moved", c.id)]
            else n03_classLog env (classFuel env) c)
      ++ m.enums.map fun e => ("enum", e.id) := by
  rw [(n03_createModuleString_tr env m st r st' h).log, n03_moduleLog, n03_functionsLog_eq_map]
  simp only [List.append_assoc]
  rfl

/-- `inRe` of a module: the module itself is re-exported by a package `__init__` -/
theorem modInRe_eq (env : Env) (m : Module) :
    n03_modInRe env m = ((shortestPublicReexport env.api.reexportMap m.name "" true).1 != "") := rfl

/-- `callGenerator` logs `module` first and runs the module under its own id (fresh generator:
    `creatingReexport = false`) -/
theorem callGenerator_log (env : Env) (m : Module) (st st' : St) (r : String × String)
    (h : callGenerator env m st = .ok (r, st')) (h0 : st.creatingReexport = false) :
    st'.log = st.log ++ ("module", m.id) :: n03_moduleLog env m.id m := by
  have := (n03_callGenerator_log env m st r st' h).1
  simpa [n03_callCur, h0] using this

/-! ### 4. moved, not copied -/

/-- whenever `("moved", f.id)` is logged for a function, the node is appended to the re-export queue — the
    queue grows by exactly one entry per moved function, in order, and by nothing else -/
theorem moved_functions_queued (env : Env) (inRe : Bool) (fs : List Function) (st st' : St) (text : String)
    (h : createFunctions env inRe fs st = .ok (text, st')) :
    st'.reexports = n03_enqueue st.reexports
      ((fs.filter fun f => f.isPublic && n03_movedB (getModuleId st) false inRe f.reexportedBy).map fun f =>
        n03_queueEntry f.name (.fn f) (getModuleId st) f.reexportedBy) := by
  rw [← n03_functionsQueue_eq_map]
  exact (n03_createFunctions_tr env inRe fs st text st' h).reexports

theorem moved_classes_queued (env : Env) (inRe : Bool) (cs : List Class) (st st' : St) (text : String)
    (h : createClasses env inRe cs st = .ok (text, st')) :
    st'.reexports = n03_enqueue st.reexports
      ((cs.filter fun c => (c.isPublic && !c.inheritsFromException)
          && n03_movedB (getModuleId st) false inRe c.reexportedBy).map fun c =>
        n03_queueEntry c.name (.cls c) (getModuleId st) c.reexportedBy) := by
  have := (n03_createClasses_tr env inRe cs st text st' h).reexports
  rw [n03_classesQueue_eq_map] at this
  exact this

/-- the queue of a module: its moved functions, then its moved classes -/
theorem moved_is_queued (env : Env) (m : Module) (st st' : St) (r : String × String)
    (h : createModuleString env m st = .ok (r, st')) :
    st'.reexports = n03_enqueue st.reexports
      (((m.functions.filter fun f => f.isPublic
            && n03_movedB (getModuleId st) false (n03_modInRe env m) f.reexportedBy).map fun f =>
          n03_queueEntry f.name (.fn f) (getModuleId st) f.reexportedBy)
       ++ ((m.classes.filter fun c => (c.isPublic && !c.inheritsFromException)
            && n03_movedB (getModuleId st) false (n03_modInRe env m) c.reexportedBy).map fun c =>
          n03_queueEntry c.name (.cls c) (getModuleId st) c.reexportedBy)) := by
  have := (n03_createModuleString_tr env m st r st' h).reexports
  rw [n03_moduleQueue, n03_functionsQueue_eq_map, n03_classesQueue_eq_map] at this
  exact this

/-- enqueueing, read through the lookup `createReexportModules` performs: under every module id `k` the
    queued nodes grow by exactly the new entries with key `k` — each exactly once, nothing else changes -/
theorem enqueue_lookup (rs : List (String × List Node)) (R : List (String × Node)) (k : String) :
    n03_queuedAt (n03_enqueue rs R) k = n03_queuedAt rs k ++ (R.filter fun kn => kn.1 == k).map (·.2) := by
  induction R generalizing rs with
  | nil => simp [n03_enqueue]
  | cons kn R ih =>
    have : n03_enqueue rs (kn :: R) = n03_enqueue (appendReexport rs kn.1 kn.2) R := rfl
    rw [this, ih, n03_queuedAt_append]
    by_cases hk : kn.1 = k
    · simp [hk]
    · simp [hk]

theorem enqueue_eq (rs : List (String × List Node)) (R : List (String × Node)) :
    n03_enqueue rs R = R.foldl (fun acc kn => appendReexport acc kn.1 kn.2) rs := rfl

theorem queuedAt_eq (rs : List (String × List Node)) (k : String) :
    n03_queuedAt rs k = match rs.find? (fun kv => kv.1 == k) with
      | some kv => kv.2
      | none => [] := rfl

/-- the key of a moved node is the id of a re-exporting module with the fewest segments (the first such),
    strictly shorter than the current module id; the queued node is the declaration itself, renamed to the
    alias of the re-exporting module's last matching import if that is non-empty -/
theorem queue_key (name : String) (node : Node) (cur : String) (rb : List ModRef) (h : n03_moves cur rb = true) :
    ∃ m ∈ rb, (n03_queueEntry name node cur rb).1 = m.id ∧
      (splitSlash m.id).length < (splitSlash cur).length ∧
      ∀ m' ∈ rb, (splitSlash m.id).length ≤ (splitSlash m'.id).length := by
  rcases n03_shortest_spec cur rb with ⟨h2, _, hall⟩ | ⟨m, hm, h2, h1, hlt, hmin⟩
  · obtain ⟨m, hm, hlt⟩ := (moves_iff cur rb).1 h
    exact absurd hlt (hall m hm)
  · exact ⟨m, hm, h1, hlt, hmin⟩

theorem queue_node (name : String) (node : Node) (cur : String) (rb : List ModRef) :
    (n03_queueEntry name node cur rb).2 = node ∨ ∃ a, a ≠ "" ∧ (n03_queueEntry name node cur rb).2 = node.rename a := by
  unfold n03_queueEntry n03_movedNode
  dsimp only
  split
  · split
    · rename_i a _
      by_cases ha : (a != "") = true
      · rw [if_pos ha]; exact Or.inr ⟨a, by simpa using ha, rfl⟩
      · rw [if_neg ha]; exact Or.inl rfl
    · exact Or.inl rfl
  · exact Or.inl rfl

/-- the re-export phase: per queued module id (queue order), per queued node (sorted by `(name, id)`:
    `nodeLe`, the model of `elements.sort(key=lambda x: (x.name, x.id))`), one `restub`
    entry followed by the node's own `fun` entry / class block — so a moved declaration is emitted exactly
    once, in the re-export stub -/
theorem reexport_phase_log (env : Env) (st st' : St) (r : List StubData)
    (h : createReexportModuleStrings env st = .ok (r, st')) :
    st'.log = st.log ++ st.reexports.flatMap fun kv =>
      (sortBy nodeLe kv.2).flatMap fun el =>
        ("restub", kv.1 ++ "/" ++ el.name) :: n03_nodeLog env el :=
  (n03_createReexportModuleStrings_log env st r st' h).log

/-- the same, for an arbitrary queue (this is the function used in `whole_run_log`) -/
theorem reexportPhaseLog_eq (env : Env) (q : List (String × List Node)) :
    n03_reexportPhaseLog env q = q.flatMap fun kv =>
      (sortBy nodeLe kv.2).flatMap fun el =>
        ("restub", kv.1 ++ "/" ++ el.name) :: n03_nodeLog env el := rfl

/-- `nodeLe` is the lexicographic order on `(name, id)` -/
theorem nodeLe_iff (a b : Node) :
    nodeLe a b = true ↔ a.name < b.name ∨ (a.name = b.name ∧ a.id ≤ b.id) :=
  n03_nodeLe_iff a b

/-- the emitted order is sorted by `(name, id)` -/
theorem reexport_phase_order_sorted (l : List Node) :
    (sortBy nodeLe l).Pairwise (fun x y => nodeLe x y = true) ∧ (sortBy nodeLe l).Perm l :=
  ⟨n03_sortBy_nodeLe_pairwise l, sortBy_perm nodeLe l⟩

/-- the order in which the queued elements of one re-exporting module are emitted does not depend on the
    order in which they were queued, provided their `(name, id)` pairs are pairwise distinct -/
theorem reexport_phase_order_canonical (l l' : List Node) (h : l.Perm l')
    (hd : ∀ a ∈ l, ∀ b ∈ l, a.name = b.name → a.id = b.id → a = b) :
    sortBy nodeLe l = sortBy nodeLe l' :=
  sortBy_perm_invariant nodeLe n03_nodeLe_total n03_nodeLe_trans
    (fun a ha b hb h1 h2 =>
      hd a ha b hb (n03_nodeLe_antisymm a b h1 h2).1 (n03_nodeLe_antisymm a b h1 h2).2) h

/-- hence the log of the re-export phase is the same for two queues with the same keys (in the same order)
    whose node lists are permutations of each other -/
theorem reexport_phase_log_canonical (env : Env) (q q' : List (String × List Node))
    (h : List.Forall₂ (fun kv kv' => kv.1 = kv'.1 ∧ kv.2.Perm kv'.2) q q')
    (hd : ∀ kv ∈ q, ∀ a ∈ kv.2, ∀ b ∈ kv.2, a.name = b.name → a.id = b.id → a = b) :
    n03_reexportPhaseLog env q = n03_reexportPhaseLog env q' := by
  induction h with
  | nil => rfl
  | @cons kv kv' q q' hkv _ ih =>
    rw [reexportPhaseLog_eq, reexportPhaseLog_eq, List.flatMap_cons, List.flatMap_cons,
      ← reexportPhaseLog_eq, ← reexportPhaseLog_eq,
      ih fun kv hkv => hd kv (List.mem_cons_of_mem _ hkv),
      reexport_phase_order_canonical kv.2 kv'.2 hkv.2 (hd kv List.mem_cons_self), hkv.1]

/-- non-vacuity: two functions of the same name from different modules come out in the order of their ids,
    whichever was queued first … -/
example :
    (sortBy nodeLe [.fn { id := "pkg/b/f", name := "f", isPublic := true },
                    .fn { id := "pkg/a/f", name := "f", isPublic := true }]).map (·.id) = ["pkg/a/f", "pkg/b/f"] ∧
    (sortBy nodeLe [.fn { id := "pkg/a/f", name := "f", isPublic := true },
                    .fn { id := "pkg/b/f", name := "f", isPublic := true }]).map (·.id) = ["pkg/a/f", "pkg/b/f"] := by
  decide +kernel

/-- … whereas the order by name alone (the model before the repair) kept them in queue order -/
example :
    (sortBy (fun (a b : Node) => strLe a.name b.name)
      [.fn { id := "pkg/b/f", name := "f", isPublic := true },
       .fn { id := "pkg/a/f", name := "f", isPublic := true }]).map (·.id) = ["pkg/b/f", "pkg/a/f"] := by
  decide +kernel

/-- the hypothesis of `reexport_phase_order_canonical` is needed: nodes that agree on `(name, id)` but differ
    otherwise stay in queue order (the sort is stable) -/
example :
    (sortBy nodeLe [.fn { id := "pkg/a/f", name := "f", isPublic := true },
                    .fn { id := "pkg/a/f", name := "f", isPublic := false }]).map
        (fun n => match n with | .fn f => f.isPublic | .cls c => c.isPublic) = [true, false] ∧
    (sortBy nodeLe [.fn { id := "pkg/a/f", name := "f", isPublic := false },
                    .fn { id := "pkg/a/f", name := "f", isPublic := true }]).map
        (fun n => match n with | .fn f => f.isPublic | .cls c => c.isPublic) = [false, true] := by
  decide +kernel

theorem nodeLog_eq (env : Env) (c : Class) (f : Function) :
    n03_nodeLog env (.cls c) = n03_classLog env (classFuel env) c ∧ n03_nodeLog env (.fn f) = [("fun", f.id)] :=
  ⟨rfl, rfl⟩

/-- the whole run `generate_stub_data` from a fresh generator: the module stubs (every module but
    `__init__`, in order), then the re-export stubs of everything that was queued on the way -/
theorem whole_run_log (env : Env) (st st' : St) (r : List StubData)
    (h : generateStubData env st = .ok (r, st')) (h0 : st.creatingReexport = false) :
    st'.log = st.log
      ++ ((env.api.modules.filter fun m => m.name != "__init__").flatMap fun m =>
            ("module", m.id) :: n03_moduleLog env m.id m)
      ++ n03_reexportPhaseLog env (n03_enqueue st.reexports
          ((env.api.modules.filter fun m => m.name != "__init__").flatMap fun m => n03_moduleQueue env m.id m)) :=
  n03_generateStubData_log env st h0 r st' h

/-! ### 5. attributes -/

theorem attributes_log (env : Env) (inner : String) (as : List Attribute) (st st' : St)
    (texts names : List String) (h : createAttributes env inner as st = .ok ((texts, names), st')) :
    st'.log = st.log ++ (as.filter fun a => a.isPublic && !isTypeVarType a.type).map (fun a => ("attr", a.id)) ∧
    texts.length = (as.filter fun a => a.isPublic && !isTypeVarType a.type).length ∧
    ∀ n, n ∈ names ↔ ∃ a ∈ as, a.isPublic = true ∧ isTypeVarType a.type = false ∧ a.name = n := by
  obtain ⟨h1, h2, h3⟩ := n03_createAttributes_tr env inner as st (texts, names) st' h
  refine ⟨h3.log, h1, fun n => ?_⟩
  dsimp only at h2
  simp only [h2, n03_mem_attrNames, n03_attrShown, Bool.and_eq_true, Bool.not_eq_true', and_assoc]

/-! ### 6. methods -/

/-- ordinary class: a method is skipped iff it is private or its name is already defined -/
theorem methodSkipped_iff (m : Function) (already : List String) :
    methodSkipped m false already = true ↔ (m.isPublic = false ∨ m.name ∈ already) := by
  unfold methodSkipped
  cases m.isPublic <;> simp

/-- inlined private base: a method is skipped iff it is private AND has a `_` name, or its name is already
    defined -/
theorem methodSkipped_iff_internal (m : Function) (already : List String) :
    methodSkipped m true already = true ↔
      ((m.isPublic = false ∧ pyStartsWith m.name "_" = true) ∨ m.name ∈ already) := by
  unfold methodSkipped
  cases m.isPublic <;> simp
  exact Iff.rfl

/-- `createMethods` logs only `fun`/`prop` entries (no class brackets — everything is at nesting depth 0):
    exactly one per method that is not skipped, in order; and it returns the names of those methods -/
theorem methods_log (env : Env) (inner : String) (isInternal : Bool) (already : List String)
    (ms : List Function) (st st' : St) (props meths names : List String)
    (h : createMethods env inner isInternal already ms st = .ok ((props, meths, names), st')) :
    st'.log = st.log ++ (ms.filter fun m => !methodSkipped m isInternal already).map
        (fun m => (if m.isProperty then "prop" else "fun", m.id)) ∧
    props.length = (ms.filter fun m => !methodSkipped m isInternal already && m.isProperty).length ∧
    meths.length = (ms.filter fun m => !methodSkipped m isInternal already && !m.isProperty).length ∧
    ∀ n, n ∈ names ↔ ∃ m ∈ ms, methodSkipped m isInternal already = false ∧ m.name = n := by
  obtain ⟨h1, h2, h3, h4⟩ := n03_createMethods_tr env inner isInternal already ms st (props, meths, names) st' h
  dsimp only at h1
  refine ⟨h4.log, h2, h3, fun n => ?_⟩
  rw [h1, n03_mem_methNames]

/-- nothing in that log opens or closes a class, so its top-level view is the log itself -/
theorem methods_log_top (isInternal : Bool) (already : List String) (ms : List Function) :
    n03_top 0 (n03_methLog isInternal already ms) = n03_methLog isInternal already ms := by
  unfold n03_methLog
  induction ms.filter (fun m => !methodSkipped m isInternal already) with
  | nil => rfl
  | cons m ms ih =>
    rw [List.map_cons, n03_top]
    have h1 : (n03_methEntry m).1 ≠ "class" := by
      unfold n03_methEntry; cases m.isProperty
      · show "fun" ≠ "class"; decide
      · show "prop" ≠ "class"; decide
    have h2 : (n03_methEntry m).1 ≠ "endclass" := by
      unfold n03_methEntry; cases m.isProperty
      · show "fun" ≠ "endclass"; decide
      · show "prop" ≠ "endclass"; decide
    rw [if_neg h1, if_neg h2, if_pos rfl, ih]

/-! ### 7. the shape of a class block -/

/-- A class that is not moved logs `class`, its members, `endclass`.  ORDER OF THE LOG: attributes, public
    inner classes' blocks, own methods, and only then the members inlined from private superclasses (the
    superclass loop runs after `createClassMethodString`, because it needs the set of own names).  The TEXT
    is assembled in a different order — `attrText ++ innerText ++ superMethodsText ++ methodText` — i.e. the
    inlined members are printed BEFORE the own methods (see the example in `C17`). -/
theorem class_log_shape (env : Env) (fuel : Nat) (c : Class) (indent : String) (inRe : Bool) (st st' : St)
    (text : String) (h : createClassString env (fuel + 1) c indent inRe st = .ok (text, st'))
    (hnm : n03_movedB (getModuleId st) false inRe c.reexportedBy = false) :
    st'.log = st.log ++ ("class", c.id) ::
      ((c.attributes.filter fun a => a.isPublic && !isTypeVarType a.type).map (fun a => ("attr", a.id))
        ++ (c.classes.filter (·.isPublic)).flatMap (n03_classLog env fuel)
        ++ (c.methods.filter fun m => !methodSkipped m false []).map
            (fun m => (if m.isProperty then "prop" else "fun", m.id))
        ++ (if !c.renderedSupers.isEmpty && !c.isAbstract then
              (c.renderedSupers.filter fun s => isInternal (lastD "" (splitDot s))).flatMap
                (fun sc => n03_internalLog env fuel sc (n03_ownNames c))
            else [])
        ++ [("endclass", c.id)]) := by
  have := (n03_createClassString_tr env (fuel + 1) c indent inRe st text st' h).log
  rw [n03_clsLog, hnm] at this
  simp only [Bool.false_eq_true, if_false] at this
  rw [this, n03_classLog]
  rfl

/-- the moved case -/
theorem class_log_moved (env : Env) (fuel : Nat) (c : Class) (indent : String) (inRe : Bool) (st st' : St)
    (text : String) (h : createClassString env fuel c indent inRe st = .ok (text, st'))
    (hm : n03_movedB (getModuleId st) false inRe c.reexportedBy = true) :
    st'.log = st.log ++ [("moved", c.id)] ∧
      st'.reexports = appendReexport st.reexports (n03_queueEntry c.name (.cls c) (getModuleId st) c.reexportedBy).1
        (n03_queueEntry c.name (.cls c) (getModuleId st) c.reexportedBy).2 := by
  have h1 := n03_createClassString_tr env fuel c indent inRe st text st' h
  have hl := h1.log
  have hr := h1.reexports
  rw [n03_clsLog, hm] at hl
  rw [n03_clsQueue, hm] at hr
  exact ⟨hl, hr⟩

/-- an inner class block and a nested block have the same shape (`n03_classLog`, one unit of fuel less) -/
theorem classLog_eq (env : Env) (fuel : Nat) (c : Class) :
    n03_classLog env 0 c = [] ∧
    n03_classLog env (fuel + 1) c = ("class", c.id) ::
      (n03_attrLog c.attributes
        ++ (c.classes.filter (·.isPublic)).flatMap (n03_classLog env fuel)
        ++ n03_methLog false [] c.methods
        ++ (if !c.renderedSupers.isEmpty && !c.isAbstract then
              (c.renderedSupers.filter n03_privSuper).flatMap (fun sc => n03_internalLog env fuel sc (n03_ownNames c))
            else [])
        ++ [("endclass", c.id)]) :=
  ⟨by rw [n03_classLog], by rw [n03_classLog]⟩

/-- what one inlined private superclass contributes: its methods (under the internal skip rule), the blocks of
    its inner classes WITHOUT a `_` name, then its own private superclasses, recursively, with the names it
    emitted added to the defined set -/
theorem internalLog_eq (env : Env) (fuel : Nat) (sc : String) (ad : List String) :
    n03_internalLog env 0 sc ad = [] ∧
    n03_internalLog env (fuel + 1) sc ad =
      match getClassInPackage env sc with
      | .ok k =>
        n03_methLog true ad k.methods
          ++ (k.classes.filter (fun ic => !isInternal ic.name && !ad.contains ic.name)).flatMap (n03_classLog env fuel)
          ++ (k.superclasses.filter n03_privSuper).flatMap
              (fun ss => n03_internalLog env fuel ss (unionSet ad (n03_methNames true ad k.methods)))
      | .error _ => [] :=
  ⟨by rw [n03_internalLog], by rw [n03_internalLog]; cases getClassInPackage env sc <;> rfl⟩

theorem internal_log (env : Env) (fuel : Nat) (sc inner : String) (ad : List String) (st st' : St) (t : String)
    (h : createInternalClassString env fuel sc inner ad st = .ok (t, st')) :
    st'.log = st.log ++ n03_internalLog env fuel sc ad :=
  ((n03_class_tr env fuel).2 sc inner ad st t st' h).log

theorem auxiliary_eq (as : List Attribute) (b : Bool) (ad : List String) (ms : List Function) (c : Class) (s : String) :
    n03_attrLog as = (as.filter fun a => a.isPublic && !isTypeVarType a.type).map (fun a => ("attr", a.id)) ∧
    n03_methLog b ad ms = (ms.filter fun m => !methodSkipped m b ad).map
      (fun m => (if m.isProperty then "prop" else "fun", m.id)) ∧
    n03_ownNames c = unionSet (unionSet (n03_attrNames c.attributes) (n03_methNames false [] c.methods))
      ((c.classes.filter (·.isPublic)).map (·.name)) ∧
    n03_privSuper s = isInternal (lastD "" (splitDot s)) :=
  ⟨rfl, rfl, rfl, rfl⟩

/-- every class block is well bracketed, and seen from outside it is one `class` entry -/
theorem class_block_top (env : Env) (fuel : Nat) (c : Class) :
    n03_top 0 (n03_classLog env (fuel + 1) c) = [("class", c.id)] := by
  rw [n03_classLog_members]
  exact n03_top_block _ _ (n03_members_bal env fuel c)

end StubGen.C03
