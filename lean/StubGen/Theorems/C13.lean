/-
C13 — documentation is attached to its own element, line for line, regardless of the order in
which elements are analysed.

Parser side (`Model/Doc.lean`): the single-entry docstring cache `(cached_node, cached_docstring)` is
transparent — every query returns what the cache-less lookup `lookupDoc` returns, from any reachable
cache state, hence for every sequence of queries.
Generator side (`Model/Gen.lean`): the documentation comment is assembled from the element's own
docstring fields, every line of them in order.
Proof machinery and the cache-less specifications of the five queries: `StubGen.Proofs.Doc`.
-/
import StubGen.Proofs.Doc

namespace StubGen.C13

open StubGen

/-! ## 1. The cache invariant -/

/-- (the definition, restated) whatever the cache holds for a name is what the cache-less lookup returns -/
theorem valid_iff (root : GNode) (c : Cache) :
    Cache.Valid root c ↔ ∀ q, c.node = some q → lookupDoc root q = .ok c.doc := Iff.rfl

theorem valid_empty (root : GNode) : Cache.Valid root {} := by
  intro q h; cases h

theorem getCached_ok (root : GNode) (c c' : Cache) (q : String) (d : Option GDoc)
    (hv : Cache.Valid root c) (h : getCached root c q = .ok (d, c')) :
    lookupDoc root q = .ok d ∧ Cache.Valid root c' := by
  rcases getCached_spec q hv with ⟨e, h1, _⟩ | ⟨d', c'', h1, h2, h3⟩ <;> rw [h1] at h <;> cases h
  exact ⟨h2, h3⟩

theorem getCached_error (root : GNode) (c : Cache) (q : String) (e : PyErr)
    (hv : Cache.Valid root c) (h : getCached root c q = .error e) :
    lookupDoc root q = .error e := by
  rcases getCached_spec q hv with ⟨e', h1, h2⟩ | ⟨d, c', h1, _⟩ <;> rw [h1] at h <;> cases h
  exact h2

theorem getCached_total (root : GNode) (c : Cache) (q : String) (d : Option GDoc)
    (hv : Cache.Valid root c) (h : lookupDoc root q = .ok d) :
    ∃ c', getCached root c q = .ok (d, c') := by
  rcases getCached_spec q hv with ⟨e, _, h2⟩ | ⟨d', c', h1, h2, _⟩ <;> rw [h] at h2 <;> cases h2
  exact ⟨c', h1⟩

/-- a cached access returns exactly the cache-less lookup, errors included -/
theorem getCached_transparent (root : GNode) (c : Cache) (q : String) (hv : Cache.Valid root c) :
    (getCached root c q).map Prod.fst = lookupDoc root q := by
  rcases getCached_spec q hv with ⟨e, h1, h2⟩ | ⟨d, c', h1, h2, _⟩ <;> rw [h1, h2] <;> rfl

/-! ## 2. The five queries: validity is preserved, the cache content is irrelevant -/

/-- the resulting state of a successful query: same tree, same style, valid cache -/
def StateOk {α : Type} (s : ParserState) (res : Except PyErr (α × ParserState)) : Prop :=
  ∀ a s', res = .ok (a, s') → s'.root = s.root ∧ s'.style = s.style ∧ Cache.Valid s'.root s'.cache

/-- what agreement with a cache-less specification gives for one query, from the given and from the empty cache -/
private theorem cache_irrelevant_of_agrees {α : Type} {s : ParserState} {r r₀ : Except PyErr (α × ParserState)}
    {spec : Except PyErr α} (h : Agrees s r spec) (h₀ : Agrees { s with cache := {} } r₀ spec) :
    r.map Prod.fst = r₀.map Prod.fst ∧ StateOk s r :=
  ⟨h.irrelevant h₀, fun _ _ e => h.state e⟩

theorem getClassDocumentation_cache_irrelevant (s : ParserState) (n : String) (hv : Cache.Valid s.root s.cache) :
    (getClassDocumentation s n).map Prod.fst = (getClassDocumentation { s with cache := {} } n).map Prod.fst
    ∧ StateOk s (getClassDocumentation s n) :=
  cache_irrelevant_of_agrees (getClassDocumentation_agrees s n hv)
    (getClassDocumentation_agrees { s with cache := {} } n (valid_empty _))

/-- `get_class_documentation` leaves the cache alone -/
theorem getClassDocumentation_cache_untouched (s s' : ParserState) (n : String) (d : Docstring)
    (h : getClassDocumentation s n = .ok (d, s')) : s' = s := by
  unfold getClassDocumentation at h
  split at h
  · cases h
  · cases h
  · cases h; rfl

theorem getFunctionDocumentation_cache_irrelevant (s : ParserState) (f : String) (hv : Cache.Valid s.root s.cache) :
    (getFunctionDocumentation s f).map Prod.fst = (getFunctionDocumentation { s with cache := {} } f).map Prod.fst
    ∧ StateOk s (getFunctionDocumentation s f) :=
  cache_irrelevant_of_agrees (getFunctionDocumentation_agrees s f hv)
    (getFunctionDocumentation_agrees { s with cache := {} } f (valid_empty _))

theorem getParameterDocumentation_cache_irrelevant (s : ParserState) (f p c : String)
    (hv : Cache.Valid s.root s.cache) :
    (getParameterDocumentation s f p c).map Prod.fst
      = (getParameterDocumentation { s with cache := {} } f p c).map Prod.fst
    ∧ StateOk s (getParameterDocumentation s f p c) :=
  cache_irrelevant_of_agrees (getParameterDocumentation_agrees s f p c hv)
    (getParameterDocumentation_agrees { s with cache := {} } f p c (valid_empty _))

theorem getAttributeDocumentation_cache_irrelevant (s : ParserState) (c a : String)
    (hv : Cache.Valid s.root s.cache) :
    (getAttributeDocumentation s c a).map Prod.fst
      = (getAttributeDocumentation { s with cache := {} } c a).map Prod.fst
    ∧ StateOk s (getAttributeDocumentation s c a) :=
  cache_irrelevant_of_agrees (getAttributeDocumentation_agrees s c a hv)
    (getAttributeDocumentation_agrees { s with cache := {} } c a (valid_empty _))

theorem getResultDocumentation_cache_irrelevant (s : ParserState) (f : String) (hv : Cache.Valid s.root s.cache) :
    (getResultDocumentation s f).map Prod.fst = (getResultDocumentation { s with cache := {} } f).map Prod.fst
    ∧ StateOk s (getResultDocumentation s f) :=
  cache_irrelevant_of_agrees (getResultDocumentation_agrees s f hv)
    (getResultDocumentation_agrees { s with cache := {} } f (valid_empty _))

/-- Stronger than cache irrelevance: each query computes a function of `root`, `style` and its own
    arguments that is written without any cache (`Proofs/Doc.lean`: `classDocSpec`, `functionDocSpec`,
    `parameterDocSpec`, `attributeDocSpec`, `resultDocSpec`, all over `lookupDoc`). -/
theorem queries_eq_cacheless_spec (s : ParserState) (hv : Cache.Valid s.root s.cache) :
    (∀ n, (getClassDocumentation s n).map Prod.fst = classDocSpec s.root n)
    ∧ (∀ f, (getFunctionDocumentation s f).map Prod.fst = functionDocSpec s.root f)
    ∧ (∀ f p c, (getParameterDocumentation s f p c).map Prod.fst = parameterDocSpec s.root s.style f p c)
    ∧ (∀ c a, (getAttributeDocumentation s c a).map Prod.fst = attributeDocSpec s.root s.style c a)
    ∧ (∀ f, (getResultDocumentation s f).map Prod.fst = resultDocSpec s.root s.style f) :=
  ⟨fun n => (getClassDocumentation_agrees s n hv).map_fst,
   fun f => (getFunctionDocumentation_agrees s f hv).map_fst,
   fun f p c => (getParameterDocumentation_agrees s f p c hv).map_fst,
   fun c a => (getAttributeDocumentation_agrees s c a hv).map_fst,
   fun f => (getResultDocumentation_agrees s f hv).map_fst⟩

/-! ## 3. Every sequence of queries -/

inductive Query where
  | classDoc (fullname : String)
  | functionDoc (fullname : String)
  | parameterDoc (functionQname parameterName parentClassQname : String)
  | attributeDoc (parentClassQname attributeName : String)
  | resultDoc (functionQname : String)

inductive Answer where
  | classDoc (d : Docstring)
  | functionDoc (d : Docstring)
  | parameterDoc (d : ParamDoc)
  | attributeDoc (d : AttrDoc)
  | resultDoc (ds : List ResultDoc)

/-- one call of the parser's public interface -/
def answer (s : ParserState) : Query → Except PyErr (Answer × ParserState)
  | .classDoc n => (getClassDocumentation s n).map fun r => (Answer.classDoc r.1, r.2)
  | .functionDoc f => (getFunctionDocumentation s f).map fun r => (Answer.functionDoc r.1, r.2)
  | .parameterDoc f p c => (getParameterDocumentation s f p c).map fun r => (Answer.parameterDoc r.1, r.2)
  | .attributeDoc c a => (getAttributeDocumentation s c a).map fun r => (Answer.attributeDoc r.1, r.2)
  | .resultDoc f => (getResultDocumentation s f).map fun r => (Answer.resultDoc r.1, r.2)

/-- the answers to a sequence of calls, the parser state (its cache) threaded through; the first
    exception aborts the run: it is the last entry -/
def runAll (s : ParserState) : List Query → List (Except PyErr Answer)
  | [] => []
  | q :: qs =>
    match answer s q with
    | .error e => [.error e]
    | .ok (a, s') => .ok a :: runAll s' qs

/-- (the definition, restated) `untilError` cuts a list of outcomes after its first error -/
theorem untilError_def {α : Type} (e : PyErr) (a : α) (rest : List (Except PyErr α)) :
    untilError ([] : List (Except PyErr α)) = []
    ∧ untilError (.error e :: rest) = [.error e]
    ∧ untilError (.ok a :: rest) = .ok a :: untilError rest := ⟨rfl, rfl, rfl⟩

/-- the cache-less answer to a query -/
def answerSpec (root : GNode) (style : DocStyle) : Query → Except PyErr Answer
  | .classDoc n => (classDocSpec root n).map Answer.classDoc
  | .functionDoc f => (functionDocSpec root f).map Answer.functionDoc
  | .parameterDoc f p c => (parameterDocSpec root style f p c).map Answer.parameterDoc
  | .attributeDoc c a => (attributeDocSpec root style c a).map Answer.attributeDoc
  | .resultDoc f => (resultDocSpec root style f).map Answer.resultDoc

theorem answer_agrees (s : ParserState) (q : Query) (hv : Cache.Valid s.root s.cache) :
    Agrees s (answer s q) (answerSpec s.root s.style q) := by
  cases q with
  | classDoc n => exact (getClassDocumentation_agrees s n hv).map Answer.classDoc
  | functionDoc f => exact (getFunctionDocumentation_agrees s f hv).map Answer.functionDoc
  | parameterDoc f p c => exact (getParameterDocumentation_agrees s f p c hv).map Answer.parameterDoc
  | attributeDoc c a => exact (getAttributeDocumentation_agrees s c a hv).map Answer.attributeDoc
  | resultDoc f => exact (getResultDocumentation_agrees s f hv).map Answer.resultDoc

/-- one query, from any valid cache: the same answer as from the empty cache, and a valid cache after -/
theorem answer_cache_irrelevant (s : ParserState) (q : Query) (hv : Cache.Valid s.root s.cache) :
    (answer s q).map Prod.fst = (answer { s with cache := {} } q).map Prod.fst
    ∧ StateOk s (answer s q) :=
  cache_irrelevant_of_agrees (answer_agrees s q hv) (answer_agrees { s with cache := {} } q (valid_empty _))

/-- from any valid state, the run equals the independent cache-less answers cut after the first error -/
theorem runAll_eq_spec (s : ParserState) (qs : List Query) (hv : Cache.Valid s.root s.cache) :
    runAll s qs = untilError (qs.map (answerSpec s.root s.style)) := by
  induction qs generalizing s with
  | nil => rfl
  | cons q qs ih =>
    have h := answer_agrees s q hv
    unfold runAll
    simp only [List.map_cons]
    cases hr : answer s q with
    | error e =>
      rw [hr] at h
      rw [h.of_error]; rfl
    | ok r =>
      obtain ⟨a, s'⟩ := r
      rw [hr] at h
      obtain ⟨h1, h2, h3, h4⟩ := h.of_ok
      simp only [h1, untilError]
      rw [ih s' h4, h2, h3]

/-- **the cache is transparent for every sequence of queries**: running them in sequence with the
    cache gives exactly the list of answers each query gets on its own from the empty cache, cut
    after the first exception -/
theorem cache_transparent (root : GNode) (style : DocStyle) (qs : List Query) :
    runAll { root := root, style := style, cache := {} } qs
      = untilError (qs.map fun q => (answer { root := root, style := style, cache := {} } q).map Prod.fst) := by
  rw [runAll_eq_spec _ qs (valid_empty root)]
  congr 1
  apply List.map_congr_left
  intro q _
  exact ((answer_agrees { root := root, style := style, cache := {} } q (valid_empty root)).map_fst).symm

/-- the same from any reachable (valid) cache state instead of the empty one -/
theorem cache_transparent_from_valid (s : ParserState) (qs : List Query) (hv : Cache.Valid s.root s.cache) :
    runAll s qs = runAll { s with cache := {} } qs := by
  rw [runAll_eq_spec s qs hv, runAll_eq_spec { s with cache := {} } qs (valid_empty _)]

/-- the answer at position `i` of a run does not depend on the queries before it: whenever the run
    gets that far, it is the answer the `i`-th query gets on its own -/
theorem answer_independent_of_history (root : GNode) (style : DocStyle) (qs : List Query) (i : Nat)
    (r : Except PyErr Answer) (h : (runAll { root := root, style := style, cache := {} } qs)[i]? = some r) :
    ∃ q, qs[i]? = some q ∧ r = (answer { root := root, style := style, cache := {} } q).map Prod.fst := by
  rw [cache_transparent] at h
  exact untilError_map_getElem? _ qs i r h

/-- if no query raises, analysing the elements in another order permutes the answers and changes none -/
theorem order_irrelevant (root : GNode) (style : DocStyle) (qs qs' : List Query) (hp : qs.Perm qs')
    (hok : ∀ q ∈ qs, ∃ a, (answer { root := root, style := style, cache := {} } q).map Prod.fst = .ok a) :
    (runAll { root := root, style := style, cache := {} } qs).Perm
      (runAll { root := root, style := style, cache := {} } qs')
    ∧ runAll { root := root, style := style, cache := {} } qs
        = qs.map fun q => (answer { root := root, style := style, cache := {} } q).map Prod.fst := by
  have h1 := untilError_map_of_ok _ qs hok
  have h2 := untilError_map_of_ok _ qs' (fun q hq => hok q (hp.mem_iff.mpr hq))
  rw [cache_transparent, cache_transparent, h1, h2]
  exact ⟨hp.map _, rfl⟩

/-! ## 4. The documentation comment, line for line -/

/-- the decoration of a continuation line (restated): ` * ` and the line, or a bare ` *` for an empty line -/
theorem docLine_def (indent l : String) :
    docLine indent l = if l ≠ "" then indent ++ " * " ++ l else indent ++ " *" := rfl

theorem splitLines_ne_nil (s : String) : splitLines s ≠ [] := StubGen.splitLines_ne_nil s

/-- (a) every line of the description (surrounding newlines stripped) appears, in order: the first one
    directly (behind the decoration the caller supplies), each further one behind `indent ++ " * "` -/
theorem descriptionPart_lines (d indent : String) :
    descriptionPart d indent
      = joinWith "\n" ((splitLines (pyLstrip (pyRstrip d "\n") "\n")).head (splitLines_ne_nil _)
          :: (splitLines (pyLstrip (pyRstrip d "\n") "\n")).tail.map
              (fun l => if l ≠ "" then indent ++ " * " ++ l else indent ++ " *")) ++ "\n" :=
  descriptionPart_eq d indent

/-- (b) the description-only comment -/
theorem sdsDocstringDescription_form (d indent : String) :
    sdsDocstringDescription d indent
        = (if d = "" then "" else indent ++ "/**\n" ++ indent ++ " * " ++ descriptionPart d indent ++ indent ++ " */\n")
    ∧ (sdsDocstringDescription d indent = "" ↔ d = "") :=
  ⟨sdsDocstringDescription_eq d indent, sdsDocstringDescription_eq_empty_iff d indent⟩

/-- (a, read back) splitting the description part at newlines gives exactly the description's lines,
    decorated, in order (and the empty string after the final newline) -/
theorem descriptionPart_line_for_line (d indent : String) (hi : '\n' ∉ indent.toList) :
    splitLines (descriptionPart d indent)
      = (splitLines (pyLstrip (pyRstrip d "\n") "\n")).head (splitLines_ne_nil _)
        :: (splitLines (pyLstrip (pyRstrip d "\n") "\n")).tail.map (docLine indent) ++ [""] :=
  splitLines_descriptionPart d indent hi

/-- (b, read back) the complete description-only comment (modules, properties, attributes), line by line -/
theorem sdsDocstringDescription_line_for_line (d indent : String) (hd : d ≠ "") (hi : '\n' ∉ indent.toList) :
    splitLines (sdsDocstringDescription d indent)
      = (indent ++ "/**")
        :: (indent ++ " * " ++ (splitLines (pyLstrip (pyRstrip d "\n") "\n")).head (splitLines_ne_nil _))
        :: ((splitLines (pyLstrip (pyRstrip d "\n") "\n")).tail.map (docLine indent) ++ [indent ++ " */", ""]) := by
  have hlines := descriptionLines_no_newline d indent hi
  have hjoin : sdsDocstringDescription d indent
      = joinWith "\n" ((indent ++ "/**")
        :: (indent ++ " * " ++ (splitLines (pyLstrip (pyRstrip d "\n") "\n")).head (splitLines_ne_nil _))
        :: ((splitLines (pyLstrip (pyRstrip d "\n") "\n")).tail.map (docLine indent) ++ [indent ++ " */", ""])) := by
    rw [sdsDocstringDescription_eq, if_neg hd, descriptionPart_eq_join]
    unfold descriptionLines
    generalize (splitLines (pyLstrip (pyRstrip d "\n") "\n")).head (splitLines_ne_nil _) = F
    generalize (splitLines (pyLstrip (pyRstrip d "\n") "\n")).tail.map (docLine indent) = R
    have e1 : "/**\n" = "/**" ++ "\n" := by decide +kernel
    have e2 : " */\n" = " */" ++ "\n" := by decide +kernel
    rw [joinWith_cons_cons, ← append_joinWith_cons, ← List.cons_append,
      joinWith_append _ (F :: R) [""] (by simp) (by simp),
      joinWith_append _ (F :: R) [indent ++ " */", ""] (by simp) (by simp), e1, e2]
    simp only [joinWith, String.append_assoc, String.append_empty]
  rw [hjoin]
  apply pySplit_joinWith_d '\n' "\n" (by decide) _ (by simp)
  have h1 : '\n' ∉ "/**".toList := by decide +kernel
  have h2 : '\n' ∉ " * ".toList := by decide +kernel
  have h3 : '\n' ∉ " */".toList := by decide +kernel
  have h4 : '\n' ∉ "".toList := by decide +kernel
  intro l hl
  simp only [List.mem_cons, List.mem_append, List.mem_nil_iff, or_false] at hl
  rcases hl with rfl | rfl | hl | rfl | rfl
  · exact not_mem_toList_append hi h1
  · exact not_mem_toList_append (not_mem_toList_append hi h2) (hlines _ (by simp [descriptionLines]))
  · exact hlines _ (by simp only [descriptionLines, List.mem_cons]; exact Or.inr hl)
  · exact not_mem_toList_append hi h3
  · exact h4

/-- the four blocks (restated) -/
theorem blocks_def (safe : Bool) (desc indent : String) (params : List Parameter) (examples : List String) :
    descBlock desc indent = (if desc = "" then "" else indent ++ " * " ++ descriptionPart desc indent)
    ∧ paramBlock safe indent params
        = String.join ((params.filter fun p => p.doc.description != "").map fun p =>
            indent ++ " * @param " ++ convertName p.name safe ++ " " ++ descriptionPart p.doc.description indent)
    ∧ exampleBlock indent examples = joinWith (indent ++ " *\n") (examples.map (exampleText indent))
    ∧ (∀ before after, sepIf indent before after = if before ≠ "" ∧ after ≠ "" then indent ++ " *\n" else "") :=
  ⟨rfl, rfl, rfl, fun _ _ => rfl⟩

/-- (c) the comment is the concatenation of the description block, the `@param` block (the documented
    parameters, in parameter order), the `@result` block and the example block, a ` *` line exactly
    between two non-empty neighbours; it is empty iff all four blocks are -/
theorem sdsDocstring_blocks (safe : Bool) (desc indent : String) (params : List Parameter)
    (resultDocs : List ResultDoc) (examples : List String) :
    sdsDocstring safe desc indent params resultDocs examples
      = if descBlock desc indent = "" ∧ paramBlock safe indent params = ""
            ∧ resultDocLines safe indent 1 resultDocs = "" ∧ exampleBlock indent examples = "" then ""
        else indent ++ "/**\n"
          ++ descBlock desc indent
          ++ sepIf indent (descBlock desc indent) (paramBlock safe indent params)
          ++ paramBlock safe indent params
          ++ sepIf indent (descBlock desc indent ++ paramBlock safe indent params) (resultDocLines safe indent 1 resultDocs)
          ++ resultDocLines safe indent 1 resultDocs
          ++ sepIf indent (descBlock desc indent ++ paramBlock safe indent params ++ resultDocLines safe indent 1 resultDocs)
               (exampleBlock indent examples)
          ++ exampleBlock indent examples
          ++ indent ++ " */\n" :=
  sdsDocstring_blocks_eq safe desc indent params resultDocs examples

/-- (c, equivalently) the non-empty blocks joined by the ` *` line -/
theorem sdsDocstring_blocks_join (safe : Bool) (desc indent : String) (params : List Parameter)
    (resultDocs : List ResultDoc) (examples : List String) :
    sdsDocstring safe desc indent params resultDocs examples
      = if joinWith (indent ++ " *\n") ([descBlock desc indent, paramBlock safe indent params,
            resultDocLines safe indent 1 resultDocs, exampleBlock indent examples].filter (· ≠ "")) = "" then ""
        else indent ++ "/**\n"
          ++ joinWith (indent ++ " *\n") ([descBlock desc indent, paramBlock safe indent params,
            resultDocLines safe indent 1 resultDocs, exampleBlock indent examples].filter (· ≠ ""))
          ++ indent ++ " */\n" := by
  rw [sdsDocstring_eq_assemble, assemble_eq_join _ _ _ _ _ (exampleTexts_join_eq_empty_iff indent examples)]
  rfl

/-- (c) no comment at all iff there is nothing to document -/
theorem sdsDocstring_empty_iff (safe : Bool) (desc indent : String) (params : List Parameter)
    (resultDocs : List ResultDoc) (examples : List String) :
    sdsDocstring safe desc indent params resultDocs examples = ""
      ↔ desc = "" ∧ (∀ p ∈ params, p.doc.description = "") ∧ (∀ r ∈ resultDocs, r.description = "")
          ∧ examples = [] := by
  have hiff : (descBlock desc indent = "" ∧ paramBlock safe indent params = ""
      ∧ resultDocLines safe indent 1 resultDocs = "" ∧ exampleBlock indent examples = "")
      ↔ (desc = "" ∧ (∀ p ∈ params, p.doc.description = "") ∧ (∀ r ∈ resultDocs, r.description = "") ∧ examples = []) := by
    rw [descBlock_eq_empty_iff, paramBlock_eq_empty_iff, resultDocLines_eq_empty_iff, exampleBlock_eq_empty_iff]
  rw [sdsDocstring_blocks_eq, ← hiff]
  by_cases h : descBlock desc indent = "" ∧ paramBlock safe indent params = ""
      ∧ resultDocLines safe indent 1 resultDocs = "" ∧ exampleBlock indent examples = ""
  · rw [if_pos h]; exact iff_of_true rfl h
  · rw [if_neg h]; refine iff_of_false ?_ h; simp

/-- (d) one `@result` entry per result docstring with a non-empty description, in order; a named one
    under its (converted) name, the unnamed ones under `result_1`, `result_2`, … counted among the
    unnamed documented results; the description's lines in order, continuation lines behind ` * ` -/
theorem resultDocLines_spec (safe : Bool) (indent : String) (k : Nat) (rds : List ResultDoc) :
    resultDocLines safe indent k rds
      = String.join ((rds.filter (fun r => r.description != "")).mapIdx fun i rd =>
          indent ++ " * @result "
            ++ convertName (if rd.name ≠ "" then rd.name
                else resultName (k + ((rds.filter (fun r => r.description != "")).take i).countP (fun r => r.name == ""))) safe
            ++ " " ++ joinWith ("\n" ++ indent ++ " * ") (splitLines rd.description) ++ "\n") :=
  resultDocLines_eq safe indent k rds

/-- the code line of an example line (restated) -/
theorem exampleCodeLine_def (part : String) :
    exampleCodeLine part
      = if pyStartsWith part ">>>" then some (pyReplace part ">>>" "//")
        else if pyStartsWith part "..." then some (pyReplace part "..." "//")
        else none := rfl

/-- (e) the `>>>` / `...` lines of the example appear in order, each behind `indent ++ " *     "`, with
    the marker replaced by `//` — `str.replace`, i.e. EVERY occurrence of the marker in the line, see
    the counterexample below; all other lines are dropped -/
theorem exampleText_lines (indent ex : String) :
    exampleText indent ex
      = indent ++ " * @example\n" ++ indent ++ " * pipeline example {\n"
        ++ String.join (((splitLines ex).filterMap exampleCodeLine).map fun l => indent ++ " *     " ++ l ++ "\n")
        ++ indent ++ " * }\n" := by
  unfold exampleText
  rw [join_map_filterMap _ exampleCodeLine (fun l => indent ++ " *     " ++ l ++ "\n")]
  intro part
  unfold exampleCodeLine
  by_cases h1 : pyStartsWith part ">>>" = true
  · simp only [h1, if_true]
  · by_cases h2 : pyStartsWith part "..." = true
    · simp only [h1, h2, if_true, Bool.false_eq_true, if_false]
    · simp only [h1, h2, Bool.false_eq_true, if_false]

/-- "the line with the FIRST marker replaced" is false of the model (and of `str.replace`): -/
example : exampleCodeLine ">>> a >>> b" = some "// a // b" := by decide +kernel
example : exampleCodeLine ">>> a >>> b" ≠ some "// a >>> b" := by decide +kernel
example : exampleCodeLine "... x[...]" = some "// x[//]" := by decide +kernel

/-- (e, the "first marker" reading) it holds for a line that carries its marker at the start only -/
theorem exampleText_lines_partial (part : String) (rest : List Char) :
    (part.toList = ">>>".toList ++ rest → isInfixOfL ">>>".toList rest = false →
      exampleCodeLine part = some ("//" ++ String.ofList rest))
    ∧ (part.toList = "...".toList ++ rest → isInfixOfL "...".toList rest = false →
      exampleCodeLine part = some ("//" ++ String.ofList rest)) := by
  constructor
  · intro hp hno
    have hs : pyStartsWith part ">>>" = true := by
      unfold pyStartsWith; rw [hp]; exact isPrefixOfL_append _ _
    rw [exampleCodeLine_def]
    simp only [hs, if_true]
    rw [pyReplace_prefix_once part ">>>" "//" rest (by decide) hp hno]
  · intro hp hno
    have hs : pyStartsWith part "..." = true := by
      unfold pyStartsWith; rw [hp]; exact isPrefixOfL_append _ _
    have hs' : pyStartsWith part ">>>" = false := by
      unfold pyStartsWith; rw [hp]; rfl
    rw [exampleCodeLine_def]
    simp only [hs, hs', if_true, Bool.false_eq_true, if_false]
    rw [pyReplace_prefix_once part "..." "//" rest (by decide) hp hno]

/-! ## 5. The comment of an element is made of that element's docstring fields only -/

/-- the documentation comments the generator attaches (`Model/Gen.lean`: `createFunctionString`,
    `createClass`, `createAttribute`) -/
def functionComment (safe : Bool) (indent : String) (f : Function) : String :=
  sdsDocstring safe f.doc.description indent f.params f.resultDocs f.doc.examples

def ctorParams (c : Class) : List Parameter :=
  match c.ctor with
  | some ctor => ctor.params
  | none => []

def classComment (safe : Bool) (indent : String) (c : Class) : String :=
  sdsDocstring safe c.doc.description indent (ctorParams c) [] c.doc.examples

def attributeComment (safe : Bool) (indent : String) (a : Attribute) : String :=
  sdsDocstring safe a.doc.description indent [] [] []

/-- The comment of a function is determined by its own description, its own parameters' names and
    descriptions, its own result names and descriptions and its own examples.  No other element of the
    API is an argument of `functionComment`, so no other element can influence it. -/
theorem attached_to_own_element (safe : Bool) (indent : String) (f g : Function)
    (hd : f.doc.description = g.doc.description)
    (hp : f.params.map (fun p => (p.name, p.doc.description)) = g.params.map (fun p => (p.name, p.doc.description)))
    (hr : f.resultDocs.map (fun r => (r.name, r.description)) = g.resultDocs.map (fun r => (r.name, r.description)))
    (he : f.doc.examples = g.doc.examples) :
    functionComment safe indent f = functionComment safe indent g := by
  unfold functionComment
  rw [hd, he]
  exact sdsDocstring_congr safe indent _ _ _ _ _ _ hp hr

theorem attached_to_own_class (safe : Bool) (indent : String) (c c' : Class)
    (hd : c.doc.description = c'.doc.description)
    (hp : (ctorParams c).map (fun p => (p.name, p.doc.description))
        = (ctorParams c').map (fun p => (p.name, p.doc.description)))
    (he : c.doc.examples = c'.doc.examples) :
    classComment safe indent c = classComment safe indent c' := by
  unfold classComment
  rw [hd, he]
  exact sdsDocstring_congr safe indent _ _ _ _ _ _ hp rfl

/-- an attribute's comment is the description-only comment of its own description -/
theorem attached_to_own_attribute (safe : Bool) (indent : String) (a : Attribute) :
    attributeComment safe indent a = sdsDocstringDescription a.doc.description indent :=
  sdsDocstring_description_only safe a.doc.description indent

/-! ## Non-vacuity: a concrete tree `pkg` → `m` → class `C` (with `__init__`) and function `f` -/

def initDoc : GDoc :=
  { value := "Create a C.\n\nParameters\n----------\ny : int\n    the y of __init__\n",
    parsed := [.text "Create a C.", .parameters [{ name := "y", annotation := some (.name "int" "int"), description := "the y of __init__", default := none }]] }

def classDoc : GDoc :=
  { value := "A class.\n\nParameters\n----------\nx : str\n    the x\n",
    parsed := [.text "A class.",
      .parameters [{ name := "x", annotation := some (.name "str" "str"), description := "the x", default := some "'a'" }],
      .attributes [{ name := "a", annotation := none, description := "the attribute a", default := none }],
      .examples [">>> C('a')\n... .go()\nC()"]] }

def fDoc : GDoc :=
  { value := "Compute.\n\nReturns\n-------\nr : int\n    the result\n",
    parsed := [.text "Compute.", .returns [{ name := "r", annotationIsNone := false, annotation := some (.name "int" "int"), nameAsAnnotation := none, description := "the result" }]] }

def nodeC : GNode :=
  { name := "C", isClass := true, docstring := some classDoc,
    functions := [{ name := "__init__", docstring := some initDoc }] }

def nodeM : GNode :=
  { name := "m", classes := [nodeC], functions := [{ name := "f", docstring := some fDoc }] }

def tree : GNode := { name := "pkg", modules := [nodeM] }

def s0 : ParserState := { root := tree, style := .numpy }

def qs : List Query :=
  [ .parameterDoc "pkg.m.C.__init__" "x" "pkg/m/C",   -- miss: caches `pkg.m.C`
    .parameterDoc "pkg.m.C.__init__" "y" "pkg/m/C",   -- hit on `pkg.m.C`, then `…__init__` (bypass)
    .functionDoc "pkg.m.f",                           -- miss
    .resultDoc "pkg.m.f",                             -- hit
    .attributeDoc "pkg/m/C" "a",                      -- miss
    .classDoc "pkg.m.C",                              -- cache untouched
    .functionDoc "pkg.m.C.__init__",                  -- bypass
    .functionDoc "pkg.m.C.__init__",                  -- same name again: still recomputed
    .parameterDoc "pkg.m.f" "x" "",
    .functionDoc "pkg.m.nope",                        -- ValueError: the run stops here
    .functionDoc "pkg.m.f" ]

set_option maxRecDepth 100000 in
example : runAll s0 qs =
  [ .ok (.parameterDoc { type := some (.named "str" "builtins.str"), defaultValue := "'a'", description := "the x" }),
    .ok (.parameterDoc { type := some (.named "int" "builtins.int"), defaultValue := "", description := "the y of __init__" }),
    .ok (.functionDoc { description := "Compute.", fullDocstring := "Compute.\n\nReturns\n-------\nr : int\n    the result", examples := [] }),
    .ok (.resultDoc [{ type := some (.named "int" "builtins.int"), description := "the result", name := "r" }]),
    .ok (.attributeDoc { type := none, description := "the attribute a" }),
    .ok (.classDoc { description := "A class.", fullDocstring := "A class.\n\nParameters\n----------\nx : str\n    the x", examples := [">>> C('a')\n... .go()\nC()"] }),
    .ok (.functionDoc { description := "Create a C.", fullDocstring := "Create a C.\n\nParameters\n----------\ny : int\n    the y of __init__", examples := [] }),
    .ok (.functionDoc { description := "Create a C.", fullDocstring := "Create a C.\n\nParameters\n----------\ny : int\n    the y of __init__", examples := [] }),
    .ok (.parameterDoc {}),
    .error .valueError ] := by rfl

/-- the cache after the first query holds `pkg.m.C`; after the second (numpy fallback to the constructor) `pkg.m.C.__init__` -/
example : (answer s0 (.parameterDoc "pkg.m.C.__init__" "x" "pkg/m/C")).map (·.2.cache.node) = .ok (some "pkg.m.C") := by rfl
example : (runAll s0 (qs.take 2)).length = 2 := by rfl

/-- a valid non-empty cache, and an invalid one from which the cached access does return a wrong docstring
    (so `Cache.Valid` is a real hypothesis) -/
example : Cache.Valid tree { node := some "pkg.m.C", doc := some classDoc } := by
  intro q h; cases h; rfl
example : ¬ Cache.Valid tree { node := some "pkg.m.C", doc := none } := by
  intro h
  have := h "pkg.m.C" rfl
  cases this
example : (getCached tree { node := some "pkg.m.C", doc := none } "pkg.m.C").map (fun r => r.1.isSome) = .ok false
    ∧ (lookupDoc tree "pkg.m.C").map (fun r => r.isSome) = .ok true := by
  constructor <;> rfl

/-! generator side: description lines, a documented and an undocumented parameter, named and unnamed
    results (one without description), an example with a non-code line -/
def pX : Parameter :=
  { id := "p/x", name := "x_val", isOptional := false, default := .none, assignedBy := .positionOrName,
    doc := { description := "the x\n\nsecond paragraph" }, type := none }
def pY : Parameter :=
  { id := "p/y", name := "y", isOptional := false, default := .none, assignedBy := .positionOrName,
    doc := {}, type := none }

set_option maxRecDepth 1000000 in
example : sdsDocstring true "Line one.\nLine two.\n" "    " [pX, pY]
    [{ description := "first" }, { description := "" }, { description := "named", name := "out_val" }, { description := "third\nmore" }]
    [">>> f(1)\n... + 2\n3"]
  = "    /**\n     * Line one.\n     * Line two.\n     *\n     * @param xVal the x\n     *\n     * second paragraph\n     *\n     * @result result1 first\n     * @result outVal named\n     * @result result2 third\n     * more\n     *\n     * @example\n     * pipeline example {\n     *     // f(1)\n     *     // + 2\n     * }\n     */\n" := by decide +kernel

example : splitLines (sdsDocstringDescription "\nFirst line.\n\nThird line.\n\n" "  ")
    = ["  /**", "   * First line.", "   *", "   * Third line.", "   */", ""] := by decide +kernel

end StubGen.C13
