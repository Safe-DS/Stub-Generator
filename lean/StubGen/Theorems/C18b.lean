/-
C18 — whole-tool part: how the package-wide alias table reacts to unrelated modules.
-/
import StubGen.Theorems.C08b

namespace StubGen.C18b

open StubGen List

/-- Expressions of an added module only ADD candidates: every candidate of a short name stays. -/
theorem alias_table_monotone (pkg : String) (facts extra : List AliasFact) (name target : String)
    (h : target ∈ lookupA (getAliases pkg facts) name) :
    target ∈ lookupA (getAliases pkg (facts ++ extra)) name := by
  rw [C08b.alias_table_spec] at h ⊢
  obtain ⟨f, hf, hs⟩ := h
  exact ⟨f, List.mem_append_left _ hf, hs⟩

/-- LOCALITY of the alias table: the candidates of a short name change only through added expressions that contribute
    under that very name — expressions of an unrelated module that never mention the name leave `aliases[name]` (as a set)
    untouched. -/
theorem alias_lookup_local (pkg : String) (facts extra : List AliasFact) (name : String)
    (h : ∀ f ∈ extra, ∀ t, aliasStep pkg f ≠ .add name t) (target : String) :
    target ∈ lookupA (getAliases pkg (facts ++ extra)) name ↔ target ∈ lookupA (getAliases pkg facts) name := by
  rw [C08b.alias_table_spec, C08b.alias_table_spec]
  constructor
  · rintro ⟨f, hf, hs⟩
    rcases List.mem_append.1 hf with hf | hf
    · exact ⟨f, hf, hs⟩
    · exact absurd hs (h f hf target)
  · rintro ⟨f, hf, hs⟩
    exact ⟨f, List.mem_append_left _ hf, hs⟩

theorem getAliasesFrom_append (pkg : String) : ∀ (a b : List AliasFact) (t : AliasTable),
    getAliasesFrom pkg t (a ++ b) = getAliasesFrom pkg (getAliasesFrom pkg t a) b
  | [], b, t => rfl
  | f :: a, b, t => by
    simp only [List.cons_append, getAliasesFrom]
    cases aliasStep pkg f with
    | skip => exact getAliasesFrom_append pkg a b t
    | add n fn => exact getAliasesFrom_append pkg a b _

theorem getAliasesFrom_skips (pkg : String) : ∀ (b : List AliasFact) (t : AliasTable),
    (∀ f ∈ b, aliasStep pkg f = .skip) → getAliasesFrom pkg t b = t
  | [], t, _ => rfl
  | f :: b, t, h => by
    simp only [getAliasesFrom, h f (by simp)]
    exact getAliasesFrom_skips pkg b t (fun g hg => h g (by simp [hg]))

/-- Expressions that are no alias candidates (of a module outside the package, of functions, of plain values …) leave the
    table exactly as it is: adding a module all of whose looked-at expressions are skipped changes NOTHING of the table —
    and therefore nothing of the analysis of any other module (`C08b.analysis_reads_alias_sets`). -/
theorem alias_table_ignores_skipped (pkg : String) (facts extra : List AliasFact)
    (h : ∀ f ∈ extra, aliasStep pkg f = .skip) : getAliases pkg (facts ++ extra) = getAliases pkg facts := by
  unfold getAliases
  rw [getAliasesFrom_append, getAliasesFrom_skips pkg extra _ h]

/-- COUNTEREXAMPLE to full locality (why C18's analyser half is "partial"): the table is keyed by SHORT name, so an
    unrelated module that reuses a class name adds a second candidate for the first module's name. -/
theorem same_short_name_interferes :
    lookupA (getAliases "p" [{ kind := .nameExpr, name := "c", val := .instance "Config" "p.a.Config" }]) "Config" = ["p.a.Config"]
    ∧ lookupA (getAliases "p" ([{ kind := .nameExpr, name := "c", val := .instance "Config" "p.a.Config" }]
        ++ [{ kind := .nameExpr, name := "d", val := .instance "Config" "p.zz.Config" }])) "Config" = ["p.a.Config", "p.zz.Config"] := by
  decide +kernel

/-- COUNTEREXAMPLE (DESIGN A26): "in the package" is the SUBSTRING test `package_name in fullname`; for a package called
    `b` every `builtins.*` name counts as part of the package. -/
theorem substring_package_test :
    aliasStep "b" { kind := .nameExpr, name := "n", val := .instance "int" "builtins.int" } = .add "int" "builtins.int"
    ∧ aliasStep "pkg" { kind := .nameExpr, name := "n", val := .instance "int" "builtins.int" } = .skip := by
  decide +kernel

end StubGen.C18b
