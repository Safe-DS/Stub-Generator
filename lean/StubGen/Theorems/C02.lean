/-
C02 (lexical half) — every identifier the generator emits is a legal Safe-DS `ID` token, keywords
are back-quoted, string literals and documentation comments are closed — and the exact conditions
on the analysed package under which this is true (names outside `Convertible`; docstrings containing `*/` are NOT
escaped by the tool: known finding, kept as a closed counterexample; string values ARE escaped since repair d913d69).

Token classes: `Spec/Tokens.lean`.  Helper lemmas (`lx_…`): `Proofs/Lexical.lean`.
-/
import StubGen.Proofs.Lexical
import StubGen.Proofs.PathConv
import StubGen.Proofs.Params
import StubGen.Model.Analyze

namespace StubGen.C02

open Spec

/-! ## 1. keyword escaping -/

/-- the escape table is exactly the keyword list of the grammar -/
theorem escapeKeyword_eq (n : String) :
    escapeKeyword n = if isKeyword n then "`" ++ n ++ "`" else n := lx_escapeKeyword_eq n

/-- a legal identifier, keyword or not, is emitted as one `ID` token -/
theorem escapeKeyword_token (n : String) (h : isIdent n.toList = true) :
    isIdentToken (escapeKeyword n) = true := lx_escapeKeyword_token h

/-- exactly the keywords are changed -/
theorem escapeKeyword_fix_iff (n : String) : escapeKeyword n = n ↔ ¬ isKeyword n = true := by
  rw [lx_escapeKeyword_eq]
  constructor
  · intro h hk
    rw [if_pos hk] at h
    exact lx_backquote_ne n h
  · intro hk
    rw [if_neg hk]

/-- every keyword is a legal identifier, hence its back-quoted form is a token; unquoted it is not -/
theorem keyword_tokens : ∀ k ∈ keywords33,
    isIdentToken (escapeKeyword k) = true ∧ isIdentToken k = false := fun k hk =>
  have h := lx_keywords_ident k hk
  ⟨lx_escapeKeyword_token h, lx_keyword_not_token (List.contains_iff_mem.2 hk) h⟩

/-! ## 2. names that go through convert + escape

Class, attribute, function, property, parameter, result, enum-member and type-parameter names are
all emitted as `escapeKeyword (convertName n env.safe cls)`. -/

/-- flag off, the name is emitted verbatim: a convertible name is in particular a legal identifier -/
theorem convertible_isIdent (cs : List Char) (h : Convertible cs = true) : isIdent cs = true :=
  lx_convertible_isIdent h

theorem rendered_name_ident (n : String) (safe cls : Bool) (h : Convertible n.toList = true) :
    isIdent (convertName n safe cls).toList = true := by
  cases safe with
  | true => exact C09.convert_on_legal n cls h
  | false => rw [C09.convert_off]; exact lx_convertible_isIdent h

theorem rendered_name_token (n : String) (safe cls : Bool) (h : Convertible n.toList = true) :
    isIdentToken (escapeKeyword (convertName n safe cls)) = true :=
  lx_escapeKeyword_token (rendered_name_ident n safe cls h)

/-- flag off, the weaker hypothesis "legal identifier" is enough (`_1` is emitted as `_1`) -/
theorem rendered_name_token_off (n : String) (cls : Bool) (h : isIdent n.toList = true) :
    isIdentToken (escapeKeyword (convertName n false cls)) = true := by
  rw [C09.convert_off]; exact lx_escapeKeyword_token h

/-! ## 3. outside `Convertible` the rendering is not a token (known finding, DESIGN A8) -/

/-- `__` is a legal Python identifier; with the flag on it is rendered as the empty string -/
example : isIdent "__".toList = true ∧ Convertible "__".toList = false ∧
    escapeKeyword (convertName "__" true) = "" ∧ isIdentToken (escapeKeyword (convertName "__" true)) = false := by decide +kernel
/-- `_1` is a legal Python identifier; with the flag on it is rendered as `1` -/
example : isIdent "_1".toList = true ∧ Convertible "_1".toList = false ∧
    escapeKeyword (convertName "_1" true) = "1" ∧ isIdentToken (escapeKeyword (convertName "_1" true)) = false := by decide +kernel
/-- with the flag off both are fine -/
example : isIdentToken (escapeKeyword (convertName "__" false)) = true ∧
    isIdentToken (escapeKeyword (convertName "_1" false)) = true := by decide +kernel
/-- non-vacuity: conversion can produce a keyword, which is then back-quoted -/
example : Convertible "_val".toList = true ∧ escapeKeyword (convertName "_val" true) = "`val`" ∧
    Convertible "in_".toList = true ∧ escapeKeyword (convertName "in_" true) = "`in`" := by decide +kernel

/-! ## 5. string literals -/

/-- EVERY string literal value is one closed `STRING` token: backslashes, quotes and line breaks are escaped (repair
    d913d69; before it a quote inside the value closed the literal early and a line break broke it) -/
theorem string_literal_closed (s : String) : isStringToken (Lit.render (.str s)) = true := lx_escape_closed s

/-- … the same function renders the string DEFAULT VALUES in the analyser (`_get_parameter_type_and_default_value`):
    every Python string default reaches the API as one closed `STRING` token -/
theorem string_default_value_closed (fid v : String) :
    ∃ t, defaultOf fid (.str v) = (.str t, false, []) ∧ isStringToken t = true :=
  ⟨_, rfl, lx_escape_closed v⟩

/-- a default value that begins with a quote is neither `()` nor `{}`: it is emitted as it stands -/
private theorem defaultString_quoted (a : Assign) {s : String} {cs : List Char} (hs : s.toList = '"' :: cs) (st : St) :
    defaultString a (.str s) st = .ok (s, st) := by
  have hne : ∀ t : String, t.toList.head? ≠ some '"' → (s == t) = false := fun t ht => by
    rw [beq_eq_false_iff_ne]; intro e; rw [← e, hs] at ht; exact ht rfl
  simp only [defaultString, hne "()" (by decide), hne "{}" (by decide), Bool.and_false, Bool.false_eq_true, if_false]
  rfl

/-- the generator emits a string default unchanged, whatever kind of parameter it belongs to: with the text the analyser
    produces (`escapeStringLiteral v`) … -/
theorem string_default_emitted (a : Assign) (v : String) (st : St) :
    ∃ r, defaultString a (.str (escapeStringLiteral v)) st = .ok (r, st) ∧ r = escapeStringLiteral v ∧
      isStringToken r = true :=
  ⟨_, defaultString_quoted a (by unfold escapeStringLiteral; rw [String.toList_ofList]) st, rfl, lx_escape_closed v⟩

/-- … and with any other pre-quoted text whose body needs no escape (API files written by hand or by older versions) -/
theorem string_default_closed (a : Assign) (v : String) (st : St) (h : stringBodySafe v.toList = true) :
    ∃ r, defaultString a (.str ("\"" ++ v ++ "\"")) st = .ok (r, st) ∧ r = "\"" ++ v ++ "\"" ∧
      isStringToken r = true :=
  ⟨_, defaultString_quoted a (cs := v.toList ++ ['"']) (by simp [String.toList_append]) st, rfl, lx_string_closed h⟩

/-- what was written before the repair, and what is written now -/
example : isStringToken "\"a\"b\"" = false ∧ Lit.render (.str "a\"b") = "\"a\\\"b\"" ∧
    isStringToken (Lit.render (.str "a\"b")) = true := by decide +kernel
example : Lit.render (.str "a\nb") = "\"a\\nb\"" ∧ Lit.render (.str "C:\\dir") = "\"C:\\\\dir\"" := by decide +kernel
/-- an escape sequence the Python string already spells out is escaped again (the value is data, not Safe-DS source) -/
example : Lit.render (.str "a\\nb") = "\"a\\\\nb\"" := by decide +kernel

/-! ## 6. parameters -/

/-- name and annotation of a rendered parameter, whatever its type and default value do -/
theorem param_name_eq (env : Env) (p : Parameter) (st st' : St) (out : ParamOut)
    (h : createParameter env p st = .ok (out, st')) :
    out.name = escapeKeyword (convertName p.name env.safe) ∧
    out.annotation = (if convertName p.name env.safe ≠ p.name then "@PythonName(\"" ++ p.name ++ "\") " else "") := by
  obtain ⟨hann, hname⟩ := createParameter_name h
  refine ⟨hname, hann.trans ?_⟩
  show (if _ then "@PythonName(\"" ++ p.name ++ "\")" ++ " " else "") = _
  rw [String.append_assoc]; rfl

theorem param_tokens (env : Env) (p : Parameter) (st st' : St) (out : ParamOut)
    (h : createParameter env p st = .ok (out, st')) (hp : Convertible p.name.toList = true) :
    isIdentToken out.name = true ∧
    (out.annotation = "" ∨ out.annotation = "@PythonName(\"" ++ p.name ++ "\") ") ∧
    isStringToken ("\"" ++ p.name ++ "\"") = true := by
  obtain ⟨h1, h2⟩ := param_name_eq env p st st' out h
  refine ⟨?_, ?_, lx_string_closed (lx_convertible_safe hp)⟩
  · rw [h1]; exact rendered_name_token _ _ _ hp
  · rw [h2]; split
    · right; rfl
    · left; rfl

/-- non-vacuity: a successful run, its name and annotation -/
example : ∃ out st', createParameter ⟨{}, true⟩
      { id := "f/in_", name := "in_", isOptional := false, default := .none, assignedBy := .positionOrName, type := none } {}
        = .ok (out, st') ∧ out.name = "`in`" ∧ out.annotation = "@PythonName(\"in_\") " :=
  ⟨_, _, rfl, by decide, by decide⟩

/-! ## 7. enums -/

/-- the exact text of an enum: the enum name is NOT converted, only keyword-escaped; every instance
    goes through convert + escape -/
theorem enum_tokens (env : Env) (e : Enum) :
    createEnumString env e =
      sdsDocstring env.safe e.doc.description "" [] [] e.doc.examples ++ "enum " ++ escapeKeyword e.name
        ++ (if e.instances = [] then ""
            else " {\n" ++ String.join (e.instances.map fun i =>
              "    " ++ (if convertName i.name env.safe ≠ i.name then "@PythonName(\"" ++ i.name ++ "\") " else "")
                ++ escapeKeyword (convertName i.name env.safe) ++ "\n") ++ "}") := by
  unfold createEnumString
  by_cases h : e.instances = []
  · simp [h]
  · have h' : e.instances.isEmpty = false := by simpa using h
    have hm : (e.instances.map fun i =>
        indentation ++ (if convertName i.name env.safe != i.name then nameAnnotation i.name ++ " " else "")
          ++ escapeKeyword (convertName i.name env.safe) ++ "\n") = e.instances.map fun i =>
              "    " ++ (if convertName i.name env.safe ≠ i.name then "@PythonName(\"" ++ i.name ++ "\") " else "")
                ++ escapeKeyword (convertName i.name env.safe) ++ "\n" := by
      apply List.map_congr_left
      intro i _
      by_cases hc : convertName i.name env.safe = i.name
      · simp [hc, indentation, Generated.indentation]
      · simp [hc, indentation, Generated.indentation, nameAnnotation, Generated.nameAnnotation, String.append_assoc]
    simp only [h', Bool.false_eq_true, if_false, h, hm]
    simp only [String.append_assoc]
    rfl

/-- the identifiers of an enum are tokens: the name when it is a legal identifier, each instance
    when it is convertible; the annotation's string body is then safe, too -/
theorem enum_name_token (e : Enum) (h : isIdent e.name.toList = true) :
    isIdentToken (escapeKeyword e.name) = true := lx_escapeKeyword_token h

theorem enum_instance_token (safe : Bool) (i : EnumInstance) (h : Convertible i.name.toList = true) :
    isIdentToken (escapeKeyword (convertName i.name safe)) = true ∧
    isStringToken ("\"" ++ i.name ++ "\"") = true :=
  ⟨rendered_name_token _ _ _ h, lx_string_closed (lx_convertible_safe h)⟩

/-! ## 8. documentation comments -/

/-- (a) the description part of a documentation comment contains the terminator only if the
    docstring text or the indentation does: a `*` the generator puts at the end of an empty line
    is followed by a newline, the ` * ` in front of a non-empty line by a space -/
theorem description_part_safe (d indent : String) (hd : commentBodySafe d = true)
    (hi : commentBodySafe indent = true) : commentBodySafe (descriptionPart d indent) = true := by
  rw [lx_safe_iff, lx_descriptionPart_scan d indent hd hi]; rfl

theorem description_empty (indent : String) : sdsDocstringDescription "" indent = "" := by
  simp [sdsDocstringDescription]

/-- (b) a non-empty description gives `indent ++ comment ++ "\n"` where `comment` is ONE closed block
    comment (the first `*/` after the opening `/*` is the final one), provided the docstring text
    does not contain `*/`.  `commentBodySafe indent` holds for every indentation made of spaces
    (`comment_closed_spaces`). -/
theorem comment_closed (d indent : String) (hne : d ≠ "") (hd : commentBodySafe d = true)
    (hi : commentBodySafe indent = true) :
    let body := indent ++ " * " ++ descriptionPart d indent
    sdsDocstringDescription d indent = indent ++ ("/**\n" ++ body ++ indent ++ " */") ++ "\n" ∧
    isCommentToken ("/**\n" ++ body ++ indent ++ " */") = true ∧
    commentBodySafe body = true := by
  refine ⟨lx_sdsDocstringDescription_form d indent hne, lx_docComment_token d indent hd hi, ?_⟩
  rw [lx_safe_iff]
  obtain ⟨bi, hbi⟩ := Option.isSome_iff_exists.mp ((lx_safe_iff indent).mp hi)
  simp only [String.toList_append]
  rw [List.append_assoc, lx_scan_append, hbi]
  have : (" * " : String).toList = [' ', '*', ' '] := by decide +kernel
  simp only [Option.bind_some, this, List.cons_append, List.nil_append, lx_scan_sp, lx_scan_star]
  rw [lx_descriptionPart_scan d indent hd hi]; rfl

theorem comment_closed_spaces (d indent : String) (hne : d ≠ "") (hd : commentBodySafe d = true)
    (hi : indent.toList.all (· = ' ') = true) :
    sdsDocstringDescription d indent
      = indent ++ ("/**\n" ++ (indent ++ " * " ++ descriptionPart d indent) ++ indent ++ " */") ++ "\n" ∧
    isCommentToken ("/**\n" ++ (indent ++ " * " ++ descriptionPart d indent) ++ indent ++ " */") = true :=
  ⟨(comment_closed d indent hne hd (lx_spaces_safe indent hi)).1,
   (comment_closed d indent hne hd (lx_spaces_safe indent hi)).2.1⟩

/-- known finding: docstring text is not escaped.  A glob pattern in the description closes the
    comment early: the text up to the first `*/` is a complete comment, the whole is not. -/
example : commentBodySafe "Glob **/*.py files." = false ∧
    sdsDocstringDescription "Glob **/*.py files." "" = "/**\n * Glob **/*.py files.\n */\n" ∧
    isCommentToken "/**\n * Glob **/*.py files.\n */" = false ∧
    isCommentToken "/**\n * Glob **/" = true := by decide +kernel
/-- non-vacuity of (b): a two-paragraph description -/
example : sdsDocstringDescription "A.\n\nB*" "    " = "    /**\n     * A.\n     *\n     * B*\n     */\n" ∧
    isCommentToken "/**\n     * A.\n     *\n     * B*\n     */" = true := by decide +kernel

/-! ## 4. dotted paths -/

/-- a dotted path of legal identifiers: each segment is escaped on its own … -/
theorem escapePath_segments (p : String) (h : ∀ s ∈ pySplit p '.', isIdent s.toList = true) :
    pySplit (escapePath p) '.' = (pySplit p '.').map escapeKeyword := lx_escapePath_segments p h

/-- … hence the escaped path is a qualified name -/
theorem escapePath_qualified (p : String) (h : ∀ s ∈ pySplit p '.', isIdent s.toList = true) :
    isQualifiedToken (escapePath p) = true := by
  unfold isQualifiedToken
  rw [lx_escapePath_segments p h, List.all_eq_true]
  intro x hx
  obtain ⟨n, hn, rfl⟩ := List.mem_map.mp hx
  exact lx_escapeKeyword_token (h n hn)

/-- REPAIRED (8e9a214; before, `convertName` treated a dotted path as ONE name: `pkg._private.mod` became
    `pkg.Private.mod`, and a segment of underscores only vanished — `a._.b` became `a..b`, not a qualified name): the
    segments of the converted path are the converted segments -/
theorem converted_path_segments (p : String) (safe : Bool) :
    pySplit (convertPath p safe) '.' = (pySplit p '.').map (fun s => convertName s safe) :=
  pc_split_convertPath p safe

/-- when every segment is convertible, every segment of the converted path is a legal identifier … -/
theorem converted_path_segments_ident (p : String) (safe : Bool)
    (h : ∀ s ∈ pySplit p '.', Convertible s.toList = true) :
    ∀ s ∈ pySplit (convertPath p safe) '.', isIdent s.toList = true := by
  rw [converted_path_segments]
  intro s hs
  obtain ⟨q, hq, rfl⟩ := List.mem_map.mp hs
  cases safe with
  | true => exact C09.convert_on_legal q false (h q hq)
  | false => rw [C09.convert_off]; exact lx_convertible_isIdent (h q hq)

/-- … and the package / import path that is printed is a qualified name -/
theorem converted_path_qualified (p : String) (safe : Bool)
    (h : ∀ s ∈ pySplit p '.', Convertible s.toList = true) :
    isQualifiedToken (escapePath (convertPath p safe)) = true :=
  escapePath_qualified _ (converted_path_segments_ident p safe h)

/-- the conversion of a path is, by definition, the segment-wise conversion -/
theorem converted_path_exact (p : String) (safe : Bool) :
    convertPath p safe = joinWith "." ((pySplit p '.').map (convertName · safe)) := rfl

/-- an inner segment with a leading underscore stays lowerCamelCase; trailing underscores and underscores inside a segment -/
example : convertPath "pkg._private.mod" true = "pkg.private.mod" ∧ convertPath "my_pkg_.sub_mod_.x" true = "myPkg.subMod.x" ∧
    convertPath "concurrent.futures._base" true = "concurrent.futures.base" := by decide +kernel
/-- a segment `_` is kept (and back-quoted as the keyword it is); outside `Convertible` segments the result need not be a
    qualified name: a segment `_1` becomes `1` -/
example : escapePath (convertPath "a._.b" true) = "a.`_`.b" ∧ isQualifiedToken (escapePath (convertPath "a._.b" true)) = true ∧
    isQualifiedToken (escapePath (convertPath "a._1.b" true)) = false ∧ convertPath "a._1.b" true = "a.1.b" := by decide +kernel
/-- keyword segments are back-quoted one by one -/
example : escapePath (convertPath "my_pkg.val.in_" true) = "myPkg.`val`.`in`" ∧
    isQualifiedToken "myPkg.`val`.`in`" = true := by decide +kernel

/-! ## 9. the package header -/

theorem header_eq (env : Env) (pkg : String) :
    packageHeader env pkg =
      (if pkg ≠ convertPath pkg env.safe then "@PythonModule(\"" ++ pkg ++ "\")\n" else "")
        ++ "package " ++ escapePath (convertPath pkg env.safe) ++ "\n" := by
  unfold packageHeader
  by_cases h : pkg = convertPath pkg env.safe
  · simp [← h]
  · simp [h]

/-- flag off: no annotation, the package path is printed verbatim (keywords back-quoted) and is a
    qualified name when its segments are legal identifiers -/
theorem header_tokens_off (env : Env) (pkg : String) (hs : env.safe = false)
    (h : ∀ s ∈ pySplit pkg '.', isIdent s.toList = true) :
    packageHeader env pkg = "package " ++ escapePath pkg ++ "\n" ∧ isQualifiedToken (escapePath pkg) = true := by
  refine ⟨?_, escapePath_qualified pkg h⟩
  rw [header_eq, hs, pc_convertPath_off]
  simp

/-- either flag: with convertible segments the package path is a qualified name and the string
    body of the `@PythonModule` annotation is safe -/
theorem header_tokens (env : Env) (pkg : String) (h : ∀ s ∈ pySplit pkg '.', Convertible s.toList = true) :
    isQualifiedToken (escapePath (convertPath pkg env.safe)) = true ∧
    isStringToken ("\"" ++ pkg ++ "\"") = true :=
  ⟨converted_path_qualified pkg env.safe h,
   lx_string_closed (lx_path_safe pkg (fun s hs => lx_convertible_safe (h s hs)))⟩

/-- the import lines `from <path> import <name>` of `createImportsString`: an imported qualified
    name has at least two segments (`addToImports` drops names without a module path); when they are
    convertible, the `from` path is a qualified name and the imported name a token -/
theorem import_line_tokens (imp : String) (safe : Bool) (h2 : 2 ≤ (splitDot imp).length)
    (h : ∀ s ∈ splitDot imp, Convertible s.toList = true) :
    isQualifiedToken (escapePath (convertPath (joinWith "." (dropLast' (splitDot imp))) safe)) = true ∧
    isIdentToken (escapeKeyword (convertName (lastD "" (splitDot imp)) safe)) = true := by
  unfold splitDot at *
  refine ⟨converted_path_qualified _ safe ?_, rendered_name_token _ _ _ (h _ (lastD_mem _ _ ?_))⟩
  · rw [lx_pySplit_module_part imp h2]
    exact fun s hs => h s (mem_dropLast' s _ hs)
  · intro e; rw [e] at h2; simp at h2

/-- a name without module path would give `from  import x` — excluded by `addToImports` -/
example : joinWith "." (dropLast' (splitDot "x")) = "" ∧ isQualifiedToken (escapePath "") = false := by decide +kernel

end StubGen.C02
