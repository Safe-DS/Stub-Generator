/-
C04 — "No declaration that is private by Python convention … appears in any stub file, unless a package
`__init__` re-exports it under a public name."  GENERATOR side, on the emission log: the generator decides
by the `isPublic` flags of the API model (the re-export exemption is the analyser's business: it is what
sets `isPublic`).  Exact logs: `StubGen.C03`; machinery: `StubGen.Proofs.Emission`.

Findings stated as they are:
* K04-private-enum — `createModuleString` emits EVERY enum; `Enum` has no `isPublic` field at all, so an enum
  named `_E` is emitted (`private_enum_is_logged`).
* inside an INLINED private base the filter is by NAME, not by flag: a method is dropped only if it is
  private AND its name starts with `_`; inner classes are kept iff their name does not start with `_`
  (`inlined_methods_rule`, see `C03.internalLog_eq`).
-/
import StubGen.Proofs.Emission

namespace StubGen.C04

open StubGen

/-- every entry `createFunctions` logs is `fun`/`moved` of a PUBLIC function of the list; a function with
    `isPublic = false` leaves no entry -/
theorem private_function_not_logged (env : Env) (inRe : Bool) (fs : List Function) (st st' : St) (text : String)
    (h : createFunctions env inRe fs st = .ok (text, st')) :
    ∃ Δ, st'.log = st.log ++ Δ ∧
      ∀ e ∈ Δ, ∃ f ∈ fs, f.isPublic = true ∧ e.2 = f.id ∧ (e.1 = "fun" ∨ e.1 = "moved") := by
  refine ⟨_, (n03_createFunctions_tr env inRe fs st text st' h).log, ?_⟩
  intro e he
  rw [n03_functionsLog_eq_map, List.mem_map] at he
  obtain ⟨f, hf, rfl⟩ := he
  obtain ⟨hf1, hf2⟩ := List.mem_filter.1 hf
  refine ⟨f, hf1, by simpa using hf2, rfl, ?_⟩
  dsimp only
  split
  · exact Or.inr rfl
  · exact Or.inl rfl

/-- the top-level entries `createClasses` logs are `class`/`moved` of classes with `isPublic` that do not
    derive from an exception; a private class leaves no top-level entry -/
theorem private_class_not_logged (env : Env) (inRe : Bool) (cs : List Class) (st st' : St) (text : String)
    (h : createClasses env inRe cs st = .ok (text, st')) :
    ∃ Δ, st'.log = st.log ++ Δ ∧
      ∀ e ∈ n03_top 0 Δ, ∃ c ∈ cs, c.isPublic = true ∧ c.inheritsFromException = false ∧ e.2 = c.id ∧
        (e.1 = "class" ∨ e.1 = "moved") := by
  refine ⟨_, (n03_createClasses_tr env inRe cs st text st' h).log, ?_⟩
  intro e he
  rw [n03_top_classesLog, List.mem_map] at he
  obtain ⟨c, hc, rfl⟩ := he
  obtain ⟨hc1, hc2⟩ := List.mem_filter.1 hc
  have : c.isPublic = true ∧ c.inheritsFromException = false := by simpa [n03_clsShown] using hc2
  refine ⟨c, hc1, this.1, this.2, rfl, ?_⟩
  dsimp only
  split
  · exact Or.inr rfl
  · exact Or.inl rfl

/-- module level: seen from the top, a module stub consists of its public functions, its public
    non-exception classes and its enums — nothing else -/
theorem module_top_level (env : Env) (m : Module) (st st' : St) (r : String × String)
    (h : createModuleString env m st = .ok (r, st')) :
    ∃ Δ, st'.log = st.log ++ Δ ∧
      n03_top 0 Δ =
        ((m.functions.filter (·.isPublic)).map fun f =>
          (if n03_movedB (getModuleId st) false (n03_modInRe env m) f.reexportedBy then "moved" else "fun", f.id))
        ++ ((m.classes.filter fun c => c.isPublic && !c.inheritsFromException).map fun c =>
          (if n03_movedB (getModuleId st) false (n03_modInRe env m) c.reexportedBy then "moved" else "class", c.id))
        ++ m.enums.map fun e => ("enum", e.id) := by
  refine ⟨_, (n03_createModuleString_tr env m st r st' h).log, ?_⟩
  have hf : ∀ e ∈ n03_functionsLog (getModuleId st) (n03_modInRe env m) m.functions,
      e.1 ≠ "class" ∧ e.1 ≠ "endclass" := by
    intro e he
    rw [n03_functionsLog_eq_map, List.mem_map] at he
    obtain ⟨f, _, rfl⟩ := he
    dsimp only
    split
    · exact ⟨by decide, by decide⟩
    · exact ⟨by decide, by decide⟩
  have he : ∀ e ∈ m.enums.map (fun e => (("enum", e.id) : LogEntry)), e.1 ≠ "class" ∧ e.1 ≠ "endclass" := by
    intro e he
    rw [List.mem_map] at he
    obtain ⟨x, _, rfl⟩ := he
    exact ⟨by show "enum" ≠ "class"; decide, by show "enum" ≠ "endclass"; decide⟩
  have hcb : n03_Bal (n03_classesLog env (getModuleId st) (n03_modInRe env m) m.classes) :=
    n03_Bal.flatMap _ _ fun c _ => n03_clsLog_bal env _ _ _ c
  rw [n03_moduleLog, List.append_assoc, n03_top_bal_zero (n03_Bal.leaves _ hf), n03_top_bal_zero hcb,
    n03_top_leaves _ hf, n03_top_leaves _ he, n03_top_classesLog, n03_functionsLog_eq_map, List.append_assoc]
  rfl

/-- class level: every `attr` entry belongs to a public attribute (whose type is not a bare type variable) -/
theorem private_attribute_not_logged (env : Env) (inner : String) (as : List Attribute) (st st' : St)
    (r : List String × List String) (h : createAttributes env inner as st = .ok (r, st')) :
    ∃ Δ, st'.log = st.log ++ Δ ∧ ∀ e ∈ Δ, ∃ a ∈ as, a.isPublic = true ∧ e = ("attr", a.id) := by
  refine ⟨_, (n03_createAttributes_tr env inner as st r st' h).2.2.log, ?_⟩
  intro e he
  simp only [n03_attrLog, List.mem_map] at he
  obtain ⟨a, ha, rfl⟩ := he
  obtain ⟨h1, h2⟩ := List.mem_filter.1 ha
  have : a.isPublic = true ∧ isTypeVarType a.type = false := by simpa [n03_attrShown] using h2
  exact ⟨a, h1, this.1, rfl⟩

/-- class level, ordinary class: every `fun`/`prop` entry belongs to a public method -/
theorem private_method_not_logged (env : Env) (inner : String) (already : List String) (ms : List Function)
    (st st' : St) (r : List String × List String × List String)
    (h : createMethods env inner false already ms st = .ok (r, st')) :
    ∃ Δ, st'.log = st.log ++ Δ ∧
      ∀ e ∈ Δ, ∃ m ∈ ms, m.isPublic = true ∧ e = (if m.isProperty then "prop" else "fun", m.id) := by
  refine ⟨_, (n03_createMethods_tr env inner false already ms st r st' h).2.2.2.log, ?_⟩
  intro e he
  simp only [n03_methLog, List.mem_map] at he
  obtain ⟨m, hm, rfl⟩ := he
  obtain ⟨h1, h2⟩ := List.mem_filter.1 hm
  have hs : methodSkipped m false already = false := by simpa using h2
  refine ⟨m, h1, ?_, rfl⟩
  cases hp : m.isPublic
  · simp [methodSkipped, hp] at hs
  · rfl

/-- class level: only the PUBLIC inner classes of a class get a block (the class block is
    `C03.class_log_shape`; this is its inner-classes part, seen from the top) -/
theorem private_inner_class_not_logged (env : Env) (fuel : Nat) (cs : List Class) :
    n03_top 0 ((cs.filter (·.isPublic)).flatMap (n03_classLog env (fuel + 1))) =
      (cs.filter (·.isPublic)).map fun ic => ("class", ic.id) := by
  induction cs.filter (·.isPublic) with
  | nil => rfl
  | cons c cs ih =>
    rw [List.flatMap_cons, n03_top_bal_zero ((n03_classLog_bal env _).1 c), ih, n03_classLog_members,
      n03_top_block _ _ (n03_members_bal env fuel c)]
    rfl

/-- inlined private base: the rule is by name — a method is kept iff it is public or its name has no `_`
    prefix (and its name is not yet defined) -/
theorem inlined_methods_rule (m : Function) (already : List String) :
    methodSkipped m true already = false ↔
      ((m.isPublic = true ∨ isInternal m.name = false) ∧ m.name ∉ already) := by
  unfold methodSkipped
  cases m.isPublic <;> cases isInternal m.name <;> simp

/-! ### K04-private-enum, kernel-checked -/

private def mEnum : Module :=
  { id := "pkg/mod", name := "mod", enums := [{ id := "pkg/mod/_E", name := "_E" }] }

/-- an enum with a `_` name is emitted (log and text) -/
theorem private_enum_is_logged :
    (match callGenerator ⟨{}, true⟩ mEnum {} with
      | .ok (r, st') => (r.1, st'.log)
      | .error _ => ("", [])) =
    ("package pkg.mod\n\nenum _E\n", [("module", "pkg/mod"), ("enum", "pkg/mod/_E")]) := by
  decide +kernel

/-- non-vacuity of the filters: a private function, a private class and an exception class leave no entry -/
private def mPriv : Module :=
  { id := "pkg/mod", name := "mod",
    functions := [{ id := "pkg/mod/_g", name := "_g", isPublic := false },
                  { id := "pkg/mod/f", name := "f", isPublic := true }],
    classes := [{ id := "pkg/mod/_P", name := "_P", isPublic := false },
                { id := "pkg/mod/MyError", name := "MyError", isPublic := true, inheritsFromException := true },
                { id := "pkg/mod/C", name := "C", isPublic := true,
                  attributes := [{ id := "pkg/mod/C/_a", name := "_a", isPublic := false, isStatic := false,
                                   type := none }],
                  methods := [{ id := "pkg/mod/C/_m", name := "_m", isPublic := false }],
                  classes := [{ id := "pkg/mod/C/_I", name := "_I", isPublic := false }] }] }

example :
    (match callGenerator ⟨{}, true⟩ mPriv {} with
      | .ok (_, st') => st'.log
      | .error _ => []) =
    [("module", "pkg/mod"), ("fun", "pkg/mod/f"), ("class", "pkg/mod/C"), ("endclass", "pkg/mod/C")] := by
  decide +kernel

end StubGen.C04
