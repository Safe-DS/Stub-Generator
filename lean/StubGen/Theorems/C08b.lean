/-
C08 — whole-tool part: the output of `_run_stub_generator` does not depend on the order in which the file system
enumerates the directory, nor (for the alias table) on the order of mypy's expression-type dict.
-/
import StubGen.Proofs.Pipeline
import StubGen.Proofs.AliasCongr

namespace StubGen.C08b

open StubGen List

/-- `aliases[name]` is exactly the set of targets that some looked-at entry of `build_result.types` contributes under that
    short name — a statement about membership, so it does not mention any order. -/
theorem alias_table_spec (pkg : String) (facts : List AliasFact) (name target : String) :
    target ∈ lookupA (getAliases pkg facts) name ↔ ∃ f ∈ facts, aliasStep pkg f = .add name target := by
  unfold getAliases
  rw [mem_getAliasesFrom]
  simp [lookupA, assocGet?]

/-- The alias table as a dict of SETS does not depend on the iteration order of `build_result.types`. -/
theorem alias_table_order_independent (pkg : String) {facts facts' : List AliasFact} (h : facts ~ facts') (name target : String) :
    target ∈ lookupA (getAliases pkg facts) name ↔ target ∈ lookupA (getAliases pkg facts') name := by
  rw [alias_table_spec, alias_table_spec]
  constructor
  · rintro ⟨f, hf, hs⟩; exact ⟨f, h.mem_iff.mp hf, hs⟩
  · rintro ⟨f, hf, hs⟩; exact ⟨f, h.mem_iff.mpr hf, hs⟩

/-- The file list handed to mypy is CANONICAL (repair 67957ce: `sorted(root.glob(...))`): two enumeration orders of the
    directory give the same sorted listing, hence literally the same discovery result — the same files in the same order.
    (Before the repair the list order followed the enumeration; mypy's build-graph order followed it, and with it the
    order of `api.modules` — observable when two modules are written to one stub path, K10.) -/
theorem mypy_input_canonical (root : PathParts) (b : Bool) {files files' : List PathParts} (h : files ~ files') :
    discoverSorted root files b = discoverSorted root files' b := by
  unfold discoverSorted
  rw [pl_sortPaths_perm h]

/-- … in particular the analysed modules, in walk order, are the same -/
theorem get_api_enumeration_order (i : ToolInput) {files' : List PathParts} (h : i.files ~ files') :
    getApi { i with files := files' } = getApi i := by
  rw [pl_getApi_eq, pl_getApi_eq]
  exact congrArg (· >>= _) (mypy_input_canonical i.srcDir i.isTestRun h.symm)

/-- END TO END: two runs of the whole tool that differ only in the order in which `Path.glob` enumerates the `*.py` files
    (root adjustment, discovery, "no files" rejection, selection of the ASTs, alias table, analysis, API JSON text, stub
    generation, file writes) have the same result — the same error, or the same API file text and the same write log. -/
theorem tool_enumeration_order (i : ToolInput) {files' : List PathParts} (h : i.files ~ files') :
    runTool { i with files := files' } = runTool i :=
  pl_runTool_congr (get_api_enumeration_order i h) rfl rfl rfl

/-- The analysis reads the alias table only through look-ups by name, and `_find_alias` sorts the candidates: two alias
    tables with the same candidate SET for every short name — whatever the order of the keys and of the candidates —
    give the same API, the same warnings, the same error (congruence proved through every function of the analyser,
    `Proofs/AliasCongr`). -/
theorem analysis_reads_alias_sets (env : AEnv) (al' : AliasTable) (h : AliasEquiv env.aliases al')
    (docRoot : GNode) (mods : List SrcModule) :
    analyze env docRoot mods = analyze { env with aliases := al' } docRoot mods :=
  ac_analyze env al' h docRoot mods

/-- END TO END: two runs of the whole tool that differ only in the ORDER of mypy's expression-type dict
    (`build_result.types`: the order in which `_get_aliases` meets the expressions, hence the insertion order of the alias
    dict and of each of its candidate sets) end alike: the same error, or the same package, walked modules, API, warnings,
    API file text, stubs and write operations.  Only the alias table itself (a dict of sets) may be laid out differently. -/
theorem tool_expression_type_order (i : ToolInput) {facts' : List AliasFact} (h : i.aliasFacts ~ facts') :
    (runTool { i with aliasFacts := facts' }).map (fun o => { o with aliases := [] })
      = (runTool i).map (fun o => { o with aliases := [] }) := by
  refine pl_runTool_map_congr _ rfl rfl ?_
  cases hd : discoverSorted i.srcDir i.files i.isTestRun with
  | error e => exact Or.inl ⟨e, pl_getApi_error.2 (Or.inl hd), pl_getApi_error.2 (Or.inl hd)⟩
  | ok rd =>
    obtain ⟨root, d⟩ := rd
    have he : AliasEquiv (getAliases (pathStem root) i.aliasFacts) (getAliases (pathStem root) facts') :=
      ac_equiv_of_mem (ac_getAliases_inv _ _) (ac_getAliases_inv _ _)
        (alias_table_order_independent (pathStem root) h)
    have ha := ac_analyze { opts := i.opts, aliases := getAliases (pathStem root) i.aliasFacts, infoBases := i.infoBases }
      (getAliases (pathStem root) facts') he i.docRoot (selectModules i.graph d)
    cases hw : analyze { opts := i.opts, aliases := getAliases (pathStem root) i.aliasFacts, infoBases := i.infoBases }
        i.docRoot (selectModules i.graph d) with
    | error e =>
      exact Or.inl ⟨e, pl_getApi_error.2 (Or.inr ⟨root, d, hd, ha ▸ hw⟩), pl_getApi_error.2 (Or.inr ⟨root, d, hd, hw⟩)⟩
    | ok rw =>
      obtain ⟨r, ws⟩ := rw
      exact Or.inr ⟨_, _, pl_getApi_ok.2 ⟨root, d, r, ws, hd, ha ▸ hw, rfl⟩, pl_getApi_ok.2 ⟨root, d, r, ws, hd, hw, rfl⟩,
        rfl, rfl, fun _ _ => rfl⟩

/-! non-vacuity: a three-file listing in two orders; one short name contributed by two entries -/
example : [["/", "s", "p", "__init__.py"], ["/", "s", "p", "a.py"], ["/", "s", "p", "b.py"]]
    ~ [["/", "s", "p", "b.py"], ["/", "s", "p", "__init__.py"], ["/", "s", "p", "a.py"]] := by decide +kernel

def exFacts : List AliasFact :=
  [{ kind := .nameExpr, name := "x", val := .instance "C" "p.a.C" },
   { kind := .memberExpr, name := "C", fullname := "p.b.C", val := .callable "p.b.C" },
   { kind := .memberExpr, name := "helper", fullname := "p.a.helper", val := .callable "" },
   { kind := .nameExpr, name := "len", val := .callable "" }]

example : getAliases "p" exFacts = [("C", ["p.a.C", "p.b.C"])] := by decide +kernel
example : getAliases "p" exFacts.reverse = [("C", ["p.b.C", "p.a.C"])] := by decide +kernel

end StubGen.C08b
