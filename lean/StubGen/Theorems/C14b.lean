/-
C14 — whole-tool part: the warning option changes nothing of what `_run_stub_generator` writes.
-/
import StubGen.Proofs.Pipeline
import StubGen.Theorems.C14

namespace StubGen.C14b

open StubGen

theorem map_fst_cases {a1 a2 : Except PyErr (AnaResult × List String)} (h : a1.map Prod.fst = a2.map Prod.fst) :
    (∃ e, a1 = .error e ∧ a2 = .error e) ∨ (∃ r ws ws', a1 = .ok (r, ws) ∧ a2 = .ok (r, ws')) := by
  rcases a1 with e | ⟨a, ws⟩ <;> rcases a2 with e' | ⟨a', ws'⟩ <;> cases h
  · exact Or.inl ⟨_, rfl, rfl⟩
  · exact Or.inr ⟨_, _, _, rfl, rfl⟩

/-- `get_api` under the two settings: the same error, or results that differ in the warning list only -/
theorem getApi_warning_option (i : ToolInput) (w : Bool) :
    (∃ e, getApi { i with opts := { i.opts with warn := w } } = .error e ∧ getApi i = .error e) ∨
    (∃ a ws, getApi { i with opts := { i.opts with warn := w } } = .ok { a with warnings := ws } ∧ getApi i = .ok a) := by
  cases hd : discoverSorted i.srcDir i.files i.isTestRun with
  | error e => exact Or.inl ⟨e, pl_getApi_error.2 (Or.inl hd), pl_getApi_error.2 (Or.inl hd)⟩
  | ok rd =>
    obtain ⟨root, d⟩ := rd
    have hw := C14.warning_pure { opts := i.opts, aliases := getAliases (pathStem root) i.aliasFacts, infoBases := i.infoBases }
      w i.docRoot (selectModules i.graph d)
    rcases map_fst_cases hw with ⟨e, h1, h2⟩ | ⟨r, ws, ws', h1, h2⟩
    · exact Or.inl ⟨e, pl_getApi_error.2 (Or.inr ⟨root, d, hd, h2⟩), pl_getApi_error.2 (Or.inr ⟨root, d, hd, h1⟩)⟩
    · exact Or.inr ⟨_, ws', pl_getApi_ok.2 ⟨root, d, r, ws', hd, h2, rfl⟩, pl_getApi_ok.2 ⟨root, d, r, ws, hd, h1, rfl⟩⟩

/-- END TO END: two runs of the whole tool that differ only in the type-source WARNING option end alike — the same error, or
    the same package, walked modules, alias table, API, API file text, stubs and write operations; only the list of logged
    warnings may differ. -/
theorem tool_warning_option_pure (i : ToolInput) (w : Bool) :
    (runTool { i with opts := { i.opts with warn := w } }).map (fun o => { o with warnings := [] })
      = (runTool i).map (fun o => { o with warnings := [] }) := by
  refine pl_runTool_map_congr _ rfl rfl ?_
  rcases getApi_warning_option i w with ⟨e, h1, h2⟩ | ⟨a, ws, h1, h2⟩
  · exact Or.inl ⟨e, h1, h2⟩
  · exact Or.inr ⟨_, a, h1, h2, rfl, rfl, fun _ _ => rfl⟩

end StubGen.C14b
