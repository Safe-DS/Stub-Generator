/-
C11 — "Every class name used as a type or as a superclass in a stub file is either one of the built-in Safe-DS
mappings, declared in that same file, or imported in that file.  Every import names a package and a
declaration that exist in the generated stub set, including the placeholder stubs created for classes of other
libraries."

The property as quoted is FALSE of the tool and of the model (counterexamples in the last section).  What holds,
for ALL inputs, is what the generator's bookkeeping function `addToImports` implements; this file states it
exactly.  Model: `StubGen.Model.Gen` (`addToImports`, `typeStr`, `superclassesG`, `createImportsString`,
`callGenerator`, `createReexportElements`), `StubGen.Model.Files` (`createStubFiles`,
`createOutsidePackageClass`).  Proof machinery: `StubGen.Proofs.Imports` (names `q11_…`).

NOTE on the model: `St.imports` is a duplicate-free list of dotted class paths (`"pkg.mod.C"`), not of
`(path, name)` pairs; the pair is formed when the import block is printed (`import_line_form`).

Vocabulary (definitions in `StubGen.Proofs.Imports`, restated by the `…_def` theorems below):
* `q11_exempt q`     — `addToImports` ignores the path `q` without looking at the state;
* `q11_sameModule st q` — the same-module test: a SUBSTRING test on strings;
* `q11_found env q`  — the class of the package the path is resolved to (first match in table order);
* `q11_target env q` — the path that gets registered (below the shortest public re-export of that class);
* `q11_Ext s s'`     — `s'` has at least the imports / placeholder classes of `s`, same module identity;
* `q11_RegQ env st q` — "`q` is registered or exempt in `st`" (the disjunction (b1)-(d) of `addToImports_spec`).
-/
import StubGen.Proofs.Imports
import StubGen.Proofs.PathConv
import StubGen.Proofs.Emission

namespace StubGen.C11

open StubGen

/-! ### 0. vocabulary -/

theorem exempt_def (q : String) :
    q11_exempt q = (((splitDot q).head? == some "builtins" && (splitDot q).length == 2) || q == "typing.Any"
      || (splitDot q).length == 1) := rfl

/-- the same-module test compares STRINGS: the id of the module being generated (`St.moduleId`, with `/`
    replaced by `.`) occurs somewhere inside the class path -/
theorem sameModule_def (st : St) (q : String) :
    q11_sameModule st q = pyIn (replaceChar st.moduleId '/' ".") q := rfl

theorem found_def (env : Env) (q : String) :
    q11_found env q
      = env.api.classes.find? fun c => isPathConnectedToClass env.api.reexportMap (replaceChar q '.' "/") c.id := rfl

theorem target_def (env : Env) (q : String) :
    q11_target env q =
      match q11_found env q with
      | some c =>
        let cq := replaceChar c.id '/' "."
        let name := lastD "" (splitDot cq)
        let sh := (shortestPublicReexport env.api.reexportMap name cq false).1
        let t := if sh != "" then sh ++ "." ++ name else cq
        if t != "" then t else q
      | none => q := rfl

theorem Ext_def (s s' : St) :
    q11_Ext s s' ↔ s.imports ⊆ s'.imports ∧ s.outside ⊆ s'.outside ∧ s'.moduleId = s.moduleId
      ∧ s'.reexportModuleId = s.reexportModuleId ∧ s'.creatingReexport = s.creatingReexport :=
  ⟨fun h => ⟨h.1, h.2, h.3, h.4, h.5⟩, fun h => ⟨h.1, h.2.1, h.2.2.1, h.2.2.2.1, h.2.2.2.2⟩⟩

theorem RegQ_def (env : Env) (st : St) (q : String) :
    q11_RegQ env st q ↔
      (q11_exempt q = true
      ∨ q11_sameModule st q = true
      ∨ ((q11_found env q).isSome = true ∧
          (q11_target env q ∈ st.imports ∨ replaceChar (q11_target env q) '.' "/" = getModuleId st))
      ∨ (q11_found env q = none ∧ q ∈ st.outside ∧
          (q ∈ st.imports ∨ replaceChar q '.' "/" = getModuleId st))) := Iff.rfl

/-! ### 1. `addToImports`: complete characterisation -/

/-- `addToImports env q` from state `st`:
    * `q = ""`: `ValueError`;
    * otherwise it succeeds, and changes nothing but `imports` and `outside`:
      (b1) `q` is `builtins.X`, `typing.Any` or has no dot: no change;
      (b2) the dotted id of the module being generated is a substring of `q`: no change;
      otherwise
      (d) `q` resolves to no class of the package: `q` is added to `outside` (placeholder stub queued);
      (c)/(d) the target path (`q` itself in case (d)) is added to `imports`, unless it spells the id of the stub
          being written (`getModuleId st`: the module id, or the id of the re-export stub). -/
theorem addToImports_spec (env : Env) (q : String) (st : St) :
    (q = "" → addToImports env q st = .error .valueError)
    ∧ (q ≠ "" → ∃ st', addToImports env q st = .ok ((), st') ∧ OnlyIO st st'
        ∧ ((q11_exempt q = true ∨ q11_sameModule st q = true) → st' = st)
        ∧ ((q11_exempt q = false ∧ q11_sameModule st q = false) →
            st'.outside = (if q11_found env q = none then insertSet q st.outside else st.outside)
            ∧ st'.imports = (if replaceChar (q11_target env q) '.' "/" = getModuleId st then st.imports
                             else insertSet (q11_target env q) st.imports))) := by
  refine ⟨fun h => by rw [q11_addToImports_eq, if_pos h], fun h => ?_⟩
  refine ⟨q11_effect env q st, by rw [q11_addToImports_eq, if_neg h], q11_effect_onlyIO env q st,
    fun hs => q11_effect_skip hs, fun hs => ⟨q11_effect_outside hs.1 hs.2, q11_effect_imports hs.1 hs.2⟩⟩

/-- as an equation: `addToImports` is the pure state transformer `q11_effect` (or `ValueError`) -/
theorem addToImports_closed_form (env : Env) (q : String) (st : St) :
    addToImports env q st = if q = "" then .error .valueError else .ok ((), q11_effect env q st) :=
  q11_addToImports_eq env q st

/-- after a successful `addToImports env q`, the path is registered or exempt: the four-way disjunction -/
theorem addToImports_registers (env : Env) (q : String) (st st' : St) (u : Unit)
    (h : addToImports env q st = .ok (u, st')) :
    q11_exempt q = true
    ∨ q11_sameModule st' q = true
    ∨ ((q11_found env q).isSome = true ∧
        (q11_target env q ∈ st'.imports ∨ replaceChar (q11_target env q) '.' "/" = getModuleId st'))
    ∨ (q11_found env q = none ∧ q ∈ st'.outside ∧
        (q ∈ st'.imports ∨ replaceChar q '.' "/" = getModuleId st')) := by
  obtain ⟨_, rfl⟩ := q11_addToImports_ok h
  exact q11_effect_reg env q st

/-- a placeholder is only queued for class paths with a module part (so `createOutsidePackageClass` never
    raises on it, cf. `C01.placeholder_stubs_never_raise`) -/
theorem queued_paths_are_dotted (env : Env) (q : String) (st st' : St) (u : Unit)
    (h : addToImports env q st = .ok (u, st')) :
    ∀ c ∈ st'.outside, c ∈ st.outside ∨ (c = q ∧ '.' ∈ q.toList) := by
  obtain ⟨_, rfl⟩ := q11_addToImports_ok h
  exact fun c hc => q11_effect_outside_dotted c hc

/-! ### 1b. a `NamedType` / `NamedSequenceType` is registered -/

/-- A successfully rendered `NamedType`:
    (a) its NAME is in the table of built-in mappings (`Generated.builtinTypeNames`: int, str, bool, float,
        None): the text is the mapped name, the state is untouched — the qualified name is not looked at;
    otherwise the text is the (keyword-escaped) name, and for the qualified name
    (b1) it is ignored, (b2) it passes the same-module substring test, (c) it resolves to a class of the
    package whose target path is now imported (or is the stub being written), (d) it resolves to nothing: it is
    queued for a placeholder stub and imported (or is the stub being written). -/
theorem named_type_registered (env : Env) (name qname : String) (st st' : St) (text : String)
    (h : typeStr env (.named name qname) st = .ok (text, st')) :
    (∃ b, assocGet? Generated.builtinTypeNames name = some b ∧ text = b ∧ st' = st)
    ∨ (assocGet? Generated.builtinTypeNames name = none ∧ text = escapeKeyword name ∧ qname ≠ "" ∧ name ≠ ""
        ∧ q11_Ext st st'
        ∧ ( q11_exempt qname = true
          ∨ q11_sameModule st' qname = true
          ∨ ((q11_found env qname).isSome = true ∧
              (q11_target env qname ∈ st'.imports ∨ replaceChar (q11_target env qname) '.' "/" = getModuleId st'))
          ∨ (q11_found env qname = none ∧ qname ∈ st'.outside ∧
              (qname ∈ st'.imports ∨ replaceChar qname '.' "/" = getModuleId st')))) := by
  rcases q11_typeStr_named_ok h with ha | ⟨hb, hq, hn, ht, td, rfl⟩
  · exact Or.inl ha
  · right
    have he : q11_Ext (q11_effect env qname st) { q11_effect env qname st with todos := td } :=
      q11_Ext.of_eq rfl rfl rfl rfl rfl
    exact ⟨hb, ht, hq, hn, (q11_effect_ext env qname st).trans he, (q11_effect_reg env qname st).mono he⟩

/-- the exact state after rendering a non-built-in `NamedType`: `q11_effect` (and possibly a pending marker) -/
theorem named_type_state (env : Env) (name qname : String) (st st' : St) (text : String)
    (h : typeStr env (.named name qname) st = .ok (text, st'))
    (hb : assocGet? Generated.builtinTypeNames name = none) :
    st'.imports = (q11_effect env qname st).imports ∧ st'.outside = (q11_effect env qname st).outside := by
  rcases q11_typeStr_named_ok h with ⟨b, hb', _⟩ | ⟨_, _, _, _, td, rfl⟩
  · rw [show builtinName name = assocGet? Generated.builtinTypeNames name from rfl, hb] at hb'
    exact absurd hb' (by simp)
  · exact ⟨rfl, rfl⟩

/-- the head of a `NamedSequenceType` is never looked up in the built-in table: its qualified name is always
    handed to `addToImports` -/
theorem namedSeq_type_registered (env : Env) (name qname : String) (ts : List AType) (st st' : St) (text : String)
    (h : typeStr env (.namedSeq name qname ts) st = .ok (text, st')) :
    q11_Ext st st' ∧ q11_RegQ env st' qname := by
  have := q11_typeStr_rg env (.namedSeq name qname ts) st text st' h
  refine ⟨this.ext, ?_⟩
  rcases this.reg (.seq name qname) (by simp [q11_leaves]) with hb | hr
  · exact absurd hb (by simp [q11_Leaf.builtin])
  · exact hr

/-- `q11_leaves t`: the `NamedType`s and `NamedSequenceType` heads occurring anywhere in `t` (not inside the
    stored upper bound of a type-variable type, which `typeStr` does not print) -/
theorem leaves_def :
    (∀ n q, q11_leaves (.named n q) = [.named n q])
    ∧ (∀ n q ts, q11_leaves (.namedSeq n q ts) = q11_leavesL ts ++ [.seq n q])
    ∧ (∀ t, q11_leaves (.final t) = q11_leaves t)
    ∧ (∀ ps r, q11_leaves (.callable ps r) = q11_leavesL ps ++ q11_leaves r)
    ∧ (∀ ts, q11_leaves (.set ts) = q11_leavesL ts ∧ q11_leaves (.list ts) = q11_leavesL ts
          ∧ q11_leaves (.union ts) = q11_leavesL ts ∧ q11_leaves (.tuple ts) = q11_leavesL ts)
    ∧ (∀ k v, q11_leaves (.dict k v) = q11_leaves k ++ q11_leaves v)
    ∧ q11_leavesL [] = [] ∧ (∀ t ts, q11_leavesL (t :: ts) = q11_leaves t ++ q11_leavesL ts) := by
  refine ⟨?_, ?_, ?_, ?_, ?_, ?_, ?_, ?_⟩ <;> intros <;> simp [q11_leaves, q11_leavesL]

/-- EVERY class name occurring anywhere inside a successfully rendered type is a built-in name (for a
    `NamedType`) or registered / exempt in the final state; and the state only grew. -/
theorem type_leaves_registered (env : Env) (t : AType) (st st' : St) (text : String)
    (h : typeStr env t st = .ok (text, st')) :
    q11_Ext st st' ∧ ∀ l ∈ q11_leaves t,
      (match l with
        | .named n _ => (assocGet? Generated.builtinTypeNames n).isSome = true
        | _ => False)
      ∨ q11_RegQ env st' l.qname := by
  have := q11_typeStr_rg env t st text st' h
  refine ⟨this.ext, fun l hl => ?_⟩
  rcases this.reg l hl with hb | hr
  · left
    cases l with
    | named n q => exact hb
    | seq n q => simp [q11_Leaf.builtin] at hb
    | super n q => simp [q11_Leaf.builtin] at hb
  · exact Or.inr hr

/-! ### 2. imports only grow; the import block is computed from the final `imports` of the file -/

/-- being registered is stable under growth -/
theorem registered_stays_registered (env : Env) (s s' : St) (q : String) (he : q11_Ext s s')
    (h : q11_RegQ env s q) : q11_RegQ env s' q := h.mono he

/-- No function that renders part of a stub removes an import or a queued placeholder class, nor changes
    which module is being generated. -/
theorem imports_only_grow (env : Env) :
    (∀ t st r st', typeStr env t st = .ok (r, st') → q11_Ext st st')
    ∧ (∀ ps indent im st r st', createParameterString env ps indent im st = .ok (r, st') → q11_Ext st st')
    ∧ (∀ rs st r st', createResultString env rs st = .ok (r, st') → q11_Ext st st')
    ∧ (∀ b tvs st r st', typeVarStrings env b tvs st = .ok (r, st') → q11_Ext st st')
    ∧ (∀ tps st r st', typeParamStrings env tps st = .ok (r, st') → q11_Ext st st')
    ∧ (∀ a inner st r st', createAttribute env a inner st = .ok (r, st') → q11_Ext st st')
    ∧ (∀ f indent b1 b2 st r st', createFunctionString env f indent b1 b2 st = .ok (r, st') → q11_Ext st st')
    ∧ (∀ f indent st r st', createPropertyFunctionString env f indent st = .ok (r, st') → q11_Ext st st')
    ∧ (∀ fuel c indent b st r st', createClassString env fuel c indent b st = .ok (r, st') → q11_Ext st st')
    ∧ (∀ fuel sc inner ad st r st', createInternalClassString env fuel sc inner ad st = .ok (r, st') → q11_Ext st st')
    ∧ (∀ b fs st r st', createFunctions env b fs st = .ok (r, st') → q11_Ext st st')
    ∧ (∀ b cs st r st', createClasses env b cs st = .ok (r, st') → q11_Ext st st')
    ∧ (∀ m st r st', createModuleString env m st = .ok (r, st') → q11_Ext st st') :=
  ⟨fun t _ _ _ h => q11_mono_of_at (fun s0 => inv_typeStr (q11_genInv s0 env) t) h,
   fun ps i b _ _ _ h => q11_mono_of_at (fun s0 => inv_createParameterString (q11_genInv s0 env) ps i b) h,
   fun rs _ _ _ h => q11_mono_of_at (fun s0 => inv_createResultString (q11_genInv s0 env) rs) h,
   fun b tvs _ _ _ h => q11_mono_of_at (fun s0 => inv_typeVarStrings (q11_genInv s0 env) b tvs) h,
   fun tps _ _ _ h => q11_mono_of_at (fun s0 => inv_typeParamStrings (q11_genInv s0 env) tps) h,
   fun a i _ _ _ h => q11_mono_of_at (fun s0 => inv_createAttribute (q11_genInv s0 env) a i) h,
   fun f i b1 b2 _ _ _ h => q11_mono_of_at (fun s0 => inv_createFunctionString (q11_genInv s0 env) f i b1 b2) h,
   fun f i _ _ _ h => q11_mono_of_at (fun s0 => inv_createPropertyFunctionString (q11_genInv s0 env) f i) h,
   fun fuel c i b _ _ _ h => q11_mono_of_at (fun s0 => inv_createClassString (q11_genInv s0 env) fuel c i b) h,
   fun fuel sc i ad _ _ _ h => q11_mono_of_at (fun s0 => inv_createInternalClassString (q11_genInv s0 env) fuel sc i ad) h,
   fun b fs _ _ _ h => q11_mono_of_at (fun s0 => inv_createFunctions (q11_genInv s0 env) b fs) h,
   fun b cs _ _ _ h => q11_mono_of_at (fun s0 => inv_createClasses (q11_genInv s0 env) b cs) h,
   fun m _ _ _ h => q11_mono_of_at (fun s0 => inv_createModuleString (q11_genInv s0 env) m) h⟩

/-- the superclass loop too, for any monotone inlining function -/
theorem superclassesG_only_grows (env : Env) (inline : String → G String)
    (hin : ∀ sc st r st', inline sc st = .ok (r, st') → q11_Ext st st')
    (scs : List String) (st st' : St) (r : List String × String)
    (h : superclassesG env inline scs st = .ok (r, st')) : q11_Ext st st' :=
  q11_mono_of_at (fun s0 => inv_superclassesG (q11_genInv s0 env) inline
    (fun sc => q11_Mono.of_ok (hin sc) s0) scs) h

/-- `imports` is emptied exactly at the start of a file: `callGenerator` runs `createModuleString` from the
    state `q11_moduleStart m st`, whose `imports` are `[]`, whose `outside` is that of `st`, and which generates
    module `m.id` (outside the re-export phase) -/
theorem module_file_start (env : Env) (m : Module) (st : St) :
    callGenerator env m st = createModuleString env m (q11_moduleStart m st)
    ∧ (q11_moduleStart m st).imports = []
    ∧ (q11_moduleStart m st).outside = st.outside
    ∧ (st.creatingReexport = false → (q11_moduleStart m st).moduleId = m.id
        ∧ getModuleId (q11_moduleStart m st) = m.id) := by
  refine ⟨rfl, ?_, ?_, ?_⟩
  · rfl
  · unfold q11_moduleStart; dsimp only; split <;> rfl
  · intro h
    unfold q11_moduleStart getModuleId
    simp [h]

/-- MODULE STUB: the body (functions, then classes) runs from a state with no imports; the import block in the
    text is `q11_importBlock` of the `imports` at the END of the body (`sB`); all states in between are ordered by
    `q11_Ext` (with `imports_only_grow` for every sub-computation), so every registration made while the body
    was generated is still in `sB.imports` (`registered_stays_registered`). -/
theorem file_imports_complete (env : Env) (m : Module) (st st' : St) (text pkg : String)
    (h : callGenerator env m st = .ok ((text, pkg), st')) :
    ∃ sA sB t1 t2,
      (q11_moduleStart m st).imports = []
      ∧ createFunctions env (q11_modInRe env m) m.functions (q11_moduleStart m st) = .ok (t1, sA)
      ∧ createClasses env (q11_modInRe env m) m.classes sA = .ok (t2, sB)
      ∧ q11_Ext (q11_moduleStart m st) sA ∧ q11_Ext sA sB
      ∧ st'.imports = sB.imports ∧ st'.outside = sB.outside
      ∧ text = moduleDoc m ++ packageHeader env pkg ++ q11_importBlock env.safe sB.imports ++ t1 ++ t2
          ++ q11_enumText env m := by
  rw [q11_callGenerator_eq] at h
  obtain ⟨sA, sB, t1, t2, h1, h2, e1, e2, hi, ho, _, _, ht⟩ := q11_createModuleString_decomp h
  exact ⟨sA, sB, t1, t2, (module_file_start env m st).2.1, h1, h2, e1, e2, hi, ho, ht⟩

/-- RE-EXPORT STUB (one per re-exported declaration): the same, with the declaration's class / function text
    as the body.  `q11_reexportStart` empties `imports` (and `classGenerics`), sets the id of the re-export stub
    and logs it. -/
theorem reexport_file_imports_complete (env : Env) (moduleId : String) (el : Node) (els : List Node)
    (st st' : St) (ds : List StubData)
    (h : createReexportElements env moduleId (el :: els) st = .ok (ds, st')) :
    ∃ body sB rest,
      (q11_reexportStart moduleId el st).imports = []
      ∧ (q11_reexportStart moduleId el st).outside = st.outside
      ∧ (match el with
          | .cls c => createClassString env (classFuel env) c "" true
          | .fn f => createFunctionString env f "" false true) (q11_reexportStart moduleId el st) = .ok (body, sB)
      ∧ q11_Ext (q11_reexportStart moduleId el st) sB
      ∧ createReexportElements env moduleId els sB = .ok (rest, st')
      ∧ ds = { dir := getModuleId sB, name := el.name,
               text := packageHeader env (joinWith "." (dropLast' (splitSlash (getModuleId sB))))
                 ++ q11_importBlock env.safe sB.imports ++ "\n" ++ body ++ "\n",
               isPackageModule := true } :: rest := by
  obtain ⟨body, sB, rest, h0, hb, he, hr, hd⟩ := q11_createReexportElements_cons h
  refine ⟨body, sB, rest, h0, ?_, ?_, he, hr, hd⟩
  · unfold q11_reexportStart; dsimp only; split <;> rfl
  · cases el <;> exact hb

/-- a path that is registered through `imports` at some point of the body has its line in the import block
    printed from any later state -/
theorem registered_import_printed (safe : Bool) (s sB : St) (p : String) (he : q11_Ext s sB)
    (h : p ∈ s.imports) : q11_importLine safe p ∈ q11_importLines safe sB.imports :=
  (q11_mem_importLines safe sB.imports _).2 ⟨p, he.imports h, rfl⟩

/-! ### 2b. end to end: the class names in the declarations of a stub file -/

/-- `q11_RegLeaf`: an occurrence is fine if it is a `NamedType` whose name is in the built-in table, or if its
    qualified name is registered or exempt -/
theorem RegLeaf_def (env : Env) (st : St) (l : q11_Leaf) :
    q11_RegLeaf env st l ↔
      ((match l with
        | .named n _ => (assocGet? Generated.builtinTypeNames n).isSome = true
        | _ => False)
      ∨ q11_RegQ env st l.qname) := by
  unfold q11_RegLeaf
  cases l <;> simp [q11_Leaf.builtin, builtinName]

/-- the occurrences tracked for a function: the types of the printed parameters (all but `self` for an instance
    method) and of the results (NOT tracked: the upper bounds of its type variables) -/
theorem funLeaves_def (f : Function) (isMethod : Bool) :
    q11_funLeaves f isMethod =
      ((if (!f.isStatic && isMethod) = true then f.params.drop 1 else f.params).flatMap fun p =>
        match p.type with
        | some t => q11_leaves t
        | none => [])
      ++ f.results.flatMap fun r => match r.type with
        | some t => q11_leaves t
        | none => [] := by
  unfold q11_funLeaves q11_paramsLeaves q11_shownParams q11_resultLeaves q11_paramLeaves
  rfl

/-- the occurrences tracked for a class block: constructor parameters, bounds of the type parameters, types of
    the public attributes, the blocks of the public inner classes, signatures of the printed methods (properties:
    their result types), the public superclasses.  NOT tracked: the methods inlined from private
    superclasses (for them only `imports_only_grow`). -/
theorem classLeaves_def (fuel : Nat) (c : Class) :
    q11_classLeaves (fuel + 1) c =
      q11_ctorLeaves c ++ (if !c.typeParams.isEmpty || !(match c.ctor with
          | some ctor => ctor.typeVars
          | none => []).isEmpty then q11_typeParamLeaves c.typeParams else [])
        ++ q11_attrsLeaves c.attributes
        ++ (c.classes.filter (·.isPublic)).flatMap (q11_classLeaves fuel)
        ++ q11_methodsLeaves false [] c.methods
        ++ (if !c.renderedSupers.isEmpty && !c.isAbstract then q11_superLeaves c.renderedSupers else []) := by
  rw [q11_classLeaves]
  rfl

/-- MODULE STUB, end to end.  The text contains the import block computed from the FINAL `imports`; for every
    public function and every public non-exception class of the module that is not moved to a re-export stub,
    every tracked class-name occurrence is a built-in name or registered / exempt in the final state. -/
theorem module_stub_names_registered (env : Env) (m : Module) (st st' : St) (text pkg : String)
    (hcr : st.creatingReexport = false)
    (h : callGenerator env m st = .ok ((text, pkg), st')) :
    (∃ pre post, text = pre ++ q11_importBlock env.safe st'.imports ++ post)
    ∧ (∀ f ∈ m.functions, f.isPublic = true →
        n03_movedB m.id false (q11_modInRe env m) f.reexportedBy = false →
        ∀ l ∈ q11_funLeaves f false, q11_RegLeaf env st' l)
    ∧ (∀ c ∈ m.classes, c.isPublic = true → c.inheritsFromException = false →
        n03_movedB m.id false (q11_modInRe env m) c.reexportedBy = false →
        ∀ l ∈ q11_classLeaves (classFuel env) c, q11_RegLeaf env st' l) := by
  rw [q11_callGenerator_eq] at h
  obtain ⟨sA, sB, t1, t2, h1, h2, e1, e2, hi, ho, e3, _, ht⟩ := q11_createModuleString_decomp h
  have hid : getModuleId (q11_moduleStart m st) = m.id := ((module_file_start env m st).2.2.2 hcr).2
  obtain ⟨_, hf⟩ := q11_createFunctions_reg env _ m.functions _ t1 sA h1
  obtain ⟨_, hc⟩ := q11_createClasses_reg env _ m.classes _ t2 sB h2
  refine ⟨⟨moduleDoc m ++ packageHeader env pkg, t1 ++ t2 ++ q11_enumText env m, ?_⟩, ?_, ?_⟩
  · rw [ht, hi]; simp only [String.append_assoc]
  · intro f hfm hp hmv l hl
    exact (hf f hfm hp (by rw [hid]; exact hmv) l hl).mono (e2.trans e3)
  · intro c hcm hp hex hmv l hl
    exact (hc c hcm hp hex (by rw [e1.getModuleId, hid]; exact hmv) l hl).mono e3

/-- RE-EXPORT STUB, end to end: in the state `sB` from whose `imports` the block of the stub is printed, every
    tracked occurrence of the re-exported class / function is a built-in name or registered / exempt.  (In such a
    stub the same-module branch (b2) is very wide: `sB.moduleId` is the id of the re-exporting PACKAGE, see the
    counterexample (i).) -/
theorem reexport_stub_names_registered (env : Env) (moduleId : String) (el : Node) (els : List Node)
    (st st' : St) (ds : List StubData)
    (h : createReexportElements env moduleId (el :: els) st = .ok (ds, st')) :
    ∃ sB d rest, ds = d :: rest
      ∧ (∃ pre post, d.text = pre ++ q11_importBlock env.safe sB.imports ++ post)
      ∧ ∀ l ∈ (match el with
                | .cls c => q11_classLeaves (classFuel env) c
                | .fn f => q11_funLeaves f false), q11_RegLeaf env sB l := by
  obtain ⟨body, sB, rest, _, hb, _, _, hd⟩ := q11_createReexportElements_cons h
  refine ⟨sB, _, rest, hd,
    ⟨packageHeader env (joinWith "." (dropLast' (splitSlash (getModuleId sB)))), "\n" ++ body ++ "\n", ?_⟩, ?_⟩
  · dsimp only; simp only [String.append_assoc]
  · cases el with
    | cls c => exact ((q11_createClassString_regs env _ c "").run _ _ _ hb).reg
    | fn f =>
      exact (q11_createFunctionString_reg env f "" false true _ _ _ hb).2 (by simp [n03_movedB])

/-! ### 3. the import block -/

/-- `createImportsString` never fails, does not change the state, and prints: nothing for no imports; else an
    empty line, the sorted lines, a line break -/
theorem import_block_text (env : Env) (st : St) :
    createImportsString env st = .ok (q11_importBlock env.safe st.imports, st)
    ∧ q11_importBlock env.safe st.imports =
        (if st.imports.isEmpty then ""
         else "\n" ++ joinWith "\n" (sortStrings (st.imports.map (q11_importLine env.safe))) ++ "\n") :=
  ⟨q11_createImportsString_eq env st, rfl⟩

/-- each line is `from <package> import <name>` for a registered dotted path `imp`: `<package>` is `imp`
    without its last dot-segment, converted to the naming convention segment by segment (`convertPath`, repair 8e9a214)
    and then keyword-escaped segment by segment (`escapePath`); `<name>` is the last dot-segment, converted (as a
    non-class name) and keyword-escaped.  The model never prints an `as` clause.  The lines of the block are
    exactly the lines of the registered paths. -/
theorem import_line_form (safe : Bool) (imports : List String) :
    (∀ imp, q11_importLine safe imp =
        "from " ++ escapePath (convertPath (joinWith "." (dropLast' (splitDot imp))) safe) ++ " import "
          ++ escapeKeyword (convertName (lastD "" (splitDot imp)) safe))
    ∧ (∀ line, line ∈ q11_importLines safe imports ↔ ∃ imp ∈ imports, line = q11_importLine safe imp)
    ∧ (q11_importLines safe imports).length = imports.length := by
  refine ⟨fun _ => rfl, q11_mem_importLines safe imports, ?_⟩
  unfold q11_importLines sortStrings
  rw [(sortBy_perm strLe _).length_eq, List.length_map]

/-- without the Safe-DS naming convention: the path verbatim, keywords back-quoted -/
theorem import_line_without_convention (imp : String) :
    q11_importLine false imp =
      "from " ++ escapePath (joinWith "." (dropLast' (splitDot imp))) ++ " import "
        ++ escapeKeyword (lastD "" (splitDot imp)) := by
  simp [q11_importLine, convertName, pc_convertPath_off]

/-! ### 4. foreign classes: the placeholder stub and the import line -/

/-- For every class path `c` in `outside`, `createStubFiles` performs an operation on the placeholder file
    `outsideFile c` (`a/b/<b without leading underscores>.sdsstub` for `a.b.C`: `a/b/b.sdsstub`, and
    `a/_b/b.sdsstub` for `a._b.C`; see `C10.placeholder_path_spells_package`): it writes the
    package header and the class, or appends the class to the file written earlier in the same loop. -/
theorem foreign_placeholder_exists (safe : Bool) (stubs : List StubData) (outside pre : List String)
    (ops : List WriteOp) (h : createStubFiles safe stubs outside pre = .ok ops) :
    ∀ c ∈ outside, ∃ op ∈ ops, op.path = outsideFile c
      ∧ ((op.mode = .append ∧ op.text = outsideClassText (lastD "" (splitDot c)) safe)
         ∨ (op.mode = .write ∧ op.text = outsideHeader safe c ++ outsideClassText (lastD "" (splitDot c)) safe)) := by
  obtain ⟨oops, ho, rfl⟩ := createStubFiles_ok h
  intro c hc
  obtain ⟨op, hop, hr⟩ := q11_outsideWrites_each safe _ _ _ oops ho c ((mem_sortStrings c outside).2 hc)
  exact ⟨op, List.mem_append_right _ hop, hr⟩

/-- the placeholder file: the directory spells the module path, the file name is the module name without its
    leading underscores -/
example : outsideFile "a.b.C" = "a/b/b.sdsstub" ∧ outsideFile "a._b.C" = "a/_b/b.sdsstub"
    ∧ outsideFile "other_lib._impl.Thing" = "other_lib/_impl/impl.sdsstub" := by decide +kernel

/-- … for a whole run of the generator -/
theorem foreign_placeholder_exists_run (api : API) (safe : Bool) (pre : List String) (r : GenResult)
    (h : runGenerator api safe pre = .ok r) :
    ∀ c ∈ r.outside, ∃ op ∈ r.ops, op.path = outsideFile c
      ∧ ((op.mode = .append ∧ op.text = outsideClassText (lastD "" (splitDot c)) safe)
         ∨ (op.mode = .write ∧ op.text = outsideHeader safe c ++ outsideClassText (lastD "" (splitDot c)) safe)) := by
  obtain ⟨stubs, st, ops, _, hc, rfl⟩ := runGenerator_ok.1 h
  exact foreign_placeholder_exists _ _ _ _ _ hc

/-- The import registered for a foreign class (branch (d)) is the class path `c` itself.  Its import line and
    its placeholder stub name the SAME package text; the class NAME agrees iff converting the last segment as a
    class name and as an ordinary name give the same result.  (`…_partial`: the unconditional agreement is false,
    see `foreign_name_mismatch`.) -/
theorem foreign_import_matches_placeholder_partial (safe : Bool) (c : String) :
    q11_importLine safe c = "from " ++ q11_packageText safe c ++ " import " ++ q11_importedName safe c
    ∧ (∃ ann, outsideHeader safe c = ann ++ "package " ++ q11_packageText safe c ++ "\n"
        ∧ (ann = "" ∨ ann = "@PythonModule(\"" ++ joinWith "." (dropLast' (splitDot c)) ++ "\")\n"))
    ∧ (∃ ann, outsideClassText (lastD "" (splitDot c)) safe
          = ann ++ "\nclass " ++ q11_placeholderClassName safe c ++ "\n"
        ∧ (ann = "" ∨ ann = "\n" ++ nameAnnotation (lastD "" (splitDot c))))
    ∧ (convertName (lastD "" (splitDot c)) safe true = convertName (lastD "" (splitDot c)) safe →
        q11_placeholderClassName safe c = q11_importedName safe c)
    ∧ (safe = false → q11_placeholderClassName safe c = q11_importedName safe c) := by
  refine ⟨rfl, q11_outsideHeader_eq safe c, q11_outsideClassText_eq safe c, fun h => ?_, fun h => ?_⟩
  · unfold q11_placeholderClassName q11_importedName; rw [h]
  · subst h; simp [q11_placeholderClassName, q11_importedName, convertName]

/-- COUNTEREXAMPLE (name mismatch): for `numpy.ndarray` the import line names `ndarray`, the placeholder stub
    declares `Ndarray` (the class-name convention capitalises; the import conversion does not). -/
theorem foreign_name_mismatch :
    q11_importLine true "numpy.ndarray" = "from numpy import ndarray"
    ∧ outsideHeader true "numpy.ndarray" ++ outsideClassText "ndarray" true
        = "package numpy\n\n@PythonName(\"ndarray\")\nclass Ndarray\n"
    ∧ q11_placeholderClassName true "numpy.ndarray" ≠ q11_importedName true "numpy.ndarray" := by
  decide +kernel

/-! ### 5. superclasses -/

/-- After the superclass loop (for ANY monotone inlining function; in `createClassString` it is
    `createInternalClassString`, see `imports_only_grow`): the names listed after `sub` are the last segments
    of the public superclasses, and the path of every one of them went through `addToImports`: it is registered
    or exempt in the resulting state. -/
theorem superclass_registered (env : Env) (inline : String → G String)
    (hin : ∀ sc st r st', inline sc st = .ok (r, st') → q11_Ext st st')
    (scs : List String) (st st' : St) (names : List String) (text : String)
    (h : superclassesG env inline scs st = .ok ((names, text), st')) :
    names = (scs.filter fun s => !isInternal (lastD "" (splitDot s))).map
              (fun s => escapeKeyword (lastD "" (splitDot s)))
    ∧ q11_Ext st st'
    ∧ ∀ sc ∈ scs, isInternal (lastD "" (splitDot sc)) = false →
        ( q11_exempt sc = true
        ∨ q11_sameModule st' sc = true
        ∨ ((q11_found env sc).isSome = true ∧
            (q11_target env sc ∈ st'.imports ∨ replaceChar (q11_target env sc) '.' "/" = getModuleId st'))
        ∨ (q11_found env sc = none ∧ sc ∈ st'.outside ∧
            (sc ∈ st'.imports ∨ replaceChar sc '.' "/" = getModuleId st'))) := by
  obtain ⟨he, hr⟩ := q11_superclassesG_reg env inline (fun sc => .of_ok (hin sc)) scs st (names, text) st' h
  exact ⟨n03_superclassesG_names env inline scs st (names, text) st' h, he, hr⟩

/-- the instance used by `createClassString` -/
theorem superclass_registered_class (env : Env) (fuel : Nat) (inner : String) (ad : List String)
    (scs : List String) (st st' : St) (names : List String) (text : String)
    (h : superclassesG env (fun sc => createInternalClassString env fuel sc inner ad) scs st
      = .ok ((names, text), st')) :
    q11_Ext st st' ∧ ∀ sc ∈ scs, isInternal (lastD "" (splitDot sc)) = false → q11_RegQ env st' sc :=
  (superclass_registered env _ (fun sc _ _ _ hr =>
    q11_mono_of_at (fun s0 => inv_createInternalClassString (q11_genInv s0 env) fuel sc inner ad) hr) scs st st' names text h).2

/-! ### 6. non-vacuity: cross-module reference, foreign classes, same-module reference -/

private def par (n : String) (t : AType) : Parameter :=
  { id := "x/" ++ n, name := n, isOptional := false, default := .none, assignedBy := .positionOrName, type := some t }
private def res (t : AType) : Result := { id := "r", name := "r", type := some t }

/-- what a run writes: `(path, text)` of every operation, and the placeholder classes -/
private def files (api : API) (safe : Bool) : Option (List (String × String) × List String) :=
  (runGenerator api safe).toOption.map fun r => (r.ops.map fun o => (o.path, o.text), r.outside)

private def cA : Class := { id := "pkg/a/A", name := "A", isPublic := true }
private def fBparams : List Parameter :=
  [par "x" (.named "A" "pkg.a.A"), par "y" (.named "Thing" "other.lib.Thing"), par "z" (.named "B" "pkg.b.B"),
   par "w" (.list [.named "int" "builtins.int"])]
private def fB : Function :=
  { id := "pkg/b/f", name := "f", isPublic := true, params := fBparams, results := [res (.named "ndarray" "numpy.ndarray")] }
private def cB : Class := { id := "pkg/b/B", name := "B", isPublic := true, superclasses := ["pkg.a.A"] }
private def mA : Module := { id := "pkg/a", name := "a", classes := [cA] }
private def mB : Module := { id := "pkg/b", name := "b", classes := [cB], functions := [fB] }
private def api1 : API := { package := "pkg", modules := [mA, mB], classes := [cA, cB] }
private def env1 : Env := { api := api1, safe := true }

/-- module `pkg.b`: `A` (other module: imported), `Thing` and `ndarray` (other libraries: imported and queued),
    `B` (same module: nothing), `int` (built-in: nothing), superclass `A`.  State and text after
    `callGenerator`: -/
example : (callGenerator env1 mB {}).toOption.map (fun r => (r.2.imports, r.2.outside, r.1.1)) =
    some (["pkg.a.A", "other.lib.Thing", "numpy.ndarray"], ["other.lib.Thing", "numpy.ndarray"],
      "package pkg.b\n\nfrom numpy import ndarray\nfrom other.lib import Thing\nfrom pkg.a import A\n\n@Pure\nfun f(\n    x: A,\n    y: Thing,\n    z: B,\n    w: List<Int>\n) -> r: ndarray\n\nclass B() sub A\n") := by
  decide +kernel

/-- the branches of `addToImports_spec` on this API (module `pkg/b` being generated) -/
example :
    let st : St := { moduleId := "pkg/b" }
    q11_exempt "builtins.int" = true ∧ q11_exempt "B" = true ∧ q11_exempt "pkg.a.A" = false
    ∧ q11_sameModule st "pkg.b.B" = true ∧ q11_sameModule st "pkg.a.A" = false
    ∧ (q11_found env1 "pkg.a.A").map (·.id) = some "pkg/a/A" ∧ q11_target env1 "pkg.a.A" = "pkg.a.A"
    ∧ (q11_found env1 "other.lib.Thing").isNone = true ∧ q11_target env1 "other.lib.Thing" = "other.lib.Thing"
    ∧ (q11_effect env1 "pkg.a.A" st).imports = ["pkg.a.A"] ∧ (q11_effect env1 "pkg.a.A" st).outside = []
    ∧ (q11_effect env1 "other.lib.Thing" st).imports = ["other.lib.Thing"]
    ∧ (q11_effect env1 "other.lib.Thing" st).outside = ["other.lib.Thing"]
    ∧ (q11_effect env1 "pkg.b.B" st).imports = [] := by
  decide +kernel

/-- the files of the run: two module stubs and two placeholder stubs -/
example : files api1 true = some (
    [("pkg/a/a.sdsstub", "package pkg.a\n\nclass A()\n"),
     ("pkg/b/b.sdsstub", "package pkg.b\n\nfrom numpy import ndarray\nfrom other.lib import Thing\nfrom pkg.a import A\n\n@Pure\nfun f(\n    x: A,\n    y: Thing,\n    z: B,\n    w: List<Int>\n) -> r: ndarray\n\nclass B() sub A\n"),
     ("numpy/numpy.sdsstub", "package numpy\n\n@PythonName(\"ndarray\")\nclass Ndarray\n"),
     ("other/lib/lib.sdsstub", "package other.lib\n\nclass Thing\n")],
    ["other.lib.Thing", "numpy.ndarray"]) := by
  decide +kernel

/-- the leaves of a nested type -/
example : q11_leaves (.dict (.named "str" "builtins.str") (.namedSeq "Sequence" "typing.Sequence" [.named "A" "pkg.a.A"]))
    = [.named "str" "builtins.str", .named "A" "pkg.a.A", .seq "Sequence" "typing.Sequence"] := rfl

/-! ### 7. COUNTEREXAMPLES: where the quoted property fails (all on the model, evaluated by the kernel) -/

/-- (i) RE-EXPORT STUB WITHOUT IMPORT OF A SIBLING.  `pkg/__init__.py` re-exports `pkg.mod.C`; `C.m` has a
    parameter of the sibling class `pkg.mod.S`.  The re-export stub `pkg/C.sdsstub` (package `pkg`) uses `S`
    without importing it: while re-export stubs are written, `St.moduleId` is the id of the re-exporting package
    (`pkg`), and the same-module test `"pkg" in "pkg.mod.S"` succeeds — for EVERY class of the package.  The
    foreign class `other.lib.Thing` is still imported. -/
private def initRef : ModRef := { id := "pkg", qualifiedImports := [⟨"pkg.mod.C", none⟩] }
private def cS : Class := { id := "pkg/mod/S", name := "S", isPublic := true }
private def mC : Function :=
  { id := "pkg/mod/C/m", name := "m", isPublic := true,
    params := [par "self" (.named "C" "pkg.mod.C"), par "s" (.named "S" "pkg.mod.S")],
    results := [res (.named "Thing" "other.lib.Thing")] }
private def cC : Class := { id := "pkg/mod/C", name := "C", isPublic := true, reexportedBy := [initRef], methods := [mC] }
private def mMod : Module := { id := "pkg/mod", name := "mod", classes := [cS, cC] }
private def mInit : Module := { id := "pkg/__init__", name := "__init__", qualifiedImports := [⟨"pkg.mod.C", none⟩] }
private def fU : Function := { id := "pkg/use/u", name := "u", isPublic := true, results := [res (.named "C" "pkg.mod.C")] }
private def api2 : API :=
  { package := "pkg", modules := [mInit, mMod, { id := "pkg/use", name := "use", functions := [fU] }],
    classes := [cS, cC], reexportMap := [("pkg.mod.C", [initRef])] }

example : files api2 true = some (
    [("pkg/mod/mod.sdsstub", "package pkg.mod\n\nclass S()\n"),
     ("pkg/use/use.sdsstub", "package pkg.use\n\nfrom pkg import C\n\n@Pure\nfun u() -> r: C\n"),
     ("pkg/C.sdsstub",
       "package pkg\n\nfrom other.lib import Thing\n\nclass C() {\n    @Pure\n    fun m(\n        s: S\n    ) -> r: Thing\n}\n"),
     ("other/lib/lib.sdsstub", "package other.lib\n\nclass Thing\n")],
    ["other.lib.Thing"]) := by
  decide +kernel

/-- the state in which the re-export stub is generated has `moduleId = "pkg"`: branch (b2) for `pkg.mod.S` -/
example : q11_sameModule { moduleId := "pkg", reexportModuleId := "pkg/C", creatingReexport := true } "pkg.mod.S" = true := by
  decide +kernel

/-- (ii) PRIVATE CLASS AS A TYPE.  A public function returns the private class `pkg.m._P`.  The stub of `pkg.n`
    uses the name `_P`, but the import line names `P` (the naming convention strips the underscore) from package
    `pkg.m` — and no stub for `pkg.m` is written at all (the module has nothing public).  Without the
    convention the line is `from pkg.m import _P`, still from a stub that does not exist. -/
private def cP : Class := { id := "pkg/m/_P", name := "_P", isPublic := false }
private def fQ : Function := { id := "pkg/n/g", name := "g", isPublic := true, results := [res (.named "_P" "pkg.m._P")] }
private def api3 : API :=
  { package := "pkg", modules := [{ id := "pkg/m", name := "m", classes := [cP] }, { id := "pkg/n", name := "n", functions := [fQ] }],
    classes := [cP] }

example : files api3 true
    = some ([("pkg/n/n.sdsstub", "package pkg.n\n\nfrom pkg.m import P\n\n@Pure\nfun g() -> r: _P\n")], [])
    ∧ files api3 false
    = some ([("pkg/n/n.sdsstub", "package pkg.n\n\nfrom pkg.m import _P\n\n@Pure\nfun g() -> r: _P\n")], []) := by
  decide +kernel

/-- (iii) THE SAME-MODULE TEST IS A SUBSTRING TEST.  While `pkg/mod` is generated, the foreign class
    `xpkg.model.Thing` is taken for a class of the module (`"pkg.mod" in "xpkg.model.Thing"`): no import, no
    placeholder. -/
private def fS : Function := { id := "pkg/mod/h", name := "h", isPublic := true, results := [res (.named "Thing" "xpkg.model.Thing")] }
private def api4 : API := { package := "pkg", modules := [{ id := "pkg/mod", name := "mod", functions := [fS] }] }

example : files api4 true = some ([("pkg/mod/mod.sdsstub", "package pkg.mod\n\n@Pure\nfun h() -> r: Thing\n")], []) := by
  decide +kernel

/-- (iv) AMBIGUITY BETWEEN SAME-NAMED CLASSES.  The class `mod.C` of another library is resolved to the package's
    own class `pkg/mod/C` (`"pkg/mod/C".endswith("mod/C")`): imported from `pkg.mod`, no placeholder. -/
private def fT : Function := { id := "pkg/use/h", name := "h", isPublic := true, results := [res (.named "C" "mod.C")] }
private def cM : Class := { id := "pkg/mod/C", name := "C", isPublic := true }
private def api5 : API :=
  { package := "pkg", modules := [{ id := "pkg/use", name := "use", functions := [fT] }, { id := "pkg/mod", name := "mod", classes := [cM] }],
    classes := [cM] }

example : files api5 true = some (
    [("pkg/use/use.sdsstub", "package pkg.use\n\nfrom pkg.mod import C\n\n@Pure\nfun h() -> r: C\n"),
     ("pkg/mod/mod.sdsstub", "package pkg.mod\n\nclass C()\n")], []) := by
  decide +kernel

/-- (v) the name mismatch of `foreign_name_mismatch` in a run: `from numpy import ndarray` vs `class Ndarray` -/
private def fN : Function := { id := "pkg/use/h", name := "h", isPublic := true, results := [res (.named "ndarray" "numpy.ndarray")] }
private def api6 : API := { package := "pkg", modules := [{ id := "pkg/use", name := "use", functions := [fN] }] }

example : files api6 true = some (
    [("pkg/use/use.sdsstub", "package pkg.use\n\nfrom numpy import ndarray\n\n@Pure\nfun h() -> r: ndarray\n"),
     ("numpy/numpy.sdsstub", "package numpy\n\n@PythonName(\"ndarray\")\nclass Ndarray\n")],
    ["numpy.ndarray"]) := by
  decide +kernel

/-! ### the implicit base `object` (repair: `class A(object)` gave `class A() sub object`, a name no stub declares) -/

/-- `object` is never among the superclasses the generator names or inlines … -/
theorem object_base_not_rendered (c : Class) : "builtins.object" ∉ c.renderedSupers := by
  simp [Class.renderedSupers]

/-- … every other superclass is, in declaration order; a class that does not name `object` is untouched by the rule -/
theorem rendered_supers_spec (c : Class) (s : String) : s ∈ c.renderedSupers ↔ s ∈ c.superclasses ∧ s ≠ "builtins.object" := by
  simp [Class.renderedSupers]

theorem rendered_supers_eq (c : Class) (h : "builtins.object" ∉ c.superclasses) : c.renderedSupers = c.superclasses := by
  unfold Class.renderedSupers
  rw [List.filter_eq_self]
  intro x hx
  simp only [bne_iff_ne, ne_eq]
  intro e; subst e; exact h hx

example : ({ id := "m/A", name := "A", isPublic := true, superclasses := ["m.B", "builtins.object"] } : Class).renderedSupers = ["m.B"] := by decide +kernel

end StubGen.C11
