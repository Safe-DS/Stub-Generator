/-
C09, package segments — "… and package segments in lowerCamelCase, … and a Python-module annotation exactly when the
package path differs."

Until the repair 8e9a214 the tool converted a dotted package path as ONE name (`pkg.sub_pkg` was cut at the
underscores only, so the segment after a dot kept its case and a segment `_private` became `Private`); the property
was false of it.  Since the repair every segment is converted on its own, and these theorems say so for every path.
`convertAny` is the whole of `_convert_name_to_convention`; `convertPath` is what the three call sites with a dotted
argument compute (module header, import line, placeholder header).
-/
import StubGen.Proofs.PathConv
import StubGen.Proofs.Files

namespace StubGen.C09

/-- flag off: every package path is emitted verbatim -/
theorem path_off (p : String) : convertPath p false = p := pc_convertPath_off p

/-- the segments of the rendered path are the rendered segments, one for one and in order -/
theorem path_segments (p : String) (safe : Bool) :
    pySplit (convertPath p safe) '.' = (pySplit p '.').map (fun s => convertName s safe) :=
  pc_split_convertPath p safe

/-- the number of segments does not change -/
theorem path_segment_count (p : String) (safe : Bool) :
    (pySplit (convertPath p safe) '.').length = (pySplit p '.').length := by
  rw [path_segments, List.length_map]

/-- flag on: no segment of the rendered path contains an underscore (a segment that IS `_` is kept) -/
theorem path_segments_no_underscore (p s : String) (h : s ∈ pySplit (convertPath p true) '.') :
    s = "_" ∨ '_' ∉ s.toList := by
  rw [path_segments] at h
  obtain ⟨o, _, rfl⟩ := List.mem_map.mp h
  by_cases ho : o = "_"
  · left; subst ho; decide
  · right; exact convert_on_no_underscore o false ho

/-- flag on: a segment that is a convertible name is rendered as a legal identifier -/
theorem path_segments_legal (p : String) (h : ∀ o ∈ pySplit p '.', Convertible o.toList = true) :
    ∀ s ∈ pySplit (convertPath p true) '.', isIdent s.toList = true := by
  intro s hs
  rw [path_segments] at hs
  obtain ⟨o, ho, rfl⟩ := List.mem_map.mp hs
  exact convert_on_legal o false (h o ho)

/-- a segment is rendered the same wherever it stands: the rendering of a path depends on its segments only -/
theorem path_segment_consistent (p q : String) (safe : Bool) (i : Nat) (s : String)
    (hp : (pySplit p '.')[i]? = some s) (hq : (pySplit q '.')[i]? = some s) :
    (pySplit (convertPath p safe) '.')[i]? = (pySplit (convertPath q safe) '.')[i]? := by
  rw [path_segments, path_segments, List.getElem?_map, List.getElem?_map, hp, hq]

/-- the function the tool calls is the one function `convertAny`: on a dotted path the segment-wise conversion, on a
    name without a dot the conversion of the name -/
theorem convert_any_path (p : String) (safe : Bool) : convertAny p safe false = convertPath p safe := by
  unfold convertAny
  split
  · rfl
  · rename_i h
    rw [pc_convertPath_single p safe (by simpa using h)]

theorem convert_any_name (s : String) (safe cls : Bool) (h : '.' ∉ s.toList) :
    convertAny s safe cls = convertName s safe cls := by
  unfold convertAny
  rw [if_neg (by simpa using h)]

/-- `(module annotation?, rendered package path)` as emitted in every stub header -/
def emitPath (p : String) (safe : Bool) : Option String × String :=
  let r := convertPath p safe
  (if p != r then some p else none, r)

def recoverPath (e : Option String × String) : String := e.1.getD e.2

/-- a Python-module annotation exactly when the package path differs -/
theorem module_annotation_iff_differs (p : String) (safe : Bool) :
    (emitPath p safe).1 = some p ↔ convertPath p safe ≠ p := by
  unfold emitPath
  by_cases h : p = convertPath p safe
  · simp [← h]
  · have h' : convertPath p safe ≠ p := fun e => h e.symm
    simp [h, h']

theorem module_annotation_none_iff (p : String) (safe : Bool) :
    (emitPath p safe).1 = none ↔ convertPath p safe = p := by
  unfold emitPath
  by_cases h : p = convertPath p safe
  · simp [← h]
  · have h' : convertPath p safe ≠ p := fun e => h e.symm
    simp [h, h']

/-- the Python package path is recoverable under both settings, and the settings agree -/
theorem recover_path_eq (p : String) (safe : Bool) : recoverPath (emitPath p safe) = p := by
  unfold recoverPath emitPath
  by_cases h : p = convertPath p safe
  · simp [← h]
  · simp [h]

theorem recover_path_flag_independent (p : String) :
    recoverPath (emitPath p true) = recoverPath (emitPath p false) := by
  rw [recover_path_eq, recover_path_eq]

/-- no module annotation at all with the flag off -/
theorem no_module_annotation_off (p : String) : (emitPath p false).1 = none :=
  (module_annotation_none_iff p false).mpr (path_off p)

/-- the module header of the generator IS `emitPath`: annotation line iff the option is there, then the package line -/
theorem module_header_is_emitPath (env : Env) (pkg : String) :
    packageHeader env pkg =
      (match (emitPath pkg env.safe).1 with
        | some o => "@PythonModule(\"" ++ o ++ "\")\n"
        | none => "")
      ++ "package " ++ escapePath (emitPath pkg env.safe).2 ++ "\n" := by
  unfold packageHeader emitPath
  by_cases h : pkg = convertPath pkg env.safe
  · simp [← h]
  · simp [h]

/-! Non-vacuity: what the defect looked like, and what is emitted now. -/
example : convertPath "pkg.sub_pkg.mod_name" true = "pkg.subPkg.modName" := by decide +kernel
example : convertPath "pkg._private.mod" true = "pkg.private.mod" := by decide +kernel
example : convertAny "pkg.sub_pkg.mod_name" true true = "Pkg.SubPkg.ModName" := by decide +kernel
example : emitPath "tests.data.my_package" true = (some "tests.data.my_package", "tests.data.myPackage")
    ∧ emitPath "tests.data.pkg" true = (none, "tests.data.pkg") := by decide +kernel
/-- the pre-repair rendering (the whole path as one name) differs from the repaired one exactly on such paths -/
example : convertName "pkg._private.mod" true ≠ convertPath "pkg._private.mod" true := by decide +kernel

end StubGen.C09
