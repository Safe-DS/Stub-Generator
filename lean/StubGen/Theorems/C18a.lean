/-
C18 — analyser half: the walk of a module does not read the API tables that other modules filled.
-/
import StubGen.Proofs.TableLocal

namespace StubGen.C18a

open StubGen

/-- the part of the walk of one file that builds the `Module` record: `enter_moduledef`, then the definitions -/
def buildModule (env : AEnv) (m : SrcModule) : V Unit := do
  enterModuledef m
  walkDefs env .module m.defs

theorem buildModule_sim (env : AEnv) (m : SrcModule) : t18_Sim (buildModule env m) (buildModule env m) :=
  (obl_Sim.bind (obl_enterModuledef_sim false true m)
    (fun _ => obl_walkDefs_sim false true env env.opts.warn .module m.defs)).t18

/-- THE WALK OF A MODULE IS BLIND TO THE API TABLES.  Run the analysis of one file from a state `s` and from the same state
    with ALL tables of the API object (`modules`, `classes`, `functions`, `results`, `enums`, `enum_instances`,
    `attributes`, `parameters`) replaced by arbitrary other contents `u` — i.e. after any other modules whatsoever have been
    analysed, or none: both runs raise the same error, or both succeed and their final states agree in everything but those
    tables: the declaration stack, the docstring cache, the type-variable set, the warning log, the re-export map. -/
theorem walk_module_blind_to_tables (env : AEnv) (m : SrcModule) (s : VSt) (u : AnaResult) :
    t18_Rel (walkModule env m s) (walkModule env m (t18_setT s u)) :=
  (t18_walkModule_sim env m).run s u

/-- … in particular the `Module` record under construction — the top of the declaration stack just before
    `leave_moduledef` stores it — is THE SAME record, with the same classes, functions, enums, ids, types, publicity flags,
    `reexported_by` lists and docstrings, whatever the tables contained. -/
theorem module_record_local (env : AEnv) (m : SrcModule) (s t : VSt) (u : AnaResult)
    (h : buildModule env m s = .ok ((), t)) :
    ∃ t', buildModule env m (t18_setT s u) = .ok ((), t') ∧ t'.stack = t.stack ∧ t'.warnings = t.warnings ∧
      t'.doc = t.doc ∧ t'.api.reexportMap = t.api.reexportMap := by
  have hr := (buildModule_sim env m).run s u
  rw [h] at hr
  cases h' : buildModule env m (t18_setT s u) with
  | error e => rw [h'] at hr; exact hr.elim
  | ok r =>
    obtain ⟨a, t'⟩ := r
    rw [h'] at hr
    obtain ⟨_, ht⟩ := hr
    refine ⟨t', rfl, ?_, ?_, ?_, ?_⟩ <;> rw [ht]

/-- … and the same for a whole sequence of files: the warnings that are logged and the error that ends the run do not
    depend on the tables either -/
theorem walk_modules_blind_to_tables (env : AEnv) (ms : List SrcModule) (s : VSt) (u : AnaResult) :
    t18_Rel (walkModules env ms s) (walkModules env ms (t18_setT s u)) :=
  (t18_walkModules_sim env ms).run s u

/-- the channels that remain (each a kernel-checked witness elsewhere): the alias table keyed by short name
    (`C18b.same_short_name_interferes`), the re-export map with its suffix matching (`C04a.suffix_interference`), the
    docstring tree.  `t18_setT` keeps exactly the re-export map of the API object: -/
example (s : VSt) (u : AnaResult) : (t18_setT s u).api.reexportMap = s.api.reexportMap ∧ (t18_setT s u).api.functions = u.functions :=
  ⟨rfl, rfl⟩

end StubGen.C18a
