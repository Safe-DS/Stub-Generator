/-
C15 — the test-run flag alone controls whether test and docs directories are analysed.
Theorems about `discoverLoop` / `discover` / `selectAsts` (Model/Discovery.lean).
-/
import StubGen.Model.Discovery

namespace StubGen.C15

/-- Specification of the filter, from the property statement: a file is skipped iff the flag is off
    and one of its path *components* is exactly `test`, `tests` or `docs`. -/
def skipped (isTestRun : Bool) (f : PathParts) : Bool :=
  !isTestRun && (f.contains "test" || f.contains "tests" || f.contains "docs")

theorem inExcludedDir_iff (f : PathParts) :
    inExcludedDir f = (f.contains "test" || f.contains "tests" || f.contains "docs") := by
  simp [inExcludedDir, Generated.excludedDirs, List.any_cons, Bool.or_assoc]

theorem skipped_eq (b : Bool) (f : PathParts) : skipped b f = (!b && inExcludedDir f) := by
  rw [inExcludedDir_iff]; rfl

/-- the loop is a pair of order-preserving filters -/
theorem discoverLoop_eq (isTestRun : Bool) (files : List PathParts) :
    discoverLoop isTestRun files =
      { walkable := files.filter (fun f => !skipped isTestRun f && !isInitFile f),
        packages := (files.filter (fun f => !skipped isTestRun f && isInitFile f)).map List.dropLast } := by
  induction files with
  | nil => rfl
  | cons f fs ih =>
    rw [discoverLoop, ih, List.filter_cons, List.filter_cons, skipped_eq]
    cases (!isTestRun && inExcludedDir f) <;> cases isInitFile f <;> rfl

/-- the kept module files are exactly the non-skipped non-`__init__` files, in enumeration order;
    the packages are the directories of the non-skipped `__init__.py` files -/
theorem filter_spec (isTestRun : Bool) (files : List PathParts) :
    (discoverLoop isTestRun files).walkable = files.filter (fun f => !skipped isTestRun f && !isInitFile f)
    ∧ (discoverLoop isTestRun files).packages
        = (files.filter (fun f => !skipped isTestRun f && isInitFile f)).map List.dropLast := by
  rw [discoverLoop_eq]
  exact ⟨rfl, rfl⟩

/-- without files in `test`/`tests`/`docs` directories the flag is not consulted -/
theorem discoverLoop_flag {files : List PathParts} (h : ∀ f ∈ files, inExcludedDir f = false) (b b' : Bool) :
    discoverLoop b files = discoverLoop b' files := by
  have hs : ∀ b, ∀ f ∈ files, skipped b f = false := fun b f hf => by
    rw [skipped_eq, h f hf, Bool.and_false]
  rw [discoverLoop_eq, discoverLoop_eq]
  congr 1
  · exact List.filter_congr fun f hf => by rw [hs b f hf, hs b' f hf]
  · exact congrArg _ (List.filter_congr fun f hf => by rw [hs b f hf, hs b' f hf])

/-- with the flag every Python file of the package contributes -/
theorem flag_on_keeps_all (files : List PathParts) :
    (discoverLoop true files).walkable = files.filter (fun f => !isInitFile f)
    ∧ (discoverLoop true files).packages = (files.filter isInitFile).map List.dropLast := by
  have h := filter_spec true files
  simpa [skipped] using h

/-- without the flag no file in a directory named test, tests or docs is analysed, and no such
    `__init__.py` makes its directory a package -/
theorem flag_off_excludes (files : List PathParts) (f : PathParts)
    (hf : f.contains "test" = true ∨ f.contains "tests" = true ∨ f.contains "docs" = true) :
    f ∉ (discoverLoop false files).walkable := by
  rw [(filter_spec false files).1]
  intro h
  have := (List.mem_filter.mp h).2
  simp only [skipped, Bool.not_false, Bool.true_and, Bool.and_eq_true, Bool.not_eq_eq_eq_not, Bool.not_true,
    Bool.or_eq_false_iff] at this
  rcases hf with h1 | h1 | h1
  · rw [this.1.1.1] at h1; exact absurd h1 (by decide)
  · rw [this.1.1.2] at h1; exact absurd h1 (by decide)
  · rw [this.1.2] at h1; exact absurd h1 (by decide)

/-- for a package without such directories the flag makes no difference -/
theorem flag_irrelevant_outside (files : List PathParts)
    (h : ∀ f ∈ files, inExcludedDir f = false) (b b' : Bool) :
    discover files b = discover files b' := by
  unfold discover
  rw [discoverLoop_flag h b b']

/-- files outside such directories are treated alike under both flag values: the flag-off result is
    the flag-on result with the skipped files removed -/
theorem flag_only_removes (files : List PathParts) :
    (discoverLoop false files).walkable = (discoverLoop true files).walkable.filter (fun f => !inExcludedDir f)
    ∧ (discoverLoop false files).packages
        = ((files.filter isInitFile).filter (fun f => !inExcludedDir f)).map List.dropLast := by
  rw [(filter_spec false files).1, (filter_spec false files).2, (flag_on_keeps_all files).1]
  simp [skipped_eq, List.filter_filter]

/-- the documented rejection: no module file kept -/
theorem no_files_error (files : List PathParts) (b : Bool) :
    (discover files b = .error .valueError ↔ (discoverLoop b files).walkable = [])
    ∧ (∀ d, discover files b = .ok d → d = discoverLoop b files) := by
  unfold discover
  by_cases h : (discoverLoop b files).walkable.isEmpty = true
  · simp [List.isEmpty_iff.mp h]
  · simp only [h]
    constructor
    · simp only [Bool.false_eq_true, if_false, false_iff, reduceCtorEq]
      intro h'; simp [h'] at h
    · intro d hd; injection hd with hd; exact hd.symm

/-- every AST handed to the walker belongs to a kept file, even when mypy's build graph contains more
    (e.g. an excluded file loaded through an import) -/
theorem analysed_subset (graph : List String) (d : Discovered) (p : String) (h : p ∈ selectAsts graph d) :
    p ∈ graph ∧ (p ∈ d.walkable.map pathStr ∨ pyEndsWith p "__init__.py" = true) := by
  unfold selectAsts at h
  simp only [List.mem_append, List.mem_filter, Bool.and_eq_true, Bool.not_eq_eq_eq_not, Bool.not_true] at h
  rcases h with ⟨hg, hi, _⟩ | ⟨hg, _, hf⟩
  · exact ⟨hg, Or.inr hi⟩
  · exact ⟨hg, Or.inl (by simpa using hf)⟩

/-- packages are analysed before modules -/
theorem packages_first (graph : List String) (d : Discovered) :
    ∃ a b, selectAsts graph d = a ++ b ∧ (∀ p ∈ a, pyEndsWith p "__init__.py" = true)
      ∧ (∀ p ∈ b, pyEndsWith p "__init__.py" = false) := by
  refine ⟨_, _, rfl, ?_, ?_⟩
  · intro p hp; simp only [List.mem_filter, Bool.and_eq_true] at hp; exact hp.2.1
  · intro p hp; simp only [List.mem_filter, Bool.and_eq_true, Bool.not_eq_eq_eq_not, Bool.not_true] at hp; exact hp.2.1

/-! whole components only: look-alike names are kept (non-vacuity and the property's examples) -/
example : inExcludedDir ["/", "src", "pkg", "testing", "m.py"] = false
    ∧ inExcludedDir ["/", "src", "pkg", "test_x.py"] = false
    ∧ inExcludedDir ["/", "src", "pkg", "mytests", "m.py"] = false
    ∧ inExcludedDir ["/", "src", "pkg", "docs_old", "m.py"] = false
    ∧ inExcludedDir ["/", "src", "pkg", "tests", "m.py"] = true
    ∧ inExcludedDir ["/", "src", "pkg", "sub", "docs", "conf.py"] = true := by decide +kernel

example : discover [["/", "p", "__init__.py"], ["/", "p", "a.py"], ["/", "p", "tests", "t.py"], ["/", "p", "tests", "__init__.py"]] false
    = .ok { walkable := [["/", "p", "a.py"]], packages := [["/", "p"]] } := by rfl

example : discover [["/", "p", "tests", "t.py"]] false = .error .valueError := by rfl

end StubGen.C15
