/-
C06 (generator side) — "For every emitted function, method and constructor the stub parameter list
equals the Python parameter list with the implicit receiver (self/cls) removed: same length, same
order, same Python names.  Literal defaults (int, float, str, bool, None, signed numbers) are
reproduced with the same value and a parameter is optional exactly when Python gives it such a
default."

Property theorems about `createParameterString` / `createParameters` / `createParameter`
(`_create_parameter_string`).  Specification vocabulary: `Spec/Params.lean`; helper lemmas:
`Proofs/Params.lean`.  API invariants used as hypotheses (established by the analyser, checked on
the real API by the harness): `Spec.WFReceiver` (the receiver is the first parameter of an
instance/class method and the only implicit one) and `Spec.optionalIsTyped`.
-/
import StubGen.Proofs.Params
import StubGen.Theorems.C09

namespace StubGen.C06

open StubGen

/-- (1) Same length, same order, same names.  A successful `createParameterString` on a well-formed
    parameter list is a successful `createParameters` on the list without the receiver, with the same
    final state; there is exactly one output per remaining parameter, the `i`-th output carries the
    rendered name of the `i`-th parameter and the `@PythonName` annotation exactly when the rendered
    name differs, and the text is the outputs one per line. -/
theorem params_length_order_names (env : Env) (ps : List Parameter) (indent : String) (isInst : Bool)
    (st st' : St) (text : String)
    (h : createParameterString env ps indent isInst st = .ok (text, st'))
    (hwf : Spec.WFReceiver ps isInst) :
    ∃ outs : List ParamOut,
      createParameters env (Spec.receiverRemoved ps) st = .ok (outs, st') ∧
      outs.length = (Spec.receiverRemoved ps).length ∧
      (∀ i (ho : i < outs.length) (hp : i < (Spec.receiverRemoved ps).length),
        outs[i].name = escapeKeyword (convertName (Spec.receiverRemoved ps)[i].name env.safe) ∧
        outs[i].annotation =
          (if convertName (Spec.receiverRemoved ps)[i].name env.safe ≠ (Spec.receiverRemoved ps)[i].name
           then nameAnnotation (Spec.receiverRemoved ps)[i].name ++ " " else "")) ∧
      (outs = [] → text = "") ∧
      (outs ≠ [] → text = "\n" ++ indent ++ indentation
          ++ joinWith (",\n" ++ indent ++ indentation) (outs.map ParamOut.render) ++ "\n" ++ indent) := by
  rw [createParameterString_eq, receiverRemoved_of_wf hwf] at h
  cases hc : createParameters env (Spec.receiverRemoved ps) st with
  | error e => rw [hc] at h; cases h
  | ok x =>
    obtain ⟨outs, st₁⟩ := x
    rw [hc] at h
    cases h
    obtain ⟨hl, hi⟩ := createParameters_ok hc
    refine ⟨outs, rfl, hl, ?_, ?_, ?_⟩
    · intro i ho hp
      obtain ⟨s, s', hcp⟩ := hi i hp ho
      obtain ⟨ha, hn⟩ := createParameter_name hcp
      exact ⟨hn, ha⟩
    · rintro rfl
      rfl
    · intro hne
      cases outs with
      | nil => exact absurd rfl hne
      | cons o os => simp [Spec.paramListText]

/-- (1, specification form) the same statement against `Spec`: the (annotation, name) pairs of the
    outputs are those the specification prescribes for the receiver-free list, and the text is
    `Spec.paramListText` of the rendered outputs. -/
theorem params_match_spec (env : Env) (ps : List Parameter) (indent : String) (isInst : Bool)
    (st st' : St) (text : String)
    (h : createParameterString env ps indent isInst st = .ok (text, st'))
    (hwf : Spec.WFReceiver ps isInst) :
    ∃ outs : List ParamOut,
      createParameters env (Spec.receiverRemoved ps) st = .ok (outs, st') ∧
      outs.map (fun o => (o.annotation, o.name))
        = (Spec.receiverRemoved ps).map (fun p => (Spec.paramAnnotation env.safe p, Spec.paramName env.safe p)) ∧
      text = Spec.paramListText indent indentation (outs.map ParamOut.render) := by
  rw [createParameterString_eq, receiverRemoved_of_wf hwf] at h
  cases hc : createParameters env (Spec.receiverRemoved ps) st with
  | error e => rw [hc] at h; cases h
  | ok x =>
    obtain ⟨outs, st₁⟩ := x
    rw [hc] at h
    cases h
    exact ⟨outs, rfl, createParameters_names hc, rfl⟩

/-- (1, C09 form) the Python name of every stub parameter is recoverable: annotation and rendered name
    are exactly the `C09.emitName` pair of the Python name, on which `C09.recover` is the identity. -/
theorem params_names_recoverable (env : Env) (ps : List Parameter) (indent : String) (isInst : Bool)
    (st st' : St) (text : String) (outs : List ParamOut)
    (h : createParameterString env ps indent isInst st = .ok (text, st'))
    (hwf : Spec.WFReceiver ps isInst)
    (houts : createParameters env (Spec.receiverRemoved ps) st = .ok (outs, st')) :
    ∀ i (ho : i < outs.length) (hp : i < (Spec.receiverRemoved ps).length),
      let n := (Spec.receiverRemoved ps)[i].name
      outs[i].name = escapeKeyword (C09.emitName n env.safe false).2 ∧
      outs[i].annotation = (match (C09.emitName n env.safe false).1 with
        | some py => nameAnnotation py ++ " "
        | none => "") ∧
      C09.recover (C09.emitName n env.safe false) = n := by
  intro i ho hp
  obtain ⟨outs', h1, _, h3, _⟩ := params_length_order_names env ps indent isInst st st' text h hwf
  rw [houts] at h1
  cases h1
  obtain ⟨hn, ha⟩ := h3 i ho hp
  refine ⟨hn, ?_, C09.recover_eq _ _ _⟩
  rw [ha]
  unfold C09.emitName
  by_cases hd : convertName (Spec.receiverRemoved ps)[i].name env.safe = (Spec.receiverRemoved ps)[i].name
    <;> simp [hd]

/-- (2) Optional in the stub exactly when optional in the API, with the same literal. -/
theorem params_defaults (env : Env) (p : Parameter) (st st' : St) (out : ParamOut)
    (htyped : Spec.optionalIsTyped p = true)
    (h : createParameter env p st = .ok (out, st')) :
    out.value = if p.isOptional then " = " ++ Spec.defaultText p.assignedBy p.default else "" := by
  cases ht : p.type with
  | none =>
    have hopt : p.isOptional = false := by
      simpa [Spec.optionalIsTyped, ht] using htyped
    rw [createParameter_none env p st ht] at h
    cases h
    simp [hopt]
  | some t =>
    rw [createParameter_some env p st ht (shownParamType_of_some ht)] at h
    split at h
    · cases h
    · cases h
      rfl

/-- (2, consequence) the stub parameter has a default value iff the Python parameter has one -/
theorem params_optional_iff (env : Env) (p : Parameter) (st st' : St) (out : ParamOut)
    (htyped : Spec.optionalIsTyped p = true)
    (h : createParameter env p st = .ok (out, st')) :
    out.value ≠ "" ↔ p.isOptional = true := by
  rw [params_defaults env p st st' out htyped h]
  cases p.isOptional with
  | false => simp
  | true =>
    simp only [if_true, ne_eq, iff_true]
    intro e
    have := congrArg String.length e
    simp [String.length_append] at this

/-- (2, the dropped default) without `optionalIsTyped` the default value is lost: an optional
    parameter without a type is emitted as a required one, whatever its default. -/
theorem untyped_default_dropped (env : Env) (p : Parameter) (st : St) (h : p.type = none) :
    ∃ out st', createParameter env p st = .ok (out, st') ∧ out.value = "" :=
  ⟨_, _, createParameter_none env p st h, rfl⟩

/-- (3) The type shown is the rendering (`typeStr`) of the parameter's shown type (`*args: tuple[T]`
    is shown as a list), prefixed by `: ` unless it is empty; a parameter without type gets no type,
    except the variadic ones, which get their collection type.  `afterDefault` / `paramTail` are the
    marker updates (C20) before and after the type is rendered. -/
theorem params_type (env : Env) (p : Parameter) (st st' : St) (out : ParamOut)
    (h : createParameter env p st = .ok (out, st')) :
    match Spec.shownParamType p with
    | some t' => ∃ s st₂, typeStr env t' (afterDefault p st) = .ok (s, st₂) ∧ st' = paramTail p st₂ ∧
        out.typeString = if s ≠ "" then ": " ++ s else ""
    | none => out.typeString = (match p.assignedBy with
        | .positionalVararg => ": List<Any>"
        | .namedVararg => ": Map<String, Any>"
        | _ => "") := by
  cases ht : p.type with
  | none =>
    rw [shownParamType_none ht]
    rw [createParameter_none env p st ht] at h
    cases h
    rfl
  | some t =>
    rw [shownParamType_of_some ht]
    rw [createParameter_some env p st ht (shownParamType_of_some ht)] at h
    simp only
    split at h
    · cases h
    · rename_i s st₂ hs
      cases h
      exact ⟨s, st₂, hs, rfl, rfl⟩

/-- (3, untyped variadics) -/
theorem params_type_untyped_varargs (env : Env) (p : Parameter) (st st' : St) (out : ParamOut)
    (hnone : p.type = none) (h : createParameter env p st = .ok (out, st')) :
    (p.assignedBy = .positionalVararg → out.typeString = ": List<Any>") ∧
    (p.assignedBy = .namedVararg → out.typeString = ": Map<String, Any>") ∧
    (p.assignedBy ≠ .positionalVararg → p.assignedBy ≠ .namedVararg → out.typeString = "") := by
  rw [createParameter_none env p st hnone] at h
  cases h
  simp only [Spec.untypedParamType]
  cases p.assignedBy <;> simp

/-- (1-3 together) a typed parameter is rendered as the specification's `specParam` of the rendering
    of its shown type -/
theorem param_matches_spec (env : Env) (p : Parameter) (st st' : St) (out : ParamOut) (t' : AType)
    (hs : Spec.shownParamType p = some t')
    (h : createParameter env p st = .ok (out, st')) :
    ∃ s st₂, typeStr env t' (afterDefault p st) = .ok (s, st₂) ∧
      ({ annotation := out.annotation, name := out.name, typeString := out.typeString, value := out.value }
        : Spec.ParamText) = Spec.specParam env.safe p s ∧
      out.render = (Spec.specParam env.safe p s).render := by
  cases ht : p.type with
  | none => rw [shownParamType_none ht] at hs; cases hs
  | some t =>
    rw [createParameter_some env p st ht hs] at h
    split at h
    · cases h
    · rename_i s st₂ hts
      cases h
      exact ⟨s, st₂, hts, rfl, rfl⟩

/-- (4) On a well-formed list, skipping the first parameter of an instance/class method is removing
    the receiver, and nothing is removed from a function or static method. -/
theorem receiver_skip_is_drop (ps : List Parameter) :
    (Spec.WFReceiver ps true → ps.drop 1 = Spec.receiverRemoved ps) ∧
    (Spec.WFReceiver ps false → ps = Spec.receiverRemoved ps) :=
  ⟨fun h => receiverRemoved_of_wf (b := true) h, fun h => receiverRemoved_of_wf (b := false) h⟩

/-! ### Non-vacuity and counterexamples -/

section Examples

private def env0 : Env := { api := {}, safe := true }
private def tInt : AType := .named "int" "builtins.int"
private def tStr : AType := .named "str" "builtins.str"
private def tBool : AType := .named "bool" "builtins.bool"
private def tFloat : AType := .named "float" "builtins.float"
private def mk (name : String) (a : Assign) (opt : Bool) (d : DefaultVal) (t : Option AType) : Parameter :=
  { id := "m/C/f/" ++ name, name := name, isOptional := opt, default := d, assignedBy := a, type := t }

/-- `def f(self, in_, /, ...)`-like method: the receiver, all five kinds, a keyword name (`in`), a
    snake_case name, and int / float / str / signed / bool / None defaults -/
private def demo : List Parameter :=
  [ mk "self" .implicit false .none none,
    mk "in" .positionOnly false .none (some tInt),
    mk "max_depth" .positionOnly true (.int 3) (some tInt),
    mk "ratio" .positionOrName true (.float "1.5") (some tFloat),
    mk "label" .positionOrName true (.str "\"a\"") (some tStr),
    mk "offset" .positionOrName true (.int (-2)) (some tInt),
    mk "args" .positionalVararg false .none (some (.tuple [tInt])),
    mk "verbose" .nameOnly true (.bool true) (some tBool),
    mk "callback" .nameOnly true .none (some (.union [tStr, .named "None" "builtins.None"])),
    mk "kwargs" .namedVararg false .none none ]

/-- the hypotheses of (1) and (2) hold for `demo` -/
example : Spec.WFReceiver demo true := by decide +kernel
example : demo.all Spec.optionalIsTyped = true := by decide +kernel
example : (Spec.receiverRemoved demo).length = 9 ∧ (Spec.receiverRemoved demo).map (·.name)
    = ["in", "max_depth", "ratio", "label", "offset", "args", "verbose", "callback", "kwargs"] := by decide +kernel

set_option maxRecDepth 4000 in
/-- … and `createParameterString` succeeds on it, with this text -/
example : (createParameterString env0 demo "" true {}).toOption.map (·.1) = some
    ("\n    `in`: Int,\n    @PythonName(\"max_depth\") maxDepth: Int = 3,\n    ratio: Float = 1.5,\n"
     ++ "    label: String = \"a\",\n    offset: Int = -2,\n    args: List<Int>,\n    verbose: Boolean = true,\n"
     ++ "    callback: String? = null,\n    kwargs: Map<String, Any>\n") := by decide +kernel

set_option maxRecDepth 4000 in
/-- the outputs, piecewise: keyword escaped, annotation iff renamed, defaults verbatim -/
example : (createParameters env0 (Spec.receiverRemoved demo) {}).toOption.map
      (fun r => r.1.map (fun o => (o.annotation, o.name, o.typeString, o.value))) = some
    [ ("", "`in`", ": Int", ""),
      ("@PythonName(\"max_depth\") ", "maxDepth", ": Int", " = 3"),
      ("", "ratio", ": Float", " = 1.5"),
      ("", "label", ": String", " = \"a\""),
      ("", "offset", ": Int", " = -2"),
      ("", "args", ": List<Int>", ""),
      ("", "verbose", ": Boolean", " = true"),
      ("", "callback", ": String?", " = null"),
      ("", "kwargs", ": Map<String, Any>", "") ] := by decide +kernel

/-- with the naming flag off nothing is renamed, nothing annotated (the keyword is still escaped) -/
example : (createParameterString { env0 with safe := false } (demo.take 3) "" true {}).toOption.map (·.1)
    = some "\n    `in`: Int,\n    max_depth: Int = 3\n" := by decide +kernel

/-- nested declaration: the indentation of the declaration is prepended -/
example : (createParameterString env0 (demo.take 2) "    " true {}).toOption.map (·.1)
    = some "\n        `in`: Int\n    " := by decide +kernel

/-- no parameters besides the receiver: empty text -/
example : (createParameterString env0 (demo.take 1) "" true {}).toOption.map (·.1) = some "" := by decide +kernel

/-- the empty-collection defaults of variadic parameters -/
example : (createParameterString env0
      [ mk "args" .positionalVararg true (.str "()") (some (.tuple [tInt])),
        mk "kw" .namedVararg true (.str "{}") (some (.dict tStr tInt)) ] "" false {}).toOption.map (·.1)
    = some "\n    args: List<Int> = [],\n    kw: Map<String, Int> = {}\n" := by decide +kernel

/-- the remaining literal kinds of `Spec.defaultText` -/
example : Spec.defaultText .positionOrName (.bool false) = "false" ∧ Spec.defaultText .nameOnly .unknown = "unknown"
    ∧ Spec.defaultText .positionOrName (.str "()") = "()" ∧ Spec.defaultText .positionOrName (.float "-1e-3") = "-1e-3"
    ∧ Spec.defaultText .positionOrName (.int (-17)) = "-17" := by decide +kernel

/-- (2) needs `optionalIsTyped`: `def f(x=3)` whose parameter carries no type loses its default … -/
example : Spec.optionalIsTyped (mk "x" .positionOrName true (.int 3) none) = false
    ∧ (createParameterString env0 [mk "x" .positionOrName true (.int 3) none] "" false {}).toOption.map (·.1)
      = some "\n    x\n" := by decide +kernel
/-- … while the same parameter with its inferred type keeps it -/
example : (createParameterString env0 [mk "x" .positionOrName true (.int 3) (some tInt)] "" false {}).toOption.map (·.1)
    = some "\n    x: Int = 3\n" := by decide +kernel

/-- (4) needs `WFReceiver`: a parameter list without receiver passed as an instance method (what a
    mis-classified static method would be) loses its first real parameter … -/
example : ¬ Spec.WFReceiver [mk "x" .positionOrName false .none (some tInt)] true := by decide +kernel
example : (createParameterString env0 [mk "x" .positionOrName false .none (some tInt)] "" true {}).toOption.map (·.1)
    = some "" := by decide +kernel
example : (Spec.receiverRemoved [mk "x" .positionOrName false .none (some tInt)]).length = 1 ∧
    ([mk "x" .positionOrName false .none (some tInt)].drop 1).length = 0 := by decide +kernel
/-- … and a receiver passed with `isInstanceMethod = false` is emitted as an ordinary parameter -/
example : ¬ Spec.WFReceiver (demo.take 2) false := by decide +kernel
example : (createParameterString env0 (demo.take 2) "" false {}).toOption.map (·.1)
    = some "\n    self,\n    `in`: Int\n" := by decide +kernel

end Examples

end StubGen.C06
