/-
C13a — the parser half of C13 (and of C14): what the documentation queries of
`docstring_parsing/_docstring_parser.py` (model: `StubGen.Model.Doc`) compute.

1. `annToType` (`_griffe_annotation_to_api_type`) equals a readable specification `v13_docType`;
2. exactly which annotations have no type; the function cannot raise;
3. the order in which the operands of `a | b | c` are visited is invisible to `==`/`hash`;
4. `getGriffeNode` is the iterated child lookup over the parts of the qualified name, only the
   FIRST part being skipped when it is the root's name;
5. the five queries as functions of the element's own docstring (`lookupDoc`), for every valid cache;
6. kernel-checked examples for every row.
Definitions of the specification functions and the proofs: `StubGen.Proofs.DocTypes` (prefix `v13_`).
Cache transparency is taken from `StubGen.Theorems.C13` / `StubGen.Proofs.Doc`.
-/
import StubGen.Proofs.DocTypes
import StubGen.Model.Analyze
import StubGen.Theorems.C13
import StubGen.Theorems.C19

namespace StubGen.C13a

open StubGen

/-! ## 1. Docstring annotation → API type -/

/-- the names with a fixed meaning (restated); the key is the CANONICAL PATH of the name -/
theorem nameTable_def :
    v13_nameTable =
      [("typing.Any", .named "Any" "typing.Any"), ("int", .named "int" "builtins.int"),
       ("bool", .named "bool" "builtins.bool"), ("float", .named "float" "builtins.float"),
       ("str", .named "str" "builtins.str"), ("list", .list []), ("tuple", .tuple []), ("set", .set [])] := rfl

/-- the type of a subscript `p[types]` (restated): `n` is the canonical name, `p` the canonical path -/
theorem subscriptType_def (p n : String) (types : List AType) :
    v13_subscriptType p n types =
      if p ∈ ["list", "collections.abc.Sequence", "collections.abc.Iterator"] then .list types
      else if p = "tuple" then .tuple types
      else if p = "set" then .set types
      else if p ∈ ["collections.abc.Callable", "typing.Callable"] then
        match types with
        | [] => .unknown
        | .list ps :: rest => .callable ps (rest.headD anyType)
        | t :: rest => .callable [t] (rest.headD anyType)
      else if p ∈ ["dict", "collections.abc.Mapping", "typing.Mapping"] then
        .dict (types.headD anyType) (types.getD 1 anyType)
      else if p = "typing.Optional" then .union (types ++ [noneType])
      else .namedSeq n p types := rfl

/-- the numpy `optional` marker (restated): a name or subscript whose canonical path is `optional` -/
theorem isOptionalMarker_def (p n : String) (s : GExpr) (es : List GExpr) (raw cut : String) (o : Option GExpr) :
    isOptionalMarker (.name p n) = (p == "optional") ∧ isOptionalMarker (.subscript p n s) = (p == "optional")
    ∧ isOptionalMarker (.tuple es) = false ∧ isOptionalMarker (.list es) = false
    ∧ isOptionalMarker (.boolOp es) = false ∧ isOptionalMarker (.binOp es) = false
    ∧ isOptionalMarker (.str raw cut o) = false ∧ isOptionalMarker .other = false :=
  ⟨rfl, rfl, rfl, rfl, rfl, rfl, rfl, rfl⟩

/-- **the specification** `v13_docType` (its defining equations, restated), one line per constructor.
    Everywhere an element without a type is dropped from its container (`filterMap`). -/
theorem docType_def :
    (∀ p n, v13_docType (.name p n) = some ((v13_nameTable.lookup p).getD (.named n p)))
    ∧ (∀ p n es, v13_docType (.subscript p n (.tuple es))
        = some (v13_subscriptType p n (es.filterMap v13_docType)))
    ∧ (∀ p n s, (∀ es, s ≠ .tuple es) →
        v13_docType (.subscript p n s) = some (v13_subscriptType p n (v13_docType s).toList))
    ∧ (∀ es, v13_docType (.list es) = some (.list (es.filterMap v13_docType)))
    ∧ (∀ es, v13_docType (.tuple es)
        = some (if es.any isOptionalMarker
            then .union ((es.filter (fun e => !isOptionalMarker e)).filterMap v13_docType ++ [noneType])
            else .tuple ((es.filter (fun e => !isOptionalMarker e)).filterMap v13_docType)))
    ∧ (∀ vs, v13_docType (.boolOp vs) = some (.union (vs.filterMap v13_docType)))
    ∧ (∀ ops, v13_docType (.binOp ops) = some (.union (ops.filterMap v13_docType)))
    ∧ (∀ raw cut, v13_docType (.str raw cut none) = if cut = "None" then some noneType else none)
    ∧ (∀ raw cut e, v13_docType (.str raw cut (some e)) = v13_docType e)
    ∧ v13_docType .other = some .unknown := by
  refine ⟨?_, ?_, ?_, ?_, ?_, ?_, ?_, ?_, ?_, ?_⟩
  · intro p n; rw [v13_docType]
  · intro p n es; rw [v13_docType]
  · intro p n s hs; rw [v13_docType]; exact fun es h => hs es h
  · intro es; rw [v13_docType]
  · intro es; rw [v13_docType]
  · intro vs; rw [v13_docType]
  · intro ops; rw [v13_docType]
  · intro raw cut; rw [v13_docType]
  · intro raw cut e; rw [v13_docType]
  · rw [v13_docType]

/-- **`annToType` is the specification**, for every annotation expression (no size bound), and the
    two list versions map it over the elements, dropping the typeless ones (and the `optional` markers) -/
theorem annToType_spec (e : GExpr) : annToType e = v13_docType e := v13_docType_eq e

theorem annsToTypes_spec (es : List GExpr) : annsToTypes es = es.filterMap v13_docType := by
  rw [v13_annsToTypes_eq]
  exact v13_filterMap_congr (fun e _ => v13_docType_eq e)

theorem annsToTypesSkipOptional_spec (es : List GExpr) :
    annsToTypesSkipOptional es = (es.filter (fun e => !isOptionalMarker e)).filterMap v13_docType := by
  rw [v13_annsToTypesSkipOptional_eq]
  exact v13_filterMap_congr (fun e _ => v13_docType_eq e)

/-- the name rows, spelled out -/
theorem name_rows (n : String) :
    annToType (.name "typing.Any" n) = some (.named "Any" "typing.Any")
    ∧ annToType (.name "int" n) = some (.named "int" "builtins.int")
    ∧ annToType (.name "bool" n) = some (.named "bool" "builtins.bool")
    ∧ annToType (.name "float" n) = some (.named "float" "builtins.float")
    ∧ annToType (.name "str" n) = some (.named "str" "builtins.str")
    ∧ annToType (.name "list" n) = some (.list [])
    ∧ annToType (.name "tuple" n) = some (.tuple [])
    ∧ annToType (.name "set" n) = some (.set [])
    ∧ (∀ p, p ∉ ["typing.Any", "int", "bool", "float", "str", "list", "tuple", "set"] →
        annToType (.name p n) = some (.named n p)) := by
  refine ⟨?_, ?_, ?_, ?_, ?_, ?_, ?_, ?_, ?_⟩
  iterate 8 (rw [v13_annToType_name]; rfl)
  intro p hp
  simp only [List.mem_cons, List.not_mem_nil, or_false, not_or] at hp
  obtain ⟨h1, h2, h3, h4, h5, h6, h7, h8⟩ := hp
  rw [v13_annToType_name]
  simp only [v13_nameTable, List.lookup, beq_eq_false_iff_ne.2 h1, beq_eq_false_iff_ne.2 h2,
    beq_eq_false_iff_ne.2 h3, beq_eq_false_iff_ne.2 h4, beq_eq_false_iff_ne.2 h5, beq_eq_false_iff_ne.2 h6,
    beq_eq_false_iff_ne.2 h7, beq_eq_false_iff_ne.2 h8, Option.getD_none]

/-- the subscript row, in terms of the model's own list function: the slice's element types are those
    of the tuple's elements, or of the single slice expression -/
theorem subscript_row (p n : String) (slice : GExpr) :
    annToType (.subscript p n slice)
      = some (v13_subscriptType p n
          (match slice with
           | .tuple es => es.filterMap annToType
           | s => (annToType s).toList)) := by
  rw [v13_annToType_subscript]
  cases slice <;> simp only [v13_sliceTypes, v13_annsToTypes_eq]

/-- `a | b | c`: the union lists the operand types in the order of the operand list, which is the
    order the implementation visits them: RIGHTMOST FIRST (`[c, b, a]`, see `GExpr.binOp`) -/
theorem binOp_row (operands : List GExpr) :
    annToType (.binOp operands) = some (.union (operands.filterMap annToType)) := by
  rw [annToType, v13_annsToTypes_eq]

/-! ## 2. Which annotations have no type; no exception -/

/-- `v13_NoType` (restated): towers of string annotations over a string that griffe could not parse
    and that is not `None` -/
theorem noType_iff (e : GExpr) :
    v13_NoType e ↔ (∃ raw cut, e = .str raw cut none ∧ cut ≠ "None")
      ∨ (∃ raw cut e', e = .str raw cut (some e') ∧ v13_NoType e') := by
  constructor
  · intro h
    cases h with
    | unparsable raw cut hc => exact Or.inl ⟨raw, cut, rfl, hc⟩
    | wrapped raw cut e' h' => exact Or.inr ⟨raw, cut, e', rfl, h'⟩
  · rintro (⟨raw, cut, rfl, hc⟩ | ⟨raw, cut, e', rfl, h'⟩)
    · exact .unparsable raw cut hc
    · exact .wrapped raw cut e' h'

/-- **exactly the unparsable non-`None` strings have no type** -/
theorem annToType_none_iff (e : GExpr) : annToType e = none ↔ v13_NoType e :=
  ⟨v13_noType_of_none_lt (sizeOf e + 1) e (Nat.lt_succ_self _), v13_none_of_noType⟩

/-- `annToType` is a pure function into `Option AType`: there is no exceptional outcome in the model
    at all (unknown forms give `UnknownType`, not an error), and it has a type except for `v13_NoType` -/
theorem annToType_total (e : GExpr) : (∃ t, annToType e = some t) ∨ (annToType e = none ∧ v13_NoType e) := by
  cases h : annToType e with
  | some t => exact Or.inl ⟨t, rfl⟩
  | none => exact Or.inr ⟨rfl, (annToType_none_iff e).1 h⟩

/-- in particular everything that is not a string annotation has a type -/
theorem annToType_isSome_of_not_str (e : GExpr) (h : ∀ raw cut parsed, e ≠ .str raw cut parsed) :
    ∃ t, annToType e = some t := by
  rcases annToType_total e with ht | ⟨_, hn⟩
  · exact ht
  · cases hn with
    | unparsable raw cut _ => exact absurd rfl (h raw cut none)
    | wrapped raw cut e' _ => exact absurd rfl (h raw cut (some e'))

/-! ## 3. The visiting order of `a | b | c` does not matter for comparisons -/

/-- for ANY reordering of the operands the two unions are `==` and hash equally; every comparison with
    a third type (the type hint) has the same outcome, in either direction -/
theorem union_order_irrelevant_perm (ops ops' : List GExpr) (h : ops.Perm ops') :
    ∃ t t', annToType (.binOp ops) = some t ∧ annToType (.binOp ops') = some t'
      ∧ t = .union (ops.filterMap annToType) ∧ t' = .union (ops'.filterMap annToType)
      ∧ t.pyEq t' = true ∧ t.hashKey = t'.hashKey
      ∧ (∀ hint : AType, hint.pyEq t = hint.pyEq t' ∧ t.pyEq hint = t'.pyEq hint) := by
  have hp := C19.perm_union _ _ (h.filterMap annToType)
  refine ⟨_, _, binOp_row ops, binOp_row ops', rfl, rfl, hp.1, hp.2, ?_⟩
  intro hint
  have key : hint.pyEq (.union (ops.filterMap annToType)) = hint.pyEq (.union (ops'.filterMap annToType)) := by
    apply Bool.eq_iff_iff.2
    constructor
    · intro h1; exact C19.eq_trans _ _ _ h1 hp.1
    · intro h1
      have := hp.1
      rw [C19.eq_symm] at this
      exact C19.eq_trans _ _ _ h1 this
  refine ⟨key, ?_⟩
  rw [C19.eq_symm _ hint, C19.eq_symm _ hint, key]

/-- the model lists the operands rightmost first; the union in SOURCE order (`operands.reverse`) is
    `==` to it, hashes equally and compares equally with every hint -/
theorem union_order_irrelevant (operands : List GExpr) :
    ∃ t t', annToType (.binOp operands) = some t ∧ annToType (.binOp operands.reverse) = some t'
      ∧ t' = .union (operands.filterMap annToType).reverse
      ∧ t.pyEq t' = true ∧ t.hashKey = t'.hashKey
      ∧ (∀ hint : AType, hint.pyEq t = hint.pyEq t' ∧ t.pyEq hint = t'.pyEq hint) := by
  obtain ⟨t, t', h1, h2, _, h4, h5, h6, h7⟩ :=
    union_order_irrelevant_perm operands operands.reverse (List.reverse_perm operands).symm
  refine ⟨t, t', h1, h2, ?_, h5, h6, h7⟩
  rw [h4, List.filterMap_reverse]

/-- C14's test `code_type != doc_type` (`optTypeNe`) does not see the order -/
theorem hint_comparison_order_irrelevant (hint : Option AType) (ops ops' : List GExpr) (h : ops.Perm ops') :
    optTypeNe hint (annToType (.binOp ops)) = optTypeNe hint (annToType (.binOp ops')) := by
  obtain ⟨t, t', h1, h2, _, _, _, _, h7⟩ := union_order_irrelevant_perm ops ops' h
  rw [h1, h2]
  cases hint with
  | none => rfl
  | some x => simp only [optTypeNe, (h7 x).1]

/-! ## 4. Node lookup -/

/-- the members of a node in search order, and the member a name denotes (restated) -/
theorem child_def (node : GNode) (part : String) :
    v13_members node = node.modules ++ node.classes ++ node.functions ++ node.attributes
    ∧ v13_child node part = (v13_members node).find? (fun c => c.name == part) := ⟨rfl, rfl⟩

/-- the child relation with the priority spelled out (modules, then classes, then functions, then
    attributes; within one list the first of that name) is that function -/
theorem Child_iff (node : GNode) (part : String) (c : GNode) :
    v13_Child node part c ↔ v13_child node part = some c := v13_Child_iff node part c

theorem findChild_spec (name : String) (l : List GNode) :
    findChild name l = l.find? (fun c => c.name == name) := v13_findChild_eq name l

/-- a child carries the name, is a member, and no earlier member carries the name -/
theorem child_first_match (node : GNode) (part : String) (c : GNode) :
    v13_child node part = some c ↔
      c.name = part ∧ ∃ pre post, v13_members node = pre ++ c :: post ∧ ∀ x ∈ pre, x.name ≠ part := by
  unfold v13_child
  rw [List.find?_eq_some_iff_append]
  simp only [beq_iff_eq, Bool.not_eq_true', beq_eq_false_iff_ne, ne_eq]

/-- one lookup step, the walk and the parts that are walked (restated) -/
theorem step_def (node : GNode) (part : String) :
    v13_step node part =
      match v13_child node part with
      | some c => .ok (some c)
      | none => if part = "__init__" ∧ node.isClass = true then .ok none else .error .valueError := rfl

theorem walk_def (node : GNode) (p : String) (ps : List String) :
    v13_walk node [] = .ok (some node)
    ∧ v13_walk node (p :: ps) =
        match v13_step node p with
        | .error e => .error e
        | .ok none => .ok none
        | .ok (some c) => v13_walk c ps := ⟨rfl, rfl⟩

theorem parts_def (root : GNode) (qname : String) :
    v13_parts root qname =
      match splitDot qname with
      | [] => []
      | p :: ps => if root.name = p then ps else p :: ps := rfl

/-- **`_get_griffe_node`** is the iterated child lookup over the parts of the qualified name, where
    ONLY the first part is skipped, and only if it is the root's name -/
theorem getGriffeNode_spec (root : GNode) (qname : String) :
    getGriffeNode root qname = v13_walk root (v13_parts root qname) := by
  unfold getGriffeNode v13_parts
  cases splitDot qname with
  | nil => rfl
  | cons p ps =>
    simp only [v13_griffeStep_true]
    by_cases h : root.name = p
    · simp only [h, if_true, v13_griffeWalk_eq]
    · simp only [h, if_false]
      rw [v13_walk]
      cases v13_step root p with
      | error e => rfl
      | ok r => cases r with
        | none => rfl
        | some c => exact v13_griffeWalk_eq c ps

/-- the loop body: the `first` flag is the only way to stay at the node -/
theorem griffeStep_spec (node : GNode) (part : String) :
    griffeStep node part false = v13_step node part
    ∧ griffeStep node part true = if node.name = part then .ok (some node) else v13_step node part :=
  ⟨v13_griffeStep_false node part, v13_griffeStep_true node part⟩

/-- the path relation (restated): one `v13_Child` edge per name -/
theorem Path_iff (n : GNode) (ps : List String) (m : GNode) :
    v13_Path n ps m ↔ (ps = [] ∧ m = n) ∨ (∃ p ps' c, ps = p :: ps' ∧ v13_Child n p c ∧ v13_Path c ps' m) := by
  constructor
  · intro h
    cases h with
    | nil => exact Or.inl ⟨rfl, rfl⟩
    | cons hc hp => exact Or.inr ⟨_, _, _, rfl, hc, hp⟩
  · rintro (⟨rfl, rfl⟩ | ⟨p, ps', c, rfl, hc, hp⟩)
    · exact .nil _
    · exact .cons hc hp

/-- the three outcomes of the lookup, relationally -/
theorem getGriffeNode_some_iff (root : GNode) (qname : String) (m : GNode) :
    getGriffeNode root qname = .ok (some m) ↔ v13_Path root (v13_parts root qname) m := by
  rw [getGriffeNode_spec]; exact v13_walk_some_iff _ _ _

theorem getGriffeNode_none_iff (root : GNode) (qname : String) :
    getGriffeNode root qname = .ok none ↔
      ∃ pre post cls, v13_parts root qname = pre ++ "__init__" :: post ∧ v13_Path root pre cls
        ∧ cls.isClass = true ∧ v13_child cls "__init__" = none := by
  rw [getGriffeNode_spec]; exact v13_walk_none_iff _ _

theorem getGriffeNode_error_iff (root : GNode) (qname : String) (e : PyErr) :
    getGriffeNode root qname = .error e ↔
      e = .valueError ∧ ∃ pre p post m, v13_parts root qname = pre ++ p :: post ∧ v13_Path root pre m
        ∧ v13_child m p = none ∧ ¬ (p = "__init__" ∧ m.isClass = true) := by
  rw [getGriffeNode_spec]; exact v13_walk_error_iff _ _ _

/-- **a part is never skipped after the first position**: a successful walk over `p :: ps` goes to a
    proper member of the node named `p` (strictly smaller, so never the node itself) — also when the
    node's own name is `p` -/
theorem no_skip_after_first (node : GNode) (p : String) (ps : List String) (m : GNode)
    (h : griffeWalk node (p :: ps) = .ok (some m)) :
    ∃ c, v13_Child node p c ∧ c.name = p ∧ sizeOf c < sizeOf node ∧ c ≠ node ∧ griffeWalk c ps = .ok (some m) := by
  rw [v13_griffeWalk_eq, v13_walk_some_iff] at h
  cases h with
  | cons hc hp =>
    rename_i c
    have hc' := (v13_Child_iff _ _ _).1 hc
    have hs := v13_child_sizeOf hc'
    refine ⟨c, hc, ((child_first_match _ _ _).1 hc').1, hs, ?_, ?_⟩
    · intro he; rw [he] at hs; exact Nat.lt_irrefl _ hs
    · rw [v13_griffeWalk_eq, v13_walk_some_iff]; exact hp

/-- **same-named module and function**: in package `root` with member `md` named `m` that has a member
    `f` named `m` again, `root.m.m` is `f` (the function), not `md` (the module) -/
theorem lookup_same_name (root md f : GNode) (q m : String) (hq : splitDot q = [root.name, m, m])
    (hm : v13_Child root m md) (hf : v13_Child md m f) :
    getGriffeNode root q = .ok (some f) ∧ f ≠ md := by
  constructor
  · rw [getGriffeNode_some_iff, v13_parts, hq]
    simp only [if_true]
    exact .cons hm (.cons hf (.nil f))
  · intro he
    have := v13_child_sizeOf ((v13_Child_iff _ _ _).1 hf)
    rw [he] at this
    exact Nat.lt_irrefl _ this

/-! ## 5. The queries, for every state with a valid cache -/

/-- the description and the examples of a docstring (restated): the LAST text section; the examples
    of ALL examples sections, in order; everything stripped of surrounding newlines -/
theorem description_def (d : GDoc) :
    v13_description d = (match (d.parsed.filterMap v13_textOf).getLast? with
      | some v => pyStrip v "\n"
      | none => "")
    ∧ v13_examples d = (d.parsed.flatMap v13_examplesOf).map (pyStrip · "\n") := ⟨rfl, rfl⟩

/-- the record of a docstring -/
theorem docRecord_spec :
    docRecord none = {}
    ∧ ∀ d : GDoc, docRecord (some d) =
        { description := v13_description d, fullDocstring := pyStrip d.value "\n", examples := v13_examples d } := by
  refine ⟨rfl, fun d => ?_⟩
  rw [← v13_lastText_eq, ← v13_allExamples_eq]
  rfl

theorem sectionProjections_def (v : String) (ps : List DocParam) (rs : List DocReturn) (ts : List String) :
    v13_textOf (.text v) = some v ∧ v13_paramsOf (.parameters ps) = some ps
    ∧ v13_attrsOf (.attributes ps) = some ps ∧ v13_returnsOf (.returns rs) = some rs
    ∧ v13_examplesOf (.examples ts) = ts
    ∧ v13_textOf .other = none ∧ v13_paramsOf (.attributes ps) = none ∧ v13_attrsOf (.parameters ps) = none
    ∧ v13_examplesOf (.text v) = [] := ⟨rfl, rfl, rfl, rfl, rfl, rfl, rfl, rfl, rfl⟩

/-- `get_function_documentation`: the record of the function's own docstring, nothing else -/
theorem function_doc_spec (s : ParserState) (hv : Cache.Valid s.root s.cache) (f : String) :
    (getFunctionDocumentation s f).map Prod.fst = (lookupDoc s.root f).map docRecord := by
  rw [(C13.queries_eq_cacheless_spec s hv).2.1 f, functionDocSpec]
  cases lookupDoc s.root f <;> rfl

/-- … hence two parser states (any trees, any styles, any valid caches) in which the function has the
    same docstring give the same answer: no other element's docstring can reach it -/
theorem function_doc_own_docstring_only (s₁ s₂ : ParserState) (hv₁ : Cache.Valid s₁.root s₁.cache)
    (hv₂ : Cache.Valid s₂.root s₂.cache) (f₁ f₂ : String) (h : lookupDoc s₁.root f₁ = lookupDoc s₂.root f₂) :
    (getFunctionDocumentation s₁ f₁).map Prod.fst = (getFunctionDocumentation s₂ f₂).map Prod.fst := by
  rw [function_doc_spec s₁ hv₁, function_doc_spec s₂ hv₂, h]

/-- `get_class_documentation`: the record of the class node's docstring; a lookup that ends in the
    early `None` is a `TypeError` -/
theorem class_doc_spec (s : ParserState) (n : String) :
    (getClassDocumentation s n).map Prod.fst =
      match getGriffeNode s.root n with
      | .error e => .error e
      | .ok none => .error .typeError
      | .ok (some nd) => .ok (docRecord nd.docstring) := by
  unfold getClassDocumentation
  cases getGriffeNode s.root n with
  | error e => rfl
  | ok r => cases r <;> rfl

/-- the entries of a docstring that match a name (restated): those of the FIRST parameters
    (resp. attributes) section whose name equals the given one after stripping leading `*` from both -/
theorem matching_spec (d : GDoc) (name : String) (attrs : Bool) :
    matching d name attrs
      = ((d.parsed.findSome? (if attrs then v13_attrsOf else v13_paramsOf)).getD []).filter
          (fun e => pyLstrip e.name "*" == pyLstrip name "*") :=
  v13_matching_eq d name attrs

theorem entries_def (d : GDoc) (name : String) (attrs : Bool) :
    v13_entries none name attrs = [] ∧ v13_entries (some d) name attrs = matching d name attrs := ⟨rfl, rfl⟩

/-- which docstring(s) the parameter query consults (restated) -/
theorem paramEntries_def (root : GNode) (style : DocStyle) (f p c : String) :
    v13_isCtorName f = (lastD "" (splitDot f) == "__init__")
    ∧ v13_paramDocQname f c = (if v13_isCtorName f = true ∧ c ≠ "" then replaceChar c '/' "." else f)
    ∧ v13_paramEntries root style f p c =
        match lookupDoc root (v13_paramDocQname f c) with
        | .error e => .error e
        | .ok d =>
          if style = .numpy ∧ v13_entries d p false = [] ∧ v13_isCtorName f = true then
            match lookupDoc root f with
            | .error e => .error e
            | .ok d2 => .ok (v13_entries d2 p false)
          else .ok (v13_entries d p false) := by
  refine ⟨rfl, rfl, ?_⟩
  unfold v13_paramEntries
  generalize lookupDoc root f = r2
  generalize lookupDoc root (v13_paramDocQname f c) = r1
  generalize v13_isCtorName f = b
  cases r1 with
  | error e => rfl
  | ok d => dsimp only; cases r2 <;> rfl

/-- the record made of one entry (restated) -/
theorem paramOf_def (e : DocParam) :
    v13_paramOf e = { type := e.annotation.bind annToType, defaultValue := e.default.getD "",
                      description := pyStrip e.description "\n" } := rfl

/-- **`get_parameter_documentation`**: the class docstring for a constructor with a parent, else the
    function's; numpy falls back to the constructor's own docstring when the first has no match; the
    LAST matching entry is taken; no match gives the empty record -/
theorem parameter_doc_spec (s : ParserState) (hv : Cache.Valid s.root s.cache) (f p c : String) :
    (getParameterDocumentation s f p c).map Prod.fst =
      (v13_paramEntries s.root s.style f p c).map fun m =>
        match m.getLast? with
        | none => {}
        | some e => v13_paramOf e := by
  rw [(C13.queries_eq_cacheless_spec s hv).2.2.1 f p c, v13_parameterDocSpec_eq]
  congr 1
  funext m
  exact v13_paramRecord_eq m

/-- the same, read off a successful answer -/
theorem parameter_doc_chosen (s s' : ParserState) (hv : Cache.Valid s.root s.cache) (f p c : String) (r : ParamDoc)
    (h : getParameterDocumentation s f p c = .ok (r, s')) :
    ∃ m, v13_paramEntries s.root s.style f p c = .ok m
      ∧ ((m = [] ∧ r = {}) ∨ ∃ pre e, m = pre ++ [e] ∧ r = v13_paramOf e) := by
  have hs := parameter_doc_spec s hv f p c
  rw [h] at hs
  cases hm : v13_paramEntries s.root s.style f p c with
  | error e => rw [hm] at hs; cases hs
  | ok m =>
    rw [hm] at hs
    refine ⟨m, rfl, ?_⟩
    have hr : r = match m.getLast? with | none => {} | some e => v13_paramOf e := by
      simp only [Except.map, Except.ok.injEq] at hs
      exact hs
    rcases List.eq_nil_or_concat m with rfl | ⟨pre, e, rfl⟩
    · exact Or.inl ⟨rfl, hr⟩
    · refine Or.inr ⟨pre, e, by simp, ?_⟩
      rw [hr]; simp

/-- which docstring(s) the attribute query consults (restated) -/
theorem attrEntries_def (root : GNode) (style : DocStyle) (c a : String) :
    v13_attrEntries root style c a =
      match lookupDoc root (replaceChar c '/' ".") with
      | .error e => .error e
      | .ok d =>
        if style = .numpy ∧ v13_entries d a true = [] then
          match lookupDoc root (replaceChar c '/' "." ++ ".__init__") with
          | .error e => .error e
          | .ok d2 => .ok (v13_entries d2 a true)
        else .ok (v13_entries d a true) := by
  unfold v13_attrEntries
  generalize lookupDoc root (replaceChar c '/' "." ++ ".__init__") = r2
  generalize lookupDoc root (replaceChar c '/' ".") = r1
  cases r1 with
  | error e => rfl
  | ok d => dsimp only; cases r2 <;> rfl

theorem attrOf_def (e : DocParam) :
    v13_attrOf e = { type := e.annotation.bind annToType, description := pyStrip e.description "\n" } := rfl

/-- **`get_attribute_documentation`**: the attributes section of the class docstring; numpy falls back
    to the attributes section of the constructor's docstring; the LAST matching entry -/
theorem attribute_doc_spec (s : ParserState) (hv : Cache.Valid s.root s.cache) (c a : String) :
    (getAttributeDocumentation s c a).map Prod.fst =
      (v13_attrEntries s.root s.style c a).map fun m =>
        match m.getLast? with
        | none => {}
        | some e => v13_attrOf e := by
  rw [(C13.queries_eq_cacheless_spec s hv).2.2.2.1 c a, v13_attributeDocSpec_eq]
  congr 1
  funext m
  exact v13_attrRecord_eq m

/-- the result records (restated pieces) -/
theorem resultOf_def (style : DocStyle) (r : DocReturn) (d : GDoc) :
    v13_returns d = (d.parsed.findSome? v13_returnsOf).getD []
    ∧ v13_numpyResultOf r
        = { type := r.annotation.bind annToType, description := pyStrip r.description "\n", name := r.name }
    ∧ v13_singleResultOf style r
        = { type := (if style = .google ∧ r.annotationIsNone = true then r.nameAsAnnotation
                     else r.annotation).bind annToType,
            description := pyStrip r.description "\n", name := "" } := ⟨rfl, rfl, rfl⟩

/-- **`get_result_documentation`**: the FIRST returns section of the function's own docstring; numpy:
    one record per entry, with its name; google and rest: only the first entry, without a name, and
    google reads the entry's name as the annotation when the entry has no annotation -/
theorem result_doc_spec (s : ParserState) (hv : Cache.Valid s.root s.cache) (f : String) :
    (getResultDocumentation s f).map Prod.fst =
      (lookupDoc s.root f).map fun d =>
        match d with
        | none => []
        | some d =>
          if s.style = .numpy then (v13_returns d).map v13_numpyResultOf
          else match (v13_returns d).head? with
            | none => []
            | some r => [v13_singleResultOf s.style r] := by
  rw [(C13.queries_eq_cacheless_spec s hv).2.2.2.2 f, resultDocSpec]
  cases lookupDoc s.root f with
  | error e => rfl
  | ok d =>
    cases d with
    | none => rfl
    | some d =>
      show Except.ok (resultRecords s.style (some d)) = _
      rw [v13_resultRecords_eq]
      rfl


/-! ## 6. Non-vacuity: kernel-checked examples -/

section Examples

/-! ### every row of the annotation mapping (data: `v13_exInt` = the name `int`, `v13_exBad` = an unparsable string) -/

example : annToType (.name "int" "int") = some (.named "int" "builtins.int") := rfl
example : annToType (.name "typing.Any" "Any") = some (.named "Any" "typing.Any") := rfl
example : annToType (.name "list" "list") = some (.list []) := rfl
example : annToType (.name "tuple" "tuple") = some (.tuple []) := rfl
example : annToType (.name "set" "set") = some (.set []) := rfl
/-- any other name: `named canonical_name canonical_path` -/
example : annToType (.name "numpy.ndarray" "ndarray") = some (.named "ndarray" "numpy.ndarray") := rfl
/-- the key is the canonical PATH: a name `int` that resolves elsewhere is not the builtin -/
example : annToType (.name "mypkg.int" "int") = some (.named "int" "mypkg.int") := rfl
/-- `list[int]`, `Sequence[int]`, `Iterator[int]` -/
example : annToType (.subscript "list" "list" v13_exInt) = some (.list [v13_tInt]) := rfl
example : annToType (.subscript "collections.abc.Sequence" "Sequence" v13_exInt) = some (.list [v13_tInt]) := rfl
example : annToType (.subscript "collections.abc.Iterator" "Iterator" v13_exInt) = some (.list [v13_tInt]) := rfl
/-- `tuple[int, str]`, `set[int]` -/
example : annToType (.subscript "tuple" "tuple" (.tuple [v13_exInt, v13_exStr])) = some (.tuple [v13_tInt, v13_tStr]) := rfl
example : annToType (.subscript "set" "set" v13_exInt) = some (.set [v13_tInt]) := rfl
/-- `Callable[[int, str], bool]`, `Callable[int, bool]`, `Callable[int]`, `Callable[()]` -/
example : annToType (.subscript "typing.Callable" "Callable" (.tuple [.list [v13_exInt, v13_exStr], .name "bool" "bool"]))
    = some (.callable [v13_tInt, v13_tStr] v13_tBool) := rfl
example : annToType (.subscript "collections.abc.Callable" "Callable" (.tuple [v13_exInt, .name "bool" "bool"]))
    = some (.callable [v13_tInt] v13_tBool) := rfl
example : annToType (.subscript "typing.Callable" "Callable" v13_exInt) = some (.callable [v13_tInt] anyType) := rfl
example : annToType (.subscript "typing.Callable" "Callable" (.tuple [])) = some .unknown := rfl
/-- `dict[str, int]`, `Mapping[str]` -/
example : annToType (.subscript "dict" "dict" (.tuple [v13_exStr, v13_exInt])) = some (.dict v13_tStr v13_tInt) := rfl
example : annToType (.subscript "typing.Mapping" "Mapping" v13_exStr) = some (.dict v13_tStr anyType) := rfl
example : annToType (.subscript "collections.abc.Mapping" "Mapping" (.tuple [])) = some (.dict anyType anyType) := rfl
/-- `Optional[int]` -/
example : annToType (.subscript "typing.Optional" "Optional" v13_exInt) = some (.union [v13_tInt, noneType]) := rfl
/-- any other subscript -/
example : annToType (.subscript "numpy.ndarray" "ndarray" (.tuple [v13_exInt, v13_exStr]))
    = some (.namedSeq "ndarray" "numpy.ndarray" [v13_tInt, v13_tStr]) := rfl
/-- `[int, str]` -/
example : annToType (.list [v13_exInt, v13_exStr]) = some (.list [v13_tInt, v13_tStr]) := rfl
/-- numpy `int, optional` (a tuple with the marker) against a plain tuple -/
example : annToType (.tuple [v13_exInt, .name "optional" "optional"]) = some (.union [v13_tInt, noneType]) := rfl
example : annToType (.tuple [v13_exInt, v13_exStr]) = some (.tuple [v13_tInt, v13_tStr]) := rfl
/-- string annotations: `"None"`, unparsable, parsed -/
example : annToType (.str "None" "None" none) = some noneType := rfl
example : annToType (.str "array like" "array like" none) = none := rfl
example : annToType (.str "int, default=1" "int" (some v13_exInt)) = some v13_tInt := rfl
example : v13_NoType (.str "'array like'" "'array like'" (some v13_exBad)) :=
  .wrapped _ _ _ (.unparsable _ _ (by decide))
/-- `int | str | None`: the operand list is `[None, str, int]` (rightmost first) and so is the union -/
example : annToType (.binOp [.name "None" "None", v13_exStr, v13_exInt])
    = some (.union [.named "None" "None", v13_tStr, v13_tInt]) := rfl
example : (AType.union [.named "None" "None", v13_tStr, v13_tInt]).pyEq
    (.union [v13_tInt, v13_tStr, .named "None" "None"]) = true := by decide +kernel
example : annToType (.boolOp [v13_exInt, v13_exStr]) = some (.union [v13_tInt, v13_tStr]) := rfl
example : annToType .other = some .unknown := rfl
/-- elements without a type are dropped silently: `list["array like"]` is `list[]`, and in
    `Callable["array like", int]` the return type moves into the parameter position -/
example : annToType (.subscript "list" "list" v13_exBad) = some (.list []) := rfl
example : annToType (.subscript "typing.Callable" "Callable" (.tuple [v13_exBad, v13_exInt]))
    = some (.callable [v13_tInt] anyType) := rfl
example : annToType (.subscript "dict" "dict" (.tuple [v13_exBad, v13_exInt])) = some (.dict v13_tInt anyType) := rfl
/-- the specification function gives the same (it is not evaluated by the kernel: it is defined by
    well-founded recursion; the equation is `annToType_spec`) -/
example : v13_docType (.subscript "typing.Optional" "Optional" v13_exInt) = some (.union [v13_tInt, noneType]) := by
  rw [← annToType_spec]; rfl

/-! ### node lookup (data: `v13_exRoot` = package `pkg` with module `m` that contains function `m` and
    class `C`; `x` is both a module and a class of `pkg`) -/

/-- the function `m` of module `m`, not the module -/
example : v13_docValue (getGriffeNode v13_exRoot "pkg.m.m") = .ok (some (some "function m")) := by decide +kernel
example : v13_docValue (getGriffeNode v13_exRoot "pkg.m") = .ok (some (some "module m")) := by decide +kernel
/-- the same through the general statement: its hypotheses are satisfiable -/
example : getGriffeNode v13_exRoot "pkg.m.m" = .ok (some v13_exFn) :=
  (lookup_same_name v13_exRoot v13_exMod v13_exFn "pkg.m.m" "m" (by decide +kernel) (.inModules rfl)
    (.inFunctions rfl rfl rfl)).1
/-- the package name may be left out, but it is skipped only once -/
example : v13_docValue (getGriffeNode v13_exRoot "m.m") = .ok (some (some "function m")) := by decide +kernel
example : getGriffeNode v13_exRoot "pkg.pkg.m" = .error .valueError := by rfl
example : v13_parts v13_exRoot "pkg.m.m" = ["m", "m"] ∧ v13_parts v13_exRoot "m.m" = ["m", "m"]
    ∧ v13_parts v13_exRoot "pkg.pkg.m" = ["pkg", "m"] := by decide +kernel
/-- priority: the module `x` hides the class `x` -/
example : v13_docValue (getGriffeNode v13_exRoot "pkg.x") = .ok (some (some "module x")) := by decide +kernel
/-- classes, attributes; `__init__` of a class without one: the early `None`; otherwise `ValueError` -/
example : v13_docValue (getGriffeNode v13_exRoot "pkg.m.C.a") = .ok (some (some "attribute a")) := by decide +kernel
example : v13_docValue (getGriffeNode v13_exRoot "pkg.m.C.__init__") = .ok none := by decide +kernel
example : v13_docValue (getGriffeNode v13_exRoot "pkg.m.__init__") = .error .valueError := by decide +kernel
example : v13_docValue (getGriffeNode v13_exRoot "pkg.m.nope") = .error .valueError := by decide +kernel

/-! ### the queries (data: `v13_exDocRoot` = `pkg` with class `D`, its constructor and methods `f`, `g`, `h`) -/

/-- the hypothesis of the query theorems holds in the initial state and stays true -/
example (style : DocStyle) : Cache.Valid (v13_exState style).root (v13_exState style).cache := C13.valid_empty _

/-- function: the LAST text section, the whole docstring, the examples of all examples sections -/
example : (match getFunctionDocumentation (v13_exState .numpy) "pkg.D.f" with
    | .ok (r, _) => r.description == "more" && r.fullDocstring == "F.\n\nmore"
        && r.examples == [">>> f()", ">>> g()", "... h()"]
    | .error _ => false) = true := by decide +kernel
/-- a function without docstring: the empty record -/
example : (match getFunctionDocumentation (v13_exState .numpy) "pkg.D.h" with
    | .ok (r, _) => r.description == "" && r.fullDocstring == "" && r.examples == []
    | .error _ => false) = true := by decide +kernel
/-- constructor parameter with parent class: the class docstring, the LAST entry named `p` -/
example : (match getParameterDocumentation (v13_exState .google) "pkg.D.__init__" "p" "pkg/D" with
    | .ok (r, _) => r.description == "second p" && r.defaultValue == "2" && v13_isType r.type v13_tStr
    | .error _ => false) = true := by decide +kernel
/-- leading `*` is ignored on both sides -/
example : (match getParameterDocumentation (v13_exState .google) "pkg.D.__init__" "args" "pkg/D" with
    | .ok (r, _) => r.description == "the args" && r.defaultValue == "" && v13_isType r.type v13_tStr
    | .error _ => false) = true := by decide +kernel
example : (match getParameterDocumentation (v13_exState .google) "pkg.D.__init__" "**p" "pkg/D" with
    | .ok (r, _) => r.description == "second p"
    | .error _ => false) = true := by decide +kernel
/-- only the FIRST parameters section is read -/
example : (match getParameterDocumentation (v13_exState .google) "pkg.D.__init__" "late" "pkg/D" with
    | .ok (r, _) => r.description == "" && r.type.isNone
    | .error _ => false) = true := by decide +kernel
/-- `q` is documented in the constructor only: numpy finds it there (its annotation has no type),
    google and rest do not; without parent the constructor's docstring is read directly -/
example : (match getParameterDocumentation (v13_exState .numpy) "pkg.D.__init__" "q" "pkg/D" with
    | .ok (r, _) => r.description == "ctor q" && r.type.isNone
    | .error _ => false) = true := by decide +kernel
example : (match getParameterDocumentation (v13_exState .google) "pkg.D.__init__" "q" "pkg/D" with
    | .ok (r, _) => r.description == "" && r.type.isNone
    | .error _ => false) = true := by decide +kernel
example : (match getParameterDocumentation (v13_exState .rest) "pkg.D.__init__" "q" "" with
    | .ok (r, _) => r.description == "ctor q"
    | .error _ => false) = true := by decide +kernel
/-- a parameter of an unknown function: the lookup's `ValueError` -/
example : (getParameterDocumentation (v13_exState .numpy) "pkg.D.nope" "q" "").map (fun r => r.1.description)
    = .error .valueError := by decide +kernel
/-- attributes: the class docstring; numpy also looks into the constructor's attributes section -/
example : (match getAttributeDocumentation (v13_exState .rest) "pkg/D" "a" with
    | .ok (r, _) => r.description == "attribute a" && v13_isType r.type v13_tStr
    | .error _ => false) = true := by decide +kernel
example : (match getAttributeDocumentation (v13_exState .numpy) "pkg/D" "b" with
    | .ok (r, _) => r.description == "attribute b" && v13_isType r.type v13_tInt
    | .error _ => false) = true := by decide +kernel
example : (match getAttributeDocumentation (v13_exState .rest) "pkg/D" "b" with
    | .ok (r, _) => r.description == "" && r.type.isNone
    | .error _ => false) = true := by decide +kernel
/-- results, numpy: one record per entry of the first returns section, with names -/
example : (match getResultDocumentation (v13_exState .numpy) "pkg.D.f" with
    | .ok (rs, _) => rs.map (fun r => (r.name, r.description)) == [("first", "the first"), ("second", "the second")]
        && (rs.map fun r => v13_isType r.type v13_tInt) == [true, false]
    | .error _ => false) = true := by decide +kernel
/-- results, rest/google: the first entry only, without its name -/
example : (match getResultDocumentation (v13_exState .rest) "pkg.D.f" with
    | .ok (rs, _) => rs.map (fun r => (r.name, r.description)) == [("", "the first")]
        && (rs.map fun r => v13_isType r.type v13_tInt) == [true]
    | .error _ => false) = true := by decide +kernel
/-- results, google: an entry without annotation — its name is the annotation; rest: no type -/
example : (match getResultDocumentation (v13_exState .google) "pkg.D.g" with
    | .ok (rs, _) => rs.map (fun r => (r.name, r.description)) == [("", "an int")]
        && (rs.map fun r => v13_isType r.type v13_tInt) == [true]
    | .error _ => false) = true := by decide +kernel
example : (match getResultDocumentation (v13_exState .rest) "pkg.D.g" with
    | .ok (rs, _) => rs.map (fun r => (r.name, r.description, r.type.isNone)) == [("", "an int", true)]
    | .error _ => false) = true := by decide +kernel
/-- class: the record of the class node; a constructor that does not exist is a `TypeError` -/
example : (match getClassDocumentation (v13_exState .rest) "pkg.D" with
    | .ok (r, _) => r.description == "Class D." && r.fullDocstring == "Class D."
    | .error _ => false) = true := by decide +kernel
example : (getClassDocumentation { root := v13_exRoot, style := .rest } "pkg.m.C.__init__").map (fun r => r.1.description)
    = .error .typeError := by decide +kernel
/-- the specification side, evaluated: the entries the parameter query selects from -/
example : (v13_paramEntries v13_exDocRoot .numpy "pkg.D.__init__" "p" "pkg/D").map (fun m => m.map (·.description))
    = .ok ["first p\n", "\nsecond p"] := by decide +kernel
example : v13_paramDocQname "pkg.D.__init__" "pkg/D" = "pkg.D" ∧ v13_paramDocQname "pkg.D.__init__" "" = "pkg.D.__init__"
    ∧ v13_paramDocQname "pkg.D.f" "pkg/D" = "pkg.D.f" := by decide +kernel

end Examples

end StubGen.C13a
