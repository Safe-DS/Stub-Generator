/-
C16 (file part) — "Running the tool a second time into the same output directory leaves exactly the
files a single run produces, with the same contents."

Model: `StubGen.Model.Files` (`createStubFiles`, `applyWrites`, `runGenerator`).  Module stubs are opened
with mode `w`; a placeholder stub for classes of another library is opened with `w` the first time its
directory is met in a run and with `a` afterwards — *if the file exists*.
Proof machinery: `StubGen.Proofs.Files`.

Two of the requested statements are false of the model as literally stated; the counterexamples are
given below and the theorems carry the suffix `_partial`:
`CoherentOutside outside` says that two class paths of other libraries that are sent to the same
directory have the same module name, hence are also sent to the same file (the file name is the module name
without its leading underscores, `outsideFile`).  It holds whenever no class path contains a `/`
(`coherent_of_no_slash`).
-/
import StubGen.Proofs.Files

namespace StubGen.C16

open StubGen

/-! ### 1. the write log does not depend on what is already in the output directory -/

/-- COUNTEREXAMPLE to the unrestricted statement: the class paths `a.b/c.D` and `a/b.c.C` are both sent to
    the directory `a/b/c`, but to different files (`a/b/c/b/c.sdsstub`, `a/b/c/c.sdsstub`).  The second is
    not the first creation in its directory, so it is appended to if and only if it happens to pre-exist. -/
example :
    ((createStubFiles true [] ["a.b/c.D", "a/b.c.C"] []).toOption.map fun ops => ops.map fun o => (o.path, o.mode))
        = some [("a/b/c/b/c.sdsstub", .write), ("a/b/c/c.sdsstub", .write)]
    ∧ ((createStubFiles true [] ["a.b/c.D", "a/b.c.C"] ["a/b/c/c.sdsstub"]).toOption.map
          fun ops => ops.map fun o => (o.path, o.mode))
        = some [("a/b/c/b/c.sdsstub", .write), ("a/b/c/c.sdsstub", .append)] := by decide +kernel

example : ¬ CoherentOutside ["a.b/c.D", "a/b.c.C"] := by
  intro h
  exact absurd (h "a.b/c.D" (by simp) "a/b.c.C" (by simp) (by decide)) (by decide)

/-- Whether a placeholder is appended or written is decided by "first creation in this run" alone: when it
    is not the first creation, the file was written earlier in the same run, hence exists. -/
theorem ops_independent_of_preexisting_partial (safe : Bool) (stubs : List StubData) (outside pre pre' : List String)
    (h : CoherentOutside outside) :
    createStubFiles safe stubs outside pre = createStubFiles safe stubs outside pre' :=
  createStubFiles_indep safe stubs outside pre pre' h

/-- the side condition holds for class paths without `/` -/
theorem coherent_of_no_slash (outside : List String) (h : ∀ c ∈ outside, '/' ∉ c.toList) : CoherentOutside outside := by
  intro c₁ h1 c₂ h2 he
  rw [outsideModuleName_of_no_slash c₁ (h c₁ h1), outsideModuleName_of_no_slash c₂ (h c₂ h2), he]

/-! ### 2. the first operation on every path is a `write` -/

/-- into an empty directory: no side condition -/
theorem first_op_is_write (safe : Bool) (stubs : List StubData) (outside : List String) (ops : List WriteOp)
    (h : createStubFiles safe stubs outside [] = .ok ops) :
    ∀ (p : String) (op : WriteOp), ops.find? (fun o => o.path == p) = some op → op.mode = .write :=
  createStubFiles_firstOpsWrite_fresh h

/-- into any directory, for coherent class paths -/
theorem first_op_is_write_partial (safe : Bool) (stubs : List StubData) (outside pre : List String) (ops : List WriteOp)
    (hc : CoherentOutside outside) (h : createStubFiles safe stubs outside pre = .ok ops) :
    ∀ (p : String) (op : WriteOp), ops.find? (fun o => o.path == p) = some op → op.mode = .write := by
  rw [createStubFiles_indep safe stubs outside pre [] hc] at h
  exact createStubFiles_firstOpsWrite_fresh h

/-- COUNTEREXAMPLE for a non-empty directory without the side condition: the first (and only) operation on
    `a/b/c/c.sdsstub` is an append to a file of an earlier run. -/
example :
    ((createStubFiles true [] ["a.b/c.D", "a/b.c.C"] ["a/b/c/c.sdsstub"]).toOption.bind fun ops =>
        (ops.find? fun o => o.path == "a/b/c/c.sdsstub").map (·.mode)) = some .append := by decide +kernel

/-! ### 3. a second run leaves the same files -/

/-- For a log whose first operation on every path is a write, and ANY initial directory content `fs`
    (no assumption on `fs`): every touched file ends up with the content it gets in an empty directory,
    every other file is unchanged. -/
theorem second_run_same_files (ops : List WriteOp) (h : FirstOpsWrite ops) (fs : List (String × String)) :
    (∀ p, p ∈ ops.map (·.path) → lookupFile (applyWrites fs ops) p = lookupFile (applyWrites [] ops) p)
    ∧ (∀ p, p ∉ ops.map (·.path) → lookupFile (applyWrites fs ops) p = lookupFile fs p) := by
  constructor
  · intro p hp
    obtain ⟨op, hop⟩ := find?_path_of_mem p ops hp
    rw [lookupFile_applyWrites, lookupFile_applyWrites]
    exact evalOps_first_write p ops _ _ op hop (h p op hop)
  · intro p hp
    rw [lookupFile_applyWrites, evalOps_untouched p ops _ hp]

/-- the set of files after the run: the old ones, then the new ones in order of first creation -/
theorem files_after_run (ops : List WriteOp) (fs : List (String × String)) :
    (applyWrites fs ops).map (·.1) = (ops.map (·.path)).foldl (fun acc p => insertSet p acc) (fs.map (·.1)) :=
  keys_applyWrites ops fs

theorem rerun_idempotent (ops : List WriteOp) (h : FirstOpsWrite ops) :
    (∀ p, lookupFile (applyWrites (applyWrites [] ops) ops) p = lookupFile (applyWrites [] ops) p)
    ∧ (applyWrites (applyWrites [] ops) ops).map (·.1) = (applyWrites [] ops).map (·.1) := by
  constructor
  · intro p
    by_cases hp : p ∈ ops.map (·.path)
    · exact (second_run_same_files ops h _).1 p hp
    · exact (second_run_same_files ops h _).2 p hp
  · rw [keys_applyWrites ops (applyWrites [] ops)]
    apply foldl_insertSet_of_mem
    intro p hp
    rw [keys_applyWrites, mem_foldl_insertSet]
    exact Or.inr hp

/-- … hence the directory after the second run is *equal* to the directory after the first -/
theorem rerun_idempotent_eq (ops : List WriteOp) (h : FirstOpsWrite ops) :
    applyWrites (applyWrites [] ops) ops = applyWrites [] ops := by
  apply fileMap_ext
  · exact (rerun_idempotent ops h).2
  · exact nodup_keys_applyWrites ops _ (nodup_keys_applyWrites ops [] (by simp))
  · exact (rerun_idempotent ops h).1

/-- End to end: the result of `runGenerator` (log, stubs, write operations) does not depend on the files
    that pre-exist in the output directory. -/
theorem run_independent_of_preexisting_partial (api : API) (safe : Bool) (pre pre' : List String) (r : GenResult)
    (h : runGenerator api safe pre = .ok r) (hc : CoherentOutside r.outside) :
    runGenerator api safe pre' = .ok r := by
  obtain ⟨stubs, st, ops, hg, hf, rfl⟩ := runGenerator_ok.1 h
  exact runGenerator_ok.2 ⟨stubs, st, ops, hg, createStubFiles_indep safe stubs st.outside pre' pre hc ▸ hf, rfl⟩

/-- End to end: a first run into an empty directory gives the files `applyWrites [] r.ops`; a second run into
    that directory performs the same operations and leaves exactly the same files with the same contents. -/
theorem second_run_end_to_end_partial (api : API) (safe : Bool) (r : GenResult)
    (h : runGenerator api safe [] = .ok r) (hc : CoherentOutside r.outside) :
    runGenerator api safe ((applyWrites [] r.ops).map (·.1)) = .ok r
    ∧ applyWrites (applyWrites [] r.ops) r.ops = applyWrites [] r.ops := by
  refine ⟨run_independent_of_preexisting_partial api safe [] _ r h hc, ?_⟩
  obtain ⟨stubs, st, ops, _, hf, rfl⟩ := runGenerator_ok.1 h
  exact rerun_idempotent_eq _ (createStubFiles_firstOpsWrite_fresh hf)

/-! ### 4. generation is a function of the API value -/

/-- The model has no hidden state: equal API values (and flags) give equal results, in particular equal
    write operations.  (Whatever could differ between two runs must differ in the arguments.) -/
theorem generation_is_a_function (api api' : API) (safe safe' : Bool) (pre pre' : List String)
    (h1 : api = api') (h2 : safe = safe') (h3 : pre = pre') :
    runGenerator api safe pre = runGenerator api' safe' pre' := by
  subst h1 h2 h3; rfl

/-! ### Non-vacuity -/

section Examples

/-- two classes of one foreign module: write, then append -/
private def ops1 : List WriteOp :=
  match createStubFiles true [] ["np.core.Array", "np.core.Matrix"] [] with
  | .ok ops => ops
  | .error _ => []

example : ops1.map (fun o => (o.path, o.mode))
    = [("np/core/core.sdsstub", .write), ("np/core/core.sdsstub", .append)] := by decide +kernel

example : CoherentOutside ["np.core.Array", "np.core.Matrix"] := coherent_of_no_slash _ (by decide)

/-- the hypothesis of `second_run_same_files` / `rerun_idempotent` holds for a log with an append -/
example : FirstOpsWrite ops1 := by
  unfold ops1
  cases h : createStubFiles true [] ["np.core.Array", "np.core.Matrix"] [] with
  | ok ops => exact first_op_is_write _ _ _ _ h
  | error e => intro p op hf; simp at hf

/-- a run into a directory with stale content -/
example : lookupFile (applyWrites [("np/core/core.sdsstub", "stale"), ("other", "x")] ops1) "np/core/core.sdsstub"
    = some "package np.core\n\nclass Array\n\nclass Matrix\n" := by decide +kernel

/-- the same with a directory segment that is a Safe-DS keyword (`internal`): it is back-quoted in the package
    line of the header that the first (`write`) operation puts into the file -/
example : ((createStubFiles true [] ["np.internal.Array", "np.internal.Matrix"] []).toOption.map fun ops =>
      (ops.map (fun o => (o.path, o.mode)),
       lookupFile (applyWrites [("np/internal/internal.sdsstub", "stale")] ops) "np/internal/internal.sdsstub"))
    = some ([("np/internal/internal.sdsstub", .write), ("np/internal/internal.sdsstub", .append)],
            some "package np.`internal`\n\nclass Array\n\nclass Matrix\n") := by decide +kernel

/-- the same for a private module of another library (`lib._impl`): the placeholder file is
    `lib/_impl/impl.sdsstub` (no leading underscore in the file name); both classes go to it, write then append,
    and a second run replaces the content instead of appending to it -/
example : CoherentOutside ["lib._impl.Thing", "lib._impl.Other"] := coherent_of_no_slash _ (by decide)
example : ((createStubFiles false [] ["lib._impl.Thing", "lib._impl.Other"] []).toOption.map fun ops =>
      (ops.map (fun o => (o.path, o.mode)), applyWrites [] ops, applyWrites (applyWrites [] ops) ops))
    = some ([("lib/_impl/impl.sdsstub", .write), ("lib/_impl/impl.sdsstub", .append)],
            [("lib/_impl/impl.sdsstub", "package lib._impl\n\nclass Other\n\nclass Thing\n")],
            [("lib/_impl/impl.sdsstub", "package lib._impl\n\nclass Other\n\nclass Thing\n")]) := by decide +kernel

end Examples

end StubGen.C16
