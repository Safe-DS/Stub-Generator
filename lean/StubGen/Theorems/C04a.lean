/-
C04a — "No declaration that is private by Python convention — a name with a leading underscore that is not
a dunder name, or anything nested in or defined in a private class, module or package — appears in any stub
file, unless a package `__init__` re-exports it under a public name.  The API JSON marks exactly those
declarations as non-public."  ANALYSER side: what `isPublicV` (the model of `MyPyAstVisitor._is_public`)
computes.  The generator side (stubs follow the `isPublic` flags) is `StubGen.C04`.

`isPublicV s name qname` reads the visitor state through four things only (`isPublicV_congr`): the kind of
the parent on the declaration stack (`parentKind s`), the re-export map, and the qualified and the short
name of the file being analysed.  It works in three steps (`isPublicV_eq`):

 1. parent kind `.other` (empty stack, enum, assignment frame, a function other than `__init__`):
    `TypeError` (`parent_other_is_error`, `parentKind_other_iff`);
 2. unless the parent is a constructor, `checkPublicityInReexports` is asked; it answers `some true` or
    `none`, never `some false` (`reexport_never_false`); `some true` is final;
 3. otherwise the DECISION TABLE `isPublic_no_reexport`:

      name                          | module / ctor outside a class | public class (or its ctor) | private class (or its ctor)
      ------------------------------+-------------------------------+----------------------------+----------------------------
      `_x` (leading `_`, no `__` end)| false                         | false                      | false
      `__init__`                    | ¬ privatePath qname           | true                       | false
      no leading `_`                | ¬ privatePath qname           | true                       | false
      other `_…__` (dunder)         | ¬ privatePath qname           | ¬ privatePath qname        | ¬ privatePath qname

The table agrees with the convention predicate (`isPublic_false_of_private`, `isPublic_true_of_public`,
`isPublic_true_only_if`); the verdict is what the API records (`enterFuncdef_flag`, `enterClassdef_flag`,
`createAttributeV_flag`; enums and enum instances carry no flag).

Remarks on the table:
* the class columns do not look at the path: the class's own flag — computed by the same function when the
  class was entered — stands for it.  The dunder row does not look at the class: with a class that is public
  only thanks to a re-export (`pkg._impl.C`), `C.m` is public and `C.__len__` is not (example below).
* below a constructor the re-export map is not consulted at all (`reexportVerdict_init`).

Re-exports (`reexport_decides_iff`): `some true` iff some map entry `key ↦ {… src …}` `Decides` — the
re-exporting module `src` is the `__init__` of the file's package, or `key` (stripped of trailing `.`/`*`) is
the declaration's or the file's qualified name; and one of three routes: W (`src` wildcard-imports the
analysed module; public name, public parent), M (`src` imports the analysed module under a public name; public
name, public parent), D (`key` ENDS WITH the name and SOME qualified import of `src` is a STRING SUFFIX of
`qname` and binds a public name — the alias if there is one; the parent is not asked).  For a declaration
whose own name is internal only route D with a non-internal alias works (`reexport_of_private_requires_alias`).

Findings (kernel-checked below):
* F04a-1 suffix matching, module names: `from .a import _helper as helper` in `pkg/__init__.py` also publishes
  the unrelated private `pkg.data._helper`, because `"pkg.data._helper".endswith("a._helper")` —
  `suffix_interference`, `suffix_interference_analyze`.  (`pkg.b._helper` is NOT affected: neither
  `a._helper` nor `pkg.a._helper` is a suffix of `pkg.b._helper`.)
* F04a-2 suffix matching, bare names: `from . import x` (a submodule) in `pkg/__init__.py` publishes every
  declaration named `x` in the modules of `pkg`, whatever private module or private class it sits in —
  `submodule_import_interference_analyze`.
  No interference when no key names the analysed module and no qualified import of a re-exporting module is a
  string suffix of the declaration's qualified name (`no_interference`).
-/
import StubGen.Proofs.Publicity

namespace StubGen.C04a

open StubGen

/-! ### 1. the convention -/

/-- private by name: a leading underscore, and not a dunder name -/
def conventionPrivateName (name : String) : Bool := isInternal name && !pyEndsWith name "__"

/-- some enclosing module / package / class segment of the qualified name is private -/
def privatePath (qname : String) : Bool := (dropLast' (splitDot qname)).any isInternal

/-- the parent is a class (or the constructor of a class) with this publicity -/
def ownerClass : ParentKind → Option Bool
  | .publicClass => some true
  | .privateClass => some false
  | .initFunction o => o
  | _ => none

/-- the parent is a module — or a constructor that is not a method of a class, which the code treats alike -/
def moduleLike : ParentKind → Bool
  | .module => true
  | .initFunction none => true
  | _ => false

/-- the re-export verdict as `isPublicV` obtains it: none below a constructor; otherwise
    `checkPublicityInReexports` with `parentOk` = "the parent is a module or a public class" -/
def reexportVerdict (s : VSt) (name qname : String) : Option Bool :=
  match parentKind s with
  | .initFunction _ => none
  | .module => checkPublicityInReexports s name qname true
  | .publicClass => checkPublicityInReexports s name qname true
  | _ => checkPublicityInReexports s name qname false

/-- the decision table, as a function -/
def table (pk : ParentKind) (name qname : String) : Bool :=
  if conventionPrivateName name then false
  else match ownerClass pk with
    | some ownerPublic => if name = "__init__" ∨ isInternal name = false then ownerPublic else !privatePath qname
    | none => !privatePath qname

theorem reexportVerdict_eq (s : VSt) (name qname : String) :
    reexportVerdict s name qname = s04_viaReexport s name qname := by
  unfold reexportVerdict s04_viaReexport
  cases parentKind s <;> rfl

theorem table_eq (pk : ParentKind) (name qname : String) : table pk name qname = s04_table pk name qname := by
  unfold table s04_table conventionPrivateName privatePath
  have ho : ownerClass pk = s04_owner pk := by cases pk <;> rfl
  rw [ho]
  split
  · rfl
  · cases s04_owner pk with
    | none => rfl
    | some b =>
      dsimp only
      by_cases h : name = "__init__" ∨ isInternal name = false
      · rw [if_pos h, if_pos (by simpa using h)]
      · rw [if_neg h, if_neg (by simpa using h)]

/-- `_is_public` in three steps -/
theorem isPublicV_eq (s : VSt) (name qname : String) :
    isPublicV s name qname =
      match parentKind s with
      | .other => .error .typeError
      | pk => match reexportVerdict s name qname with
        | some b => .ok b
        | none => .ok (table pk name qname) := by
  rw [s04_isPublicV_eq, reexportVerdict_eq]
  cases parentKind s <;> simp only [table_eq] <;> rfl

/-! ### 3. the parent check -/

theorem parent_other_is_error (s : VSt) (name qname : String) (h : parentKind s = .other) :
    isPublicV s name qname = .error .typeError := by
  rw [isPublicV_eq, h]

/-- … and that is the only error -/
theorem isPublicV_error_iff (s : VSt) (name qname : String) (e : PyErr) :
    isPublicV s name qname = .error e ↔ parentKind s = .other ∧ e = .typeError := by
  rw [isPublicV_eq]
  cases parentKind s with
  | other => simp [eq_comm]
  | _ => cases reexportVerdict s name qname <;> simp

/-- which stacks have parent kind `.other` -/
theorem parentKind_other_iff (s : VSt) :
    parentKind s = .other ↔
      s.stack = [] ∨ (∃ e rest, s.stack = .enum e :: rest) ∨ (∃ items rest, s.stack = .assigns items :: rest)
      ∨ (∃ f rest, s.stack = .fn f :: rest ∧ f.name ≠ "__init__") := by
  unfold parentKind
  cases s.stack with
  | nil => simp
  | cons fr rest =>
    cases fr with
    | module m => simp
    | cls c => by_cases hc : c.isPublic = true <;> simp [hc]
    | fn f => by_cases hf : f.name = "__init__" <;> simp [hf]
    | enum e => simp
    | assigns items => simp

/-! ### 2. the decision table -/

/-- the exact table, row by row, when no re-export decides (`reexportVerdict … = none`; this holds for every
    declaration below a constructor, and for every package without re-exports, see
    `reexportVerdict_init`, `reexportVerdict_empty_map`) -/
theorem isPublic_no_reexport (s : VSt) (name qname : String) (hre : reexportVerdict s name qname = none)
    (hpk : parentKind s ≠ .other) :
    -- private by name: never public
    (conventionPrivateName name = true → isPublicV s name qname = .ok false) ∧
    -- `__init__` or a name without leading underscore in a class / in a constructor of a class: the class decides
    (∀ b, ownerClass (parentKind s) = some b → (name = "__init__" ∨ isInternal name = false) →
        isPublicV s name qname = .ok b) ∧
    -- module parent: the path decides (for every name that is not private by name)
    (moduleLike (parentKind s) = true → conventionPrivateName name = false →
        isPublicV s name qname = .ok (!privatePath qname)) ∧
    -- dunder names (leading underscore and trailing `__`) other than `__init__`: the path decides, in classes too
    (isInternal name = true → pyEndsWith name "__" = true → name ≠ "__init__" →
        isPublicV s name qname = .ok (!privatePath qname)) := by
  have hinit : conventionPrivateName "__init__" = false := by decide +kernel
  have key : isPublicV s name qname = .ok (table (parentKind s) name qname) := by
    rw [isPublicV_eq, hre]
    cases h : parentKind s with
    | other => exact absurd h hpk
    | _ => rfl
  rw [key]
  unfold table
  refine ⟨fun h => by rw [if_pos h], fun b hb hn => ?_, fun hm hc => ?_, fun hi he hne => ?_⟩
  · have hc : conventionPrivateName name = false := by
      rcases hn with rfl | hn
      · exact hinit
      · unfold conventionPrivateName; rw [hn]; rfl
    rw [hc, hb]
    simp only [Bool.false_eq_true, if_false, if_pos hn]
  · have ho : ownerClass (parentKind s) = none := by
      cases h : parentKind s with
      | initFunction o => cases o <;> simp_all [moduleLike, ownerClass]
      | _ => simp_all [moduleLike, ownerClass]
    rw [hc, ho]
    simp only [Bool.false_eq_true, if_false]
  · have hc : conventionPrivateName name = false := by
      unfold conventionPrivateName; rw [hi, he]; rfl
    rw [hc]
    simp only [Bool.false_eq_true, if_false]
    cases ownerClass (parentKind s) with
    | none => rfl
    | some b =>
      dsimp only
      rw [if_neg]
      rintro (h | h)
      · exact hne h
      · rw [hi] at h; cases h

/-! ### 4. the re-export check

`checkPublicityInReexports s name qname parentOk` walks the entries `key ↦ {… src …}` of the re-export map
(`key` is an import of a package `__init__` as written there — `<id>.<name>` or `<id>.*`, see `addReexports`;
`src` that `__init__` module with all its imports) and answers `some true` at the first entry that
`Decides`; else `none`. -/

/-- `module_is_reexported`: the key is the analysed file's name or qualified name, possibly with `.*` -/
def keyNamesModule (s : VSt) (key : String) : Bool :=
  key == s.fileName || key == s.fileFullname || key == s.fileName ++ ".*" || key == s.fileFullname ++ ".*"

/-- `is_from_same_package`: the re-exporting module is the `__init__` of the analysed file's package -/
def fromSamePackage (s : VSt) (src : ModRef) : Bool :=
  src.id == joinWith "/" (dropLast' (splitDot s.fileFullname))

/-- `is_from_another_package`: the key (trailing `.` and `*` characters stripped) is the declaration's or the
    file's qualified name -/
def fromOtherPackage (s : VSt) (qname key : String) : Bool :=
  pyRstrip key ".*" == qname || pyRstrip key ".*" == s.fileFullname

/-- the import binds a public name: its alias if it has one, else the declaration's own name -/
def bindsPublicName (name : String) (q : QImport) : Bool :=
  match q.alias with
  | some a => !isInternal a
  | none => !isInternal name

/-- route W: the key names the analysed module and the re-exporting module wildcard-imports it -/
def ViaWildcard (s : VSt) (name qname : String) (parentOk : Bool) (key : String) (src : ModRef) : Prop :=
  keyNamesModule s key = true ∧ isInternal name = false ∧ parentOk = true ∧
  ∃ w ∈ src.wildcardImports,
    (fromSamePackage s src = true ∧ w = s.fileName) ∨ (fromOtherPackage s qname key = true ∧ w = s.fileFullname)

/-- route M: the key names the analysed module and the re-exporting module imports the module itself, binding
    a public name -/
def ViaModuleImport (s : VSt) (name : String) (parentOk : Bool) (key : String) (src : ModRef) : Prop :=
  keyNamesModule s key = true ∧ isInternal name = false ∧ parentOk = true ∧
  ∃ q ∈ src.qualifiedImports,
    (q.qualifiedName = s.fileName ∨ q.qualifiedName = s.fileFullname) ∧ bindsPublicName name q = true

/-- route D: the key ENDS WITH the declaration's name and SOME qualified import of the re-exporting module is
    a STRING SUFFIX of the declaration's qualified name and binds a public name (`parentOk` is not asked) -/
def ViaNameImport (name qname : String) (key : String) (src : ModRef) : Prop :=
  pyEndsWith key name = true ∧
  ∃ q ∈ src.qualifiedImports, pyEndsWith qname q.qualifiedName = true ∧ bindsPublicName name q = true

/-- the map entry `key ↦ {… src …}` makes the declaration public -/
def Decides (s : VSt) (name qname : String) (parentOk : Bool) (key : String) (src : ModRef) : Prop :=
  (fromSamePackage s src = true ∨ fromOtherPackage s qname key = true) ∧
  (ViaWildcard s name qname parentOk key src ∨ ViaModuleImport s name parentOk key src
    ∨ ViaNameImport name qname key src)

/-- some entry of the re-export map decides -/
def SomeEntryDecides (s : VSt) (name qname : String) (parentOk : Bool) : Prop :=
  ∃ key srcs src, (key, srcs) ∈ s.api.reexportMap ∧ src ∈ srcs ∧ Decides s name qname parentOk key src

private theorem bindsPublicName_iff₁ (name : String) (q : QImport) :
    (q.alias.isNone = true ∧ isInternal name = false ∨
      (match q.alias with | some a => !isInternal a | none => false) = true) ↔ bindsPublicName name q = true := by
  unfold bindsPublicName; cases q.alias <;> simp

private theorem bindsPublicName_iff₂ (name : String) (q : QImport) :
    ((match q.alias with | some a => !isInternal a | none => false) = true ∨
      q.alias.isNone = true ∧ isInternal name = false) ↔ bindsPublicName name q = true := by
  unfold bindsPublicName; cases q.alias <;> simp

theorem reexport_some_true_iff (s : VSt) (name qname : String) (parentOk : Bool) :
    checkPublicityInReexports s name qname parentOk = some true ↔ SomeEntryDecides s name qname parentOk := by
  unfold checkPublicityInReexports SomeEntryDecides
  rw [s04_ite_some_true_iff]
  simp only [List.any_eq_true, Bool.and_eq_true, Bool.or_eq_true]
  unfold Decides ViaWildcard ViaModuleImport ViaNameImport keyNamesModule fromSamePackage fromOtherPackage
  simp only [Bool.or_eq_true, beq_iff_eq, Bool.not_eq_true']
  constructor
  · rintro ⟨⟨key, srcs⟩, hmem, _, src, hsrc, hpkg, hr⟩
    refine ⟨key, srcs, src, hmem, hsrc, hpkg, ?_⟩
    rcases hr with ⟨hm, ⟨w, hw, ⟨hwc, hni⟩, hp⟩ | ⟨q, hq, ⟨⟨hqn, hal⟩, hni⟩, hp⟩⟩ | ⟨hend, q, hq, hsuf, hal⟩
    · exact Or.inl ⟨hm, hni, hp, w, hw, hwc⟩
    · exact Or.inr (Or.inl ⟨hm, hni, hp, q, hq, hqn, (bindsPublicName_iff₁ name q).1 hal⟩)
    · exact Or.inr (Or.inr ⟨hend, q, hq, hsuf, (bindsPublicName_iff₂ name q).1 hal⟩)
  · rintro ⟨key, srcs, src, hmem, hsrc, hpkg, hr⟩
    refine ⟨(key, srcs), hmem, ?_, src, hsrc, hpkg, ?_⟩
    · rcases hr with ⟨hm, _⟩ | ⟨hm, _⟩ | ⟨hend, _⟩
      · exact Or.inr hm
      · exact Or.inr hm
      · exact Or.inl hend
    · rcases hr with ⟨hm, hni, hp, w, hw, hwc⟩ | ⟨hm, hni, hp, q, hq, hqn, hal⟩ | ⟨hend, q, hq, hsuf, hal⟩
      · exact Or.inl ⟨hm, Or.inl ⟨w, hw, ⟨hwc, hni⟩, hp⟩⟩
      · exact Or.inl ⟨hm, Or.inr ⟨q, hq, ⟨⟨hqn, (bindsPublicName_iff₁ name q).2 hal⟩, hni⟩, hp⟩⟩
      · exact Or.inr ⟨hend, q, hq, hsuf, (bindsPublicName_iff₂ name q).2 hal⟩

/-- (c) the check never answers "private": a re-export can only ADD publicity -/
theorem reexport_never_false (s : VSt) (name qname : String) (parentOk : Bool) :
    checkPublicityInReexports s name qname parentOk ≠ some false := by
  unfold checkPublicityInReexports
  exact s04_ite_ne_some_false _

theorem reexport_none_iff (s : VSt) (name qname : String) (parentOk : Bool) :
    checkPublicityInReexports s name qname parentOk = none ↔ ¬ SomeEntryDecides s name qname parentOk := by
  rw [← reexport_some_true_iff]
  have := reexport_never_false s name qname parentOk
  cases h : checkPublicityInReexports s name qname parentOk with
  | none => simp
  | some b => cases b <;> simp_all

/-- exactly when the check answers what -/
theorem reexport_decides_iff (s : VSt) (name qname : String) (parentOk : Bool) :
    (checkPublicityInReexports s name qname parentOk = some true ↔ SomeEntryDecides s name qname parentOk) ∧
    (checkPublicityInReexports s name qname parentOk = none ↔ ¬ SomeEntryDecides s name qname parentOk) ∧
    checkPublicityInReexports s name qname parentOk ≠ some false :=
  ⟨reexport_some_true_iff s name qname parentOk, reexport_none_iff s name qname parentOk,
   reexport_never_false s name qname parentOk⟩

/-- (a) no re-exports, no verdict -/
theorem reexport_empty_map (s : VSt) (name qname : String) (parentOk : Bool) (h : s.api.reexportMap = []) :
    checkPublicityInReexports s name qname parentOk = none := by
  rw [reexport_none_iff]
  rintro ⟨key, srcs, src, hmem, _⟩
  rw [h] at hmem
  cases hmem

/-- a public parent only helps -/
theorem reexport_parentOk_mono (s : VSt) (name qname : String)
    (h : checkPublicityInReexports s name qname false = some true) :
    checkPublicityInReexports s name qname true = some true := by
  rw [reexport_some_true_iff] at h ⊢
  obtain ⟨key, srcs, src, hmem, hsrc, hpkg, hr⟩ := h
  refine ⟨key, srcs, src, hmem, hsrc, hpkg, ?_⟩
  rcases hr with ⟨_, _, hp, _⟩ | ⟨_, _, hp, _⟩ | hr
  · cases hp
  · cases hp
  · exact Or.inr (Or.inr hr)

/-- (b) what `some true` needs for a declaration whose own name is internal: route D with an ALIAS that is
    not internal — an entry whose key ends with the name, from the `__init__` of the same package (or with the
    declaration's / file's qualified name as key), and a qualified import
    `… import <string suffix of qname> as <public alias>` of that `__init__` -/
theorem reexport_of_private_requires_alias (s : VSt) (name qname : String) (parentOk : Bool)
    (hpriv : isInternal name = true)
    (h : checkPublicityInReexports s name qname parentOk = some true) :
    ∃ key srcs src q a, (key, srcs) ∈ s.api.reexportMap ∧ src ∈ srcs ∧
      (fromSamePackage s src = true ∨ fromOtherPackage s qname key = true) ∧
      pyEndsWith key name = true ∧ q ∈ src.qualifiedImports ∧ pyEndsWith qname q.qualifiedName = true ∧
      q.alias = some a ∧ isInternal a = false := by
  rw [reexport_some_true_iff] at h
  obtain ⟨key, srcs, src, hmem, hsrc, hpkg, hr⟩ := h
  rcases hr with ⟨_, hn, _⟩ | ⟨_, hn, _⟩ | ⟨hend, q, hq, hsuf, hal⟩
  · rw [hpriv] at hn; cases hn
  · rw [hpriv] at hn; cases hn
  · unfold bindsPublicName at hal
    cases hqa : q.alias with
    | none => rw [hqa] at hal; simp [hpriv] at hal
    | some a =>
      rw [hqa] at hal
      exact ⟨key, srcs, src, q, a, hmem, hsrc, hpkg, hend, hq, hsuf, hqa, by simpa using hal⟩

/-- … below a private class the parent shuts routes W and M, route D remains (alias or public own name) -/
theorem reexport_in_private_class_requires_name_import (s : VSt) (name qname : String)
    (h : checkPublicityInReexports s name qname false = some true) :
    ∃ key srcs src, (key, srcs) ∈ s.api.reexportMap ∧ src ∈ srcs ∧
      (fromSamePackage s src = true ∨ fromOtherPackage s qname key = true) ∧ ViaNameImport name qname key src := by
  rw [reexport_some_true_iff] at h
  obtain ⟨key, srcs, src, hmem, hsrc, hpkg, hr⟩ := h
  rcases hr with ⟨_, _, hp, _⟩ | ⟨_, _, hp, _⟩ | hr
  · cases hp
  · cases hp
  · exact ⟨key, srcs, src, hmem, hsrc, hpkg, hr⟩

/-- no interference: if no key names the analysed module and no qualified import of any re-exporting module
    is a string suffix of the declaration's qualified name, no re-export decides -/
theorem no_interference (s : VSt) (name qname : String) (parentOk : Bool)
    (hkeys : ∀ key srcs, (key, srcs) ∈ s.api.reexportMap → keyNamesModule s key = false)
    (himps : ∀ key srcs src q, (key, srcs) ∈ s.api.reexportMap → src ∈ srcs → q ∈ src.qualifiedImports →
        pyEndsWith qname q.qualifiedName = false) :
    checkPublicityInReexports s name qname parentOk = none := by
  rw [reexport_none_iff]
  rintro ⟨key, srcs, src, hmem, hsrc, _, hr⟩
  rcases hr with ⟨hm, _⟩ | ⟨hm, _⟩ | ⟨_, q, hq, hsuf, _⟩
  · rw [hkeys key srcs hmem] at hm; cases hm
  · rw [hkeys key srcs hmem] at hm; cases hm
  · rw [himps key srcs src q hmem hsrc hq] at hsuf; cases hsuf

/-! #### the verdict `isPublicV` uses -/

theorem reexportVerdict_never_false (s : VSt) (name qname : String) : reexportVerdict s name qname ≠ some false := by
  unfold reexportVerdict
  cases parentKind s <;> first | exact reexport_never_false _ _ _ _ | simp

/-- below a constructor re-exports are not consulted -/
theorem reexportVerdict_init (s : VSt) (name qname : String) (o : Option Bool)
    (h : parentKind s = .initFunction o) : reexportVerdict s name qname = none := by
  unfold reexportVerdict; rw [h]

/-- (a) for `isPublicV`: in a package without re-exports the table applies to every declaration -/
theorem reexportVerdict_empty_map (s : VSt) (name qname : String) (h : s.api.reexportMap = []) :
    reexportVerdict s name qname = none := by
  unfold reexportVerdict
  cases parentKind s <;> first | exact reexport_empty_map _ _ _ _ h | rfl

theorem reexportVerdict_none_of_check (s : VSt) (name qname : String)
    (h : ∀ parentOk, checkPublicityInReexports s name qname parentOk = none) : reexportVerdict s name qname = none := by
  unfold reexportVerdict
  cases parentKind s <;> first | exact h _ | rfl

/-- a re-export that decides makes the declaration public, whatever the table says -/
theorem isPublic_of_reexport (s : VSt) (name qname : String) (hpk : parentKind s ≠ .other)
    (h : reexportVerdict s name qname = some true) : isPublicV s name qname = .ok true := by
  rw [isPublicV_eq, h]
  cases hk : parentKind s with
  | other => exact absurd hk hpk
  | _ => rfl

/-- the whole function in one line: public iff a re-export decides or the table says so -/
theorem isPublicV_ok_iff (s : VSt) (name qname : String) (b : Bool) :
    isPublicV s name qname = .ok b ↔
      parentKind s ≠ .other ∧
      b = (reexportVerdict s name qname == some true || table (parentKind s) name qname) := by
  rw [isPublicV_eq]
  have hnf := reexportVerdict_never_false s name qname
  cases hk : parentKind s with
  | other => simp
  | _ =>
    cases hv : reexportVerdict s name qname with
    | none => simp [eq_comm]
    | some c =>
      cases c with
      | false => exact absurd hv hnf
      | true => simp [eq_comm]

/-! ### the property's words -/

/-- the property's words, negative half: private by name, or in a non-public class, or (module level) below
    a private module / package / class ⇒ marked non-public unless a re-export decides.
    (For the class case the name must not be a dunder other than `__init__` — see F04a-2.) -/
theorem isPublic_false_of_private (s : VSt) (name qname : String) (hre : reexportVerdict s name qname = none)
    (hpk : parentKind s ≠ .other)
    (h : conventionPrivateName name = true
       ∨ (ownerClass (parentKind s) = some false ∧ (name = "__init__" ∨ isInternal name = false))
       ∨ (moduleLike (parentKind s) = true ∧ privatePath qname = true)) :
    isPublicV s name qname = .ok false := by
  obtain ⟨r1, r2, r3, _⟩ := isPublic_no_reexport s name qname hre hpk
  rcases h with h | ⟨h1, h2⟩ | ⟨h1, h2⟩
  · exact r1 h
  · exact r2 false h1 h2
  · cases hc : conventionPrivateName name with
    | true => exact r1 hc
    | false => rw [r3 h1 hc, h2]; rfl

/-- positive half (needs no hypothesis on re-exports, they only add publicity): a public name in a public
    class, or at module level with no private segment on its path ⇒ marked public -/
theorem isPublic_true_of_public (s : VSt) (name qname : String) (hname : isInternal name = false)
    (h : ownerClass (parentKind s) = some true ∨ (moduleLike (parentKind s) = true ∧ privatePath qname = false)) :
    isPublicV s name qname = .ok true := by
  have hpk : parentKind s ≠ .other := by
    intro e; rw [e] at h; simp [ownerClass, moduleLike] at h
  cases hv : reexportVerdict s name qname with
  | some c =>
    cases c with
    | true => exact isPublic_of_reexport s name qname hpk hv
    | false => exact absurd hv (reexportVerdict_never_false s name qname)
  | none =>
    obtain ⟨_, r2, r3, _⟩ := isPublic_no_reexport s name qname hv hpk
    rcases h with h | ⟨h1, h2⟩
    · exact r2 true h (Or.inr hname)
    · have hc : conventionPrivateName name = false := by unfold conventionPrivateName; rw [hname]; rfl
      rw [r3 h1 hc, h2]; rfl

/-- the API marks a declaration public ONLY IF a re-export decides or the convention allows it: not private by
    name, and — class member — the class is public or — module level / dunder — no private segment on the path -/
theorem isPublic_true_only_if (s : VSt) (name qname : String) (h : isPublicV s name qname = .ok true) :
    reexportVerdict s name qname = some true ∨
    (conventionPrivateName name = false ∧
      (ownerClass (parentKind s) = some true ∨ privatePath qname = false)) := by
  rw [isPublicV_ok_iff] at h
  obtain ⟨_, h⟩ := h
  cases hv : reexportVerdict s name qname with
  | some c =>
    cases c with
    | true => exact Or.inl rfl
    | false => exact absurd hv (reexportVerdict_never_false s name qname)
  | none =>
    right
    rw [hv] at h
    have ht : table (parentKind s) name qname = true := by simpa using h.symm
    unfold table at ht
    cases hc : conventionPrivateName name with
    | true => rw [hc] at ht; simp at ht
    | false =>
      refine ⟨rfl, ?_⟩
      rw [hc] at ht
      simp only [Bool.false_eq_true, if_false] at ht
      cases ho : ownerClass (parentKind s) with
      | none => rw [ho] at ht; right; simpa using ht
      | some b =>
        rw [ho] at ht
        dsimp only at ht
        split at ht
        · left; rw [ht]
        · right; simpa using ht

/-! ### 5. what `isPublicV` reads -/

theorem isPublicV_congr {s s' : VSt} (hk : parentKind s = parentKind s')
    (hm : s.api.reexportMap = s'.api.reexportMap) (hq : s.fileFullname = s'.fileFullname)
    (hn : s.fileName = s'.fileName) (name qname : String) :
    isPublicV s name qname = isPublicV s' name qname := by
  rw [s04_isPublicV_eq, s04_isPublicV_eq]
  unfold s04_viaReexport
  simp only [s04_check_core, hk, hm, hq, hn]

/-! ### where the verdict goes: the `isPublic` flags of the API

Functions, classes and attributes get `isPublic` := the verdict in the state in which the definition is
entered; enums (`enterEnumdef`) and enum instances have no such flag at all (K04-private-enum in `C04`). -/

theorem enterFuncdef_flag {env : AEnv} {f : FuncDef} {s s' : VSt} {u : Unit}
    (h : enterFuncdef env f s = .ok (u, s')) :
    ∃ fn, s'.stack = .fn fn :: s.stack ∧ fn.name = f.name ∧ isPublicV s f.name f.fullname = .ok fn.isPublic := by
  obtain ⟨fn, _, hstk, _, hm, _, hpub, _⟩ := k12_enterFuncdef_ok h
  exact ⟨fn, hstk, hm.name, hpub⟩

theorem enterClassdef_flag {env : AEnv} {name fullname : String} {bases removed : List BaseExpr} {defs : List Def}
    {s s' : VSt} {u : Unit} (h : enterClassdef env name fullname bases removed defs s = .ok (u, s')) :
    ∃ c, s'.stack = .cls c :: s.stack ∧ c.name = name ∧ isPublicV s name fullname = .ok c.isPublic := by
  obtain ⟨c, _, hstk, _, hn, _, hpub, _⟩ := k12_enterClassdef_ok h
  exact ⟨c, hstk, hn, hpub⟩

/-- attributes: the qualified name tested is the variable's own (`node.fullname`) when the l-value has none -/
theorem createAttributeV_flag {env : AEnv} {isMember : Bool} {name fullname : String} {isVar : Bool}
    {var : Option VarInfo} {un : Option MType} {isStatic : Bool} {s s' : VSt} {a : Attribute}
    (h : createAttributeV env isMember name fullname isVar var un isStatic s = .ok (a, s')) :
    a.name = name ∧ isPublicV s name (s04_attrQname name fullname var) = .ok a.isPublic :=
  (k12_createAttributeV_ok h).2

/-- the property for functions, in one statement: a function that is private by convention and that no
    re-export makes public is recorded with `isPublic = false` -/
theorem private_function_marked {env : AEnv} {f : FuncDef} {s s' : VSt} {u : Unit}
    (h : enterFuncdef env f s = .ok (u, s')) (hre : reexportVerdict s f.name f.fullname = none)
    (hpriv : conventionPrivateName f.name = true
       ∨ (ownerClass (parentKind s) = some false ∧ (f.name = "__init__" ∨ isInternal f.name = false))
       ∨ (moduleLike (parentKind s) = true ∧ privatePath f.fullname = true)) :
    ∃ fn, s'.stack = .fn fn :: s.stack ∧ fn.name = f.name ∧ fn.isPublic = false := by
  obtain ⟨fn, h1, h2, h3⟩ := enterFuncdef_flag h
  have hpk : parentKind s ≠ .other := by
    intro e; rw [parent_other_is_error s _ _ e] at h3; cases h3
  rw [isPublic_false_of_private s _ _ hre hpk hpriv] at h3
  exact ⟨fn, h1, h2, by simpa using h3.symm⟩

/-- … and conversely a function recorded as public is re-exported or public by convention -/
theorem public_function_justified {env : AEnv} {f : FuncDef} {s s' : VSt} {u : Unit}
    (h : enterFuncdef env f s = .ok (u, s')) :
    ∃ fn, s'.stack = .fn fn :: s.stack ∧ fn.name = f.name ∧
      (fn.isPublic = true →
        reexportVerdict s f.name f.fullname = some true ∨
        (conventionPrivateName f.name = false ∧
          (ownerClass (parentKind s) = some true ∨ privatePath f.fullname = false))) := by
  obtain ⟨fn, h1, h2, h3⟩ := enterFuncdef_flag h
  refine ⟨fn, h1, h2, fun hp => ?_⟩
  rw [hp] at h3
  exact isPublic_true_only_if s _ _ h3

/-! ### 6. kernel-checked rows and findings -/

attribute [local instance] s04_decEqResult

private def doc0 : ParserState := { root := { name := "pkg" }, style := .numpy }

/-- a visitor state analysing file `full` (short name `short`) with the given stack and re-export map -/
private def stateOf (stack : List Frame) (full short : String) (rm : List (String × List ModRef) := []) : VSt :=
  { doc := doc0, stack := stack, fileFullname := full, fileName := short, api := { reexportMap := rm } }

private def modF : Frame := .module { id := "pkg/mod", name := "mod" }
private def clsF (name : String) (pub : Bool) : Frame := .cls { id := "pkg/mod/" ++ name, name := name, isPublic := pub }
private def fnF (name : String) : Frame := .fn { id := "pkg/mod/C/" ++ name, name := name, isPublic := true }

/-- rows of the table, module parent -/
example : isPublicV (stateOf [modF] "pkg.mod" "mod") "_f" "pkg.mod._f" = .ok false := by decide +kernel
example : isPublicV (stateOf [modF] "pkg.mod" "mod") "f" "pkg.mod.f" = .ok true := by decide +kernel
example : isPublicV (stateOf [modF] "pkg._impl" "_impl") "f" "pkg._impl.f" = .ok false := by decide +kernel
example : isPublicV (stateOf [modF] "_pkg.mod" "mod") "C" "_pkg.mod.C" = .ok false := by decide +kernel
example : isPublicV (stateOf [modF] "pkg.mod" "mod") "__version__" "pkg.mod.__version__" = .ok true := by decide +kernel
/-- public class -/
example : isPublicV (stateOf [clsF "C" true, modF] "pkg.mod" "mod") "m" "pkg.mod.C.m" = .ok true := by decide +kernel
example : isPublicV (stateOf [clsF "C" true, modF] "pkg.mod" "mod") "_m" "pkg.mod.C._m" = .ok false := by decide +kernel
example : isPublicV (stateOf [clsF "C" true, modF] "pkg.mod" "mod") "__init__" "pkg.mod.C.__init__" = .ok true := by decide +kernel
example : isPublicV (stateOf [clsF "C" true, modF] "pkg.mod" "mod") "__len__" "pkg.mod.C.__len__" = .ok true := by decide +kernel
/-- private class -/
example : isPublicV (stateOf [clsF "_C" false, modF] "pkg.mod" "mod") "m" "pkg.mod._C.m" = .ok false := by decide +kernel
example : isPublicV (stateOf [clsF "_C" false, modF] "pkg.mod" "mod") "__init__" "pkg.mod._C.__init__" = .ok false := by decide +kernel
example : isPublicV (stateOf [clsF "_C" false, modF] "pkg.mod" "mod") "__len__" "pkg.mod._C.__len__" = .ok false := by decide +kernel
/-- constructor -/
example : isPublicV (stateOf [fnF "__init__", clsF "C" true, modF] "pkg.mod" "mod") "x" "pkg.mod.C.x" = .ok true := by decide +kernel
example : isPublicV (stateOf [fnF "__init__", clsF "C" true, modF] "pkg.mod" "mod") "_x" "pkg.mod.C._x" = .ok false := by decide +kernel
example : isPublicV (stateOf [fnF "__init__", clsF "_C" false, modF] "pkg.mod" "mod") "x" "pkg.mod._C.x" = .ok false := by decide +kernel
example : isPublicV (stateOf [fnF "__init__", modF] "pkg.mod" "mod") "x" "pkg.mod.x" = .ok true := by decide +kernel
/-- other parents -/
example : isPublicV (stateOf [fnF "f", modF] "pkg.mod" "mod") "x" "pkg.mod.f.x" = .error .typeError := by decide +kernel
example : isPublicV (stateOf [] "pkg.mod" "mod") "x" "pkg.mod.x" = .error .typeError := by decide +kernel
example : isPublicV (stateOf [.enum { id := "pkg/mod/E", name := "E" }, modF] "pkg.mod" "mod") "A" "pkg.mod.E.A" = .error .typeError := by decide +kernel

/-- the class columns do not look at the path, the dunder row does not look at the class: for a class `C` of
    the private module `pkg._impl` that is public (which only a re-export can make it) -/
theorem reexported_class_members : isPublicV (stateOf [clsF "C" true, modF] "pkg._impl" "_impl") "m" "pkg._impl.C.m" = .ok true
    ∧ isPublicV (stateOf [clsF "C" true, modF] "pkg._impl" "_impl") "__len__" "pkg._impl.C.__len__" = .ok false := by
  decide +kernel

/-! re-exports -/
private def initA : Module :=
  { id := "pkg", name := "__init__", qualifiedImports := [⟨"a._helper", some "helper"⟩] }

example : (addReexports {} initA).reexportMap = [("a._helper", [initA.ref])] := by decide +kernel

example : isPublicV (stateOf [modF] "pkg.a" "a" (addReexports {} initA).reexportMap) "_helper" "pkg.a._helper" = .ok true := by decide +kernel
/-- F04a-1, on `isPublicV`: the re-export of `pkg.a._helper` as `helper` publishes `pkg.data._helper` -/
theorem suffix_interference :
   isPublicV (stateOf [modF] "pkg.data" "data" (addReexports {} initA).reexportMap) "_helper" "pkg.data._helper" = .ok true
   ∧ isPublicV (stateOf [modF] "pkg.data" "data") "_helper" "pkg.data._helper" = .ok false := by decide +kernel
example : isPublicV (stateOf [modF] "pkg.b" "b" (addReexports {} initA).reexportMap) "_helper" "pkg.b._helper" = .ok false := by decide +kernel


/-! the same through the whole analyser -/

private def env0 : AEnv := { opts := {}, aliases := [], infoBases := [] }
private def fdef (name fullname : String) : FuncDef :=
  { name := name, fullname := fullname, isStatic := false, isClass := false, isProperty := false, args := [],
    hasCallableType := false, retType := none, unanalyzedRet := none, unanalyzedRetLiteralIsNone := false, body := [] }

/-- `pkg/__init__.py`: `from .a import _helper as helper`; `pkg/a.py` and `pkg/data.py` each define `_helper` -/
private def pkgSuffix (withReexport : Bool) : List SrcModule :=
  [ { path := "pkg/__init__.py", fullname := "pkg", name := "pkg",
      imports := if withReexport then [.from_ "a" [("_helper", some "helper")]] else [], defs := [] },
    { path := "pkg/a.py", fullname := "pkg.a", name := "a", imports := [],
      defs := [.func (fdef "_helper" "pkg.a._helper")] },
    { path := "pkg/data.py", fullname := "pkg.data", name := "data", imports := [],
      defs := [.func (fdef "_helper" "pkg.data._helper")] } ]

private def flags (mods : List SrcModule) : Option (List (String × Bool)) :=
  match analyze env0 { name := "pkg" } mods with
  | .ok (r, _) => some (r.functions.map fun f => (f.id, f.isPublic))
  | .error _ => none

theorem suffix_interference_analyze :
    flags (pkgSuffix true) = some [("pkg/a/_helper", true), ("pkg/data/_helper", true)]
    ∧ flags (pkgSuffix false) = some [("pkg/a/_helper", false), ("pkg/data/_helper", false)] := by
  decide +kernel

/-- `pkg/__init__.py`: `from . import x` (the submodule `pkg/x.py`); `pkg/_internal.py` defines a function `x`
    and a private class `_C` with a method `x` -/
private def pkgSub (withReexport : Bool) : List SrcModule :=
  [ { path := "pkg/__init__.py", fullname := "pkg", name := "pkg",
      imports := if withReexport then [.from_ "" [("x", none)]] else [], defs := [] },
    { path := "pkg/x.py", fullname := "pkg.x", name := "x", imports := [], defs := [] },
    { path := "pkg/_internal.py", fullname := "pkg._internal", name := "_internal", imports := [],
      defs := [.func (fdef "x" "pkg._internal.x"),
               .cls "_C" "pkg._internal._C" [] [] [.func (fdef "x" "pkg._internal._C.x")]] } ]

theorem submodule_import_interference_analyze :
    flags (pkgSub true) = some [("pkg/_internal/x", true), ("pkg/_internal/_C/x", true)]
    ∧ flags (pkgSub false) = some [("pkg/_internal/x", false), ("pkg/_internal/_C/x", false)] := by
  decide +kernel

end StubGen.C04a
