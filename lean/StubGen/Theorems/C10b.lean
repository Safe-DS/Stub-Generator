/-
C10 — whole-tool part: the name of the API file, and which root names the package.
-/
import StubGen.Proofs.Pipeline

namespace StubGen.C10b

open StubGen

/-- END TO END: the API inventory is named after the REQUESTED source directory (`src_dir_path.stem`), whatever root the
    discovery adjusts to; the package name inside it is the stem of the adjusted root. -/
theorem api_file_name {i : ToolInput} {o : ToolOutput} (h : runTool i = .ok o) :
    o.apiFileName = pathStem i.srcDir ++ "__api.json" ∧
    o.packageName = pathStem (adjustRoot i.srcDir i.files) := by
  obtain ⟨root, d, r, ws, text, gen, hd, _, _, _, ho⟩ := pl_runTool_ok h
  subst ho
  refine ⟨rfl, ?_⟩
  rw [p08_discoverFrom_root hd, pl_adjustRoot_sortPaths]

/-- `PurePath.stem` drops the last suffix only: examples (a leading dot and a trailing dot are no suffix separators) -/
example : pyStemOfName "pkg" = "pkg" ∧ pyStemOfName "pkg.v2" = "pkg" ∧ pyStemOfName "a.b.c" = "a.b"
    ∧ pyStemOfName ".hidden" = ".hidden" ∧ pyStemOfName "name." = "name." := by decide +kernel

/-- the source directory above the package: the file is named after the directory, the package after the package -/
example : pathStem ["/", "work", "src"] ++ "__api.json" = "src__api.json"
    ∧ pathStem (adjustRoot ["/", "work", "src"] [["/", "work", "src", "pkg", "__init__.py"], ["/", "work", "src", "pkg", "m.py"]]) = "pkg" := by
  decide +kernel

end StubGen.C10b
