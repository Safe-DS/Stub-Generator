/-
T1 obligations: what the properties need of the tables that `tie/gen_tables.py` regenerates from
/repo's working tree on every run (`Generated/Tables.lean`).  A mutated table breaks one of these
`decide` proofs in `lake build`.
-/
import StubGen.Generated.Tables
import StubGen.Spec.Keywords
import StubGen.Model.Naming
import StubGen.Model.Types

namespace StubGen.Tables

/-- C02: every Safe-DS keyword is in the escape table and is wrapped in back-quotes -/
theorem keywords_escaped : ∀ k ∈ Spec.keywords33, escapeKeyword k = "`" ++ k ++ "`" := by decide +kernel

/-- C02/C09: nothing but keywords is escaped (the table contains exactly the 33 keywords) -/
theorem escape_table_exact : Generated.keywords.length = 33 ∧ ∀ k ∈ Generated.keywords, k ∈ Spec.keywords33 := by decide +kernel

/-- C09: the annotation that carries the original Python name -/
theorem name_annotation_form : nameAnnotation "x_y" = "@PythonName(\"x_y\")" := by decide +kernel

/-- C19: the model's `from_dict` dispatch covers exactly the kinds the source dispatches on -/
theorem type_kinds : Generated.typeKinds = FromDict.kinds := by decide +kernel

/-- C15: the three excluded directory names, the glob pattern -/
theorem excluded_dirs : Generated.excludedDirs = ["test", "tests", "docs"] ∧ Generated.globPattern = "./**/*.py" := by decide +kernel

/-- C04: the internal-name predicate tests for a leading underscore -/
theorem internal_prefix : Generated.internalPrefix = "_" := by decide +kernel

/-- C05: documented builtin mapping -/
theorem builtin_names : Generated.builtinTypeNames =
    [("int", "Int"), ("str", "String"), ("bool", "Boolean"), ("float", "Float"), ("None", "Nothing?")] := by decide +kernel

/-- C20: every marker key the property lists has a message, messages are pairwise distinct -/
theorem todo_keys : ∀ k ∈ ["no tuple support", "no set support", "List", "Set", "OPT_POS_ONLY", "REQ_NAME_ONLY",
    "multiple_inheritance", "variadic", "class_method", "param without type", "attr without type",
    "result without type", "internal class as type", "unknown", "unknown value"],
    (assocGet? Generated.todoMessages k).isSome := by decide +kernel

theorem todo_messages_distinct : (Generated.todoMessages.map (·.2)).Nodup := by decide +kernel

end StubGen.Tables
