/-
C18 (generator part) — "The stub generated for a module depends only on that module, the declarations
it references and the package `__init__` files that re-export it: adding, removing or renaming
unrelated modules, or changing declarations in them, leaves it byte-identical.  Reordering the
top-level declarations of a module only permutes the corresponding declarations in its stub."

Model: `StubGen.Model.Gen` (`callGenerator`, `createFunctions`, `createClasses`).
Proof machinery: `StubGen.Proofs.Locality` (a two-run simulation `r18_Sim` walked over the whole
generator once, instantiated twice).

A. Dependence on the API.  `callGenerator env m` reads `env.api` only through
   (i) `api.reexportMap`, (ii) the class-table lookup of `_add_to_imports` (`r18_importLookup`),
   (iii) `getClassInPackage` (inlined private superclasses) and (iv) the fuel `classFuel env`;
   `api.package` and `api.modules` are never read.  `callGenerator_congr`; fuel monotonicity
   `createClassString_fuel_mono`; `unrelated_module_added` with the kernel-checked counterexample
   `same_name_class_changes_import` for the necessity of its side condition.
B. Reordering.  The block of a declaration does depend on the incoming `imports` (the marker
   "internal class as type" is decided by `imports.contains qname`), so the unrestricted statements are
   FALSE of the model (`block_depends_on_imports`, `functions_perm_counterexample`); the theorems carry
   the suffix `_partial`.  Side condition:
   * `r18_selfIns api st q` ("canonical import"): a reference to `q` from the module imports `q` under
     that very name.  Required of every import added by the run.
   For classes there is NO further side condition any more: the generics of a class are scoped to the
   class (`createClassString_restores_generics`: a class block ends with the `classGenerics` it started
   with), so a class without type parameters no longer sees the generics of the class generated before
   it; the former counterexample `[A<T>, B]` / `[B, A<T>]` is a positive example now.
-/
import StubGen.Proofs.Locality

namespace StubGen.C18

open StubGen List

/-! ### A. dependence on the API only through the lookups -/

/-- Successful runs are reproduced in every environment that answers the lookups in the same way and
    has at least as much fuel.  Hypotheses: same naming flag, same re-export map, the import lookup
    (`find?` of a path-connected class, only its id is used) agrees, every successful private-superclass
    lookup of `env` is reproduced by `env'`. -/
theorem callGenerator_congr (env env' : Env) (m : Module) (st : St)
    (hsafe : env'.safe = env.safe) (hrm : env'.api.reexportMap = env.api.reexportMap)
    (himp : ∀ path, r18_importLookup env'.api path = r18_importLookup env.api path)
    (hgc : ∀ q c, getClassInPackage env q = .ok c → getClassInPackage env' q = .ok c)
    (hfuel : classFuel env ≤ classFuel env') (r : (String × String) × St)
    (h : callGenerator env m st = .ok r) : callGenerator env' m st = .ok r := by
  obtain ⟨api, safe⟩ := env
  obtain ⟨api', safe'⟩ := env'
  dsimp only at hsafe hrm himp
  subst hsafe
  obtain ⟨r, s1⟩ := r
  obtain ⟨s1', h', rfl⟩ := (r18_eq_callGenerator (Out := fun _ => True) hrm
    (fun q _ => r18_resolve_of_lookup hrm himp q) hgc hfuel m).sim st st r s1 rfl h (fun _ _ => trivial)
  exact h'

/-- with equal fuel and lookups that agree in both directions: the same successful runs -/
theorem callGenerator_congr_iff (env env' : Env) (m : Module) (st : St)
    (hsafe : env'.safe = env.safe) (hrm : env'.api.reexportMap = env.api.reexportMap)
    (himp : ∀ path, r18_importLookup env'.api path = r18_importLookup env.api path)
    (hgc : ∀ q c, getClassInPackage env q = .ok c ↔ getClassInPackage env' q = .ok c)
    (hfuel : classFuel env = classFuel env') (r : (String × String) × St) :
    callGenerator env m st = .ok r ↔ callGenerator env' m st = .ok r :=
  ⟨callGenerator_congr env env' m st hsafe hrm himp (fun q c => (hgc q c).1) (Nat.le_of_eq hfuel) r,
   callGenerator_congr env' env m st hsafe.symm hrm.symm (fun p => (himp p).symm) (fun q c => (hgc q c).2)
    (Nat.le_of_eq hfuel.symm) r⟩

/-- fuel monotonicity: a class that is generated with fuel `n` is generated with the same result and
    final state with any larger fuel -/
theorem createClassString_fuel_mono (env : Env) (n k : Nat) (c : Class) (indent : String) (inRe : Bool) (st : St)
    (r : String × St) (h : createClassString env n c indent inRe st = .ok r) :
    createClassString env (n + k) c indent inRe st = .ok r := by
  obtain ⟨api, safe⟩ := env
  obtain ⟨t, s1⟩ := r
  obtain ⟨s1', h', rfl⟩ := (r18_createClassString_sim
    (r18_eq_primsC (Out := fun _ => True) (api := api) (api' := api) (safe := safe) (fun _ _ => rfl) (fun _ _ h => h))
    n (n + k) (Nat.le_add_right n k) c indent inRe).sim st st t s1 rfl h (fun _ _ => trivial)
  exact h'

theorem createInternalClassString_fuel_mono (env : Env) (n k : Nat) (sc inner : String) (ad : List String) (st : St)
    (r : String × St) (h : createInternalClassString env n sc inner ad st = .ok r) :
    createInternalClassString env (n + k) sc inner ad st = .ok r := by
  obtain ⟨api, safe⟩ := env
  obtain ⟨t, s1⟩ := r
  obtain ⟨s1', h', rfl⟩ := (r18_createInternalClassString_sim
    (r18_eq_primsC (Out := fun _ => True) (api := api) (api' := api) (safe := safe) (fun _ _ => rfl) (fun _ _ h => h))
    n (n + k) (Nat.le_add_right n k) sc inner ad).sim st st t s1 rfl h (fun _ _ => trivial)
  exact h'

/-- Adding classes at the end of the class table (and changing the module list in any way: the
    generator never reads `api.modules`) leaves the stub of `m` and the final state unchanged, provided
    * no new class is "path-connected" (`r18_connected`: the matching predicate of `_add_to_imports`) to
      a qualified name that the run recorded as outside the package — these are exactly the names whose
      lookup failed —, and
    * a new class has the exact id of a successfully looked-up private superclass only if an old class
      has it too (`r18_exactMatch`: the first matching predicate of `_get_class_in_package`). -/
theorem unrelated_module_added (api : API) (safe : Bool) (ms : List Module) (cs : List Class) (m : Module)
    (st : St) (r : String × String) (st1 : St)
    (hrun : callGenerator ⟨api, safe⟩ m st = .ok (r, st1))
    (himp : ∀ q ∈ st1.outside, ∀ c ∈ cs, r18_connected api q c = false)
    (hsup : ∀ q c, getClassInPackage ⟨api, safe⟩ q = .ok c → ∀ c' ∈ cs, r18_exactMatch q c' = true →
      ∃ c0 ∈ api.classes, r18_exactMatch q c0 = true) :
    callGenerator ⟨{ api with modules := ms, classes := api.classes ++ cs }, safe⟩ m st = .ok (r, st1) := by
  obtain ⟨s1', h', rfl⟩ := (r18_eq_callGenerator (Out := fun q => ∀ c ∈ cs, r18_connected api q c = false)
    (api := api) (api' := { api with modules := ms, classes := api.classes ++ cs }) (safe := safe) rfl
    (fun q hq => r18_resolve_append api ms cs q hq)
    (fun q c h => r18_getClass_append api ms cs safe q c (hsup q c h) h)
    (by unfold classFuel; dsimp only; rw [List.length_append]; omega) m).sim st st r st1 rfl hrun himp
  exact h'

/-- the special case of the task statement: one module appended -/
theorem unrelated_module_added' (api : API) (safe : Bool) (x : Module) (cs : List Class) (m : Module)
    (st : St) (r : String × String) (st1 : St)
    (hrun : callGenerator ⟨api, safe⟩ m st = .ok (r, st1))
    (himp : ∀ q ∈ st1.outside, ∀ c ∈ cs, r18_connected api q c = false)
    (hsup : ∀ q c, getClassInPackage ⟨api, safe⟩ q = .ok c → ∀ c' ∈ cs, r18_exactMatch q c' = true →
      ∃ c0 ∈ api.classes, r18_exactMatch q c0 = true) :
    callGenerator ⟨{ api with modules := api.modules ++ [x], classes := api.classes ++ cs }, safe⟩ m st
      = .ok (r, st1) :=
  unrelated_module_added api safe _ cs m st r st1 hrun himp hsup

/-- `api.modules` and `api.package` are never read -/
theorem modules_and_package_irrelevant (api : API) (safe : Bool) (ms : List Module) (pkg : String) (m : Module)
    (st : St) (r : (String × String) × St) :
    callGenerator ⟨api, safe⟩ m st = .ok r ↔
      callGenerator ⟨{ api with modules := ms, package := pkg }, safe⟩ m st = .ok r :=
  callGenerator_congr_iff ⟨api, safe⟩ ⟨{ api with modules := ms, package := pkg }, safe⟩ m st rfl rfl
    (fun _ => rfl) (fun _ _ => Iff.rfl) rfl r

/-! ### B. reordering declarations -/

/-- The text of one function block depends on the incoming state only through `todos`, `classGenerics`,
    the module ids — and, through the marker "internal class as type", through membership in `imports`
    of the NON-canonical names (`H`).  Its effect on `imports` and `outside` is to add fixed sets `I`, `O`;
    the module ids are kept, `classGenerics` too. -/
theorem functions_block_independent_partial (env : Env) (f : Function) (indent : String) (isMethod inRe : Bool)
    (st st' : St) (h1 : st.todos = st'.todos) (h2 : st.classGenerics = st'.classGenerics)
    (h3 : st.moduleId = st'.moduleId) (h4 : st.reexportModuleId = st'.reexportModuleId)
    (h5 : st.creatingReexport = st'.creatingReexport)
    (H : ∀ q, (q ∈ st.imports ↔ q ∈ st'.imports) ∨ r18_selfIns env.api st q)
    {text : String} {s1 : St} (hrun : createFunctionString env f indent isMethod inRe st = .ok (text, s1)) :
    ∃ s1', createFunctionString env f indent isMethod inRe st' = .ok (text, s1') ∧
      s1.todos = s1'.todos ∧ s1.classGenerics = st.classGenerics ∧ s1'.classGenerics = st'.classGenerics ∧
      s1.moduleId = st.moduleId ∧ s1.reexportModuleId = st.reexportModuleId ∧
      s1.creatingReexport = st.creatingReexport ∧
      s1'.moduleId = st'.moduleId ∧ s1'.reexportModuleId = st'.reexportModuleId ∧
      s1'.creatingReexport = st'.creatingReexport ∧
      ∃ I O : List String,
        (∀ q, q ∈ s1.imports ↔ q ∈ st.imports ∨ q ∈ I) ∧ (∀ q, q ∈ s1'.imports ↔ q ∈ st'.imports ∨ q ∈ I) ∧
        (∀ q, q ∈ s1.outside ↔ q ∈ st.outside ∨ q ∈ O) ∧ (∀ q, q ∈ s1'.outside ↔ q ∈ st'.outside ∨ q ∈ O) := by
  obtain ⟨api, safe⟩ := env
  obtain ⟨s1', h', hR⟩ := (r18_createFunctionString_sim (r18_rel_prims (fr := true) ⟨h3, h4, h5⟩ H)
    f indent isMethod inRe).sim st st' text s1 (r18_Rel.init h1 h2) hrun trivial
  exact ⟨s1', h', hR.todos, hR.cgb rfl, (hR.cg.symm.trans (hR.cgb rfl)).trans h2, hR.mid, hR.rmid, hR.cr,
    hR.mid', hR.rmid', hR.cr', hR.grow⟩

/-- pending markers are flushed: empty before ⇒ empty after -/
theorem function_block_flushes_todos (env : Env) (f : Function) (indent : String) (isMethod inRe : Bool)
    (st : St) (h0 : st.todos = []) {text : String} {s1 : St}
    (hrun : createFunctionString env f indent isMethod inRe st = .ok (text, s1)) : s1.todos = [] :=
  createFunctionString_keeps_mk env f indent isMethod inRe st h0 text s1 hrun

/-- Permuting the top-level functions: the text is the concatenation of the per-function blocks
    (`r18_functionBlock env inRe st f`: the block `f` gets when generated alone from `st`) in the order
    of the list; the permuted list yields the same blocks in its order, the same SETS of imports and
    outside classes, hence the same import block.  Side condition: every import added is canonical. -/
theorem functions_perm_partial (env : Env) (inRe : Bool) (st : St) (hst : st.todos = [])
    {fs fs' : List Function} (hp : fs ~ fs') {text : String} {st1 : St}
    (hrun : createFunctions env inRe fs st = .ok (text, st1))
    (hself : ∀ q ∈ st1.imports, q ∈ st.imports ∨ r18_selfIns env.api st q) :
    text = String.join (fs.map (r18_functionBlock env inRe st)) ∧
    ∃ st1', createFunctions env inRe fs' st = .ok (String.join (fs'.map (r18_functionBlock env inRe st)), st1') ∧
      (∀ q, q ∈ st1'.imports ↔ q ∈ st1.imports) ∧ (∀ q, q ∈ st1'.outside ↔ q ∈ st1.outside) ∧
      (st.imports.Nodup → st1.imports ~ st1'.imports ∧
        p08_importsText env.safe st1.imports = p08_importsText env.safe st1'.imports) := by
  obtain ⟨api, safe⟩ := env
  rw [r18_createFunctions_eq] at hrun
  obtain ⟨ht, s1', h', i, o, nd⟩ := r18_runList_perm (r18_fnStep_sim inRe) (r18_fnStep_keeps _ inRe) hst hp hrun hself
    (fun f _ t s h => r18_fnStep_cg inRe f st t s h)
  refine ⟨ht, s1', ?_, i, o, fun hnd => ⟨nd hnd, p08_importsText_perm safe (nd hnd)⟩⟩
  rw [r18_createFunctions_eq]
  exact h'

/-- The generics of a class are scoped to the class: every successful run of `createClassString` — moved
    to a re-export stub or not, with or without type parameters, inner classes, inlined private
    superclasses — ends with the `classGenerics` it started with. -/
theorem createClassString_restores_generics (env : Env) (fuel : Nat) (c : Class) (indent : String) (inRe : Bool)
    (st : St) {text : String} {st1 : St} (hrun : createClassString env fuel c indent inRe st = .ok (text, st1)) :
    st1.classGenerics = st.classGenerics :=
  r18_createClassString_restores_generics env fuel c indent inRe st text st1 hrun

/-- The same for the top-level classes, under the same side condition (every import added is canonical);
    that every class leaves `classGenerics` as it found them is a theorem now
    (`createClassString_restores_generics`), no hypothesis. -/
theorem classes_perm_partial (env : Env) (inRe : Bool) (st : St) (hst : st.todos = [])
    {cs cs' : List Class} (hp : cs ~ cs') {text : String} {st1 : St}
    (hrun : createClasses env inRe cs st = .ok (text, st1))
    (hself : ∀ q ∈ st1.imports, q ∈ st.imports ∨ r18_selfIns env.api st q) :
    text = String.join (cs.map (r18_classBlock env inRe st)) ∧
    ∃ st1', createClasses env inRe cs' st = .ok (String.join (cs'.map (r18_classBlock env inRe st)), st1') ∧
      (∀ q, q ∈ st1'.imports ↔ q ∈ st1.imports) ∧ (∀ q, q ∈ st1'.outside ↔ q ∈ st1.outside) ∧
      (st.imports.Nodup → st1.imports ~ st1'.imports ∧
        p08_importsText env.safe st1.imports = p08_importsText env.safe st1'.imports) := by
  obtain ⟨api, safe⟩ := env
  rw [r18_createClasses_eq] at hrun
  obtain ⟨ht, s1', h', i, o, nd⟩ := r18_runList_perm (r18_clsStep_sim inRe) (r18_clsStep_keeps _ inRe) hst hp hrun hself
    (fun c _ t s h => r18_clsStep_cg _ inRe c st t s h)
  refine ⟨ht, s1', ?_, i, o, fun hnd => ⟨nd hnd, p08_importsText_perm safe (nd hnd)⟩⟩
  rw [r18_createClasses_eq]
  exact h'

/-- Reordering the top-level functions and classes of a module: the stub consists of the same
    documentation comment and header, the same import block, the per-declaration blocks `fb f`, `cb c` in
    the order of the lists, and the same enum part.  Side condition: every import of the stub is
    canonical w.r.t. the state in which `callGenerator` starts the module (`r18_modStart`). -/
theorem module_reorder_partial (env : Env) (m : Module) (fs' : List Function) (cs' : List Class)
    (hpf : m.functions ~ fs') (hpc : m.classes ~ cs') (st : St) (text pkg : String) (st1 : St)
    (hrun : callGenerator env m st = .ok ((text, pkg), st1))
    (hself : ∀ q ∈ st1.imports, r18_selfIns env.api (r18_modStart m.id st) q) :
    ∃ (fb : Function → String) (cb : Class → String) (st1' : St),
      text = moduleDoc m ++ packageHeader env pkg ++ p08_importsText env.safe st1.imports
        ++ String.join (m.functions.map fb) ++ String.join (m.classes.map cb) ++ r18_enumsText env m ∧
      callGenerator env { m with functions := fs', classes := cs' } st =
        .ok ((moduleDoc m ++ packageHeader env pkg ++ p08_importsText env.safe st1.imports
          ++ String.join (fs'.map fb) ++ String.join (cs'.map cb) ++ r18_enumsText env m, pkg), st1') := by
  obtain ⟨api, safe⟩ := env
  rw [r18_callGenerator_ok, r18_createModuleString_ok] at hrun
  obtain ⟨t1, sa, h1, t2, sb, h2, hr⟩ := hrun
  simp only [Prod.mk.injEq] at hr
  obtain ⟨⟨rfl, rfl⟩, rfl⟩ := hr
  dsimp only at hself ⊢
  generalize hs0 : r18_modStart m.id st = s0 at h1 hself
  have e0t : s0.todos = [] := by rw [← hs0]; rfl
  have e0i : s0.imports = [] := by rw [← hs0]; rfl
  generalize hinre : r18_inRe ⟨api, safe⟩ m = inRe at h1 h2
  rw [r18_createFunctions_eq] at h1
  rw [r18_createClasses_eq] at h2
  have fF := r18_runList_frame (r18_fnStep_sim (api := api) (safe := safe) inRe) _ _ _ _ h1
  have fC := r18_runList_frame (r18_clsStep_sim (api := api) (safe := safe) inRe) _ _ _ _ h2
  have monoC := r18_runList_mono (r18_clsStep_sim (api := api) (safe := safe) inRe) _ _ _ _ h2
  have sat : sa.todos = [] := by
    have := createFunctions_keeps ⟨api, safe⟩ inRe m.functions s0 e0t
    rw [r18_createFunctions_eq] at this
    exact this _ _ h1
  have s0nd : s0.imports.Nodup := by rw [e0i]; exact List.nodup_nil
  -- the functions
  obtain ⟨ht1, sa', h1', i1, _, nd1⟩ := r18_runList_perm (r18_fnStep_sim inRe) (r18_fnStep_keeps _ inRe) e0t hpf h1
    (fun q hq => Or.inr (hself q (monoC.1 q hq))) (fun f _ t s h => r18_fnStep_cg inRe f s0 t s h)
  have fF' := r18_runList_frame (r18_fnStep_sim (api := api) (safe := safe) inRe) _ _ _ _ h1'
  have sat' : sa'.todos = [] := by
    have := createFunctions_keeps ⟨api, safe⟩ inRe fs' s0 e0t
    rw [r18_createFunctions_eq] at this
    exact this _ _ h1'
  -- the classes, from `sa`
  obtain ⟨ht2, sb2, h2', i2, _, nd2⟩ := r18_runList_perm (r18_clsStep_sim inRe) (r18_clsStep_keeps _ inRe) sat hpc h2
    (fun q hq => Or.inr ((r18_selfIns_congr api fF.1 fF.2.1 fF.2.2.1 q).2 (hself q hq)))
    (fun c _ t s h => r18_clsStep_cg _ inRe c sa t s h)
  -- the classes, from `sa'`
  have hb : r18_Base sa sa' := ⟨fF.1.trans fF'.1.symm, fF.2.1.trans fF'.2.1.symm, fF.2.2.1.trans fF'.2.2.1.symm⟩
  obtain ⟨sb', h2'', hR⟩ := (r18_runList_sim (r18_clsStep_sim (api := api) (safe := safe) inRe sa sa' hb
    (fun q => Or.inl (i1 q).symm)) cs').sim sa sa' _ sb2
    (r18_Rel.init (sat.trans sat'.symm) ((fF.2.2.2.1 rfl).trans (fF'.2.2.2.1 rfl).symm)) h2' trivial
  have hperm : sb.imports ~ sb'.imports := by
    have nda : sa.imports.Nodup := fF.2.2.2.2 s0nd
    have nda' : sa'.imports.Nodup := ((nd1 s0nd).nodup_iff).1 nda
    have p1 : sb.imports ~ sb2.imports := nd2 nda
    refine p1.trans ((List.perm_ext_iff_of_nodup (p1.nodup_iff.1 (fC.2.2.2.2 nda)) (hR.nodup' nda')).2 ?_)
    obtain ⟨I, O, g1, g2, _, _⟩ := hR.grow
    intro q
    rw [g1, g2, i1]
  refine ⟨r18_blk (r18_fnStep ⟨api, safe⟩ inRe) s0, r18_blk (r18_clsStep ⟨api, safe⟩ inRe) sa,
    { sb' with log := sb'.log ++ m.enums.map fun e => ("enum", e.id) }, ?_, ?_⟩
  · rw [ht1, ht2]
  · rw [r18_callGenerator_ok, r18_createModuleString_ok]
    refine ⟨String.join (fs'.map (r18_blk (r18_fnStep ⟨api, safe⟩ inRe) s0)), sa', ?_,
      String.join (cs'.map (r18_blk (r18_clsStep ⟨api, safe⟩ inRe) sa)), sb', ?_, ?_⟩
    · show createFunctions ⟨api, safe⟩ (r18_inRe ⟨api, safe⟩ m) fs' (r18_modStart m.id st) = _
      rw [hinre, hs0, r18_createFunctions_eq]
      exact h1'
    · show createClasses ⟨api, safe⟩ (r18_inRe ⟨api, safe⟩ m) cs' sa' = _
      rw [hinre, r18_createClasses_eq]
      exact h2''
    · rw [p08_importsText_perm safe hperm]
      rfl

/-! ### counterexamples and non-vacuity (closed values, `decide +kernel`) -/

private def mkP (t : AType) : Parameter :=
  { id := "p", name := "x", isOptional := false, default := .none, assignedBy := .positionOrName, type := some t }
private def mkF (n : String) (t : AType) : Function :=
  { id := "pkg/m/" ++ n, name := n, isPublic := true, params := [mkP t],
    results := [{ id := "r", name := "result_1", type := some (.named "None" "builtins.None") }] }
private def modM (fs : List Function) (cs : List Class := []) : Module :=
  { id := "pkg/m", name := "m", functions := fs, classes := cs }
private def modText (r : Except PyErr ((String × String) × St)) : String :=
  match r with
  | .ok ((t, _), _) => t
  | .error _ => "<error>"
/-- the side condition "every import added is canonical", as a check on a finished run -/
private def canonicalOk {α : Type} (api : API) (st : St) (r : Except PyErr (α × St)) : Bool :=
  match r with
  | .ok (_, s1) => s1.imports.all fun q => st.imports.contains q || decide (r18_selfIns api st q)
  | .error _ => false

private def stM : St := { moduleId := "pkg/m" }
private def env0 : Env := ⟨{}, true⟩
/-- a function of module `pkg/m` whose parameter has the private class `pkg.m._C` of the same module as type -/
private def fOwn : Function := mkF "f" (.named "_C" "pkg.m._C")

/-- COUNTEREXAMPLE to the unrestricted `functions_block_independent`: the block depends on the incoming
    `imports` — the same function, the same module ids, no pending markers; the marker is printed iff
    `pkg.m._C` is not already imported. -/
example :
    r18_textOf (createFunctionString env0 fOwn "" false false stM)
      = "// TODO An internal class must not be used as a type in a public class.\n@Pure\nfun f(\n    x: _C\n)"
    ∧ r18_textOf (createFunctionString env0 fOwn "" false false { stM with imports := ["pkg.m._C"] })
      = "@Pure\nfun f(\n    x: _C\n)" := by decide +kernel

/-- an API in which the module `pkg/m` itself re-exports the private class `pkg.other._C`: a reference to
    `pkg.other._C` is imported as `pkg.m._C` -/
private def apiR : API :=
  { classes := [{ id := "pkg/other/_C", name := "_C", isPublic := false }],
    reexportMap := [("pkg.other._C", [{ id := "pkg/m", qualifiedImports := [⟨"pkg.other._C", none⟩] }])] }
private def fOther : Function := mkF "g" (.named "_C" "pkg.other._C")

/-- COUNTEREXAMPLE to the unrestricted `functions_perm` (`functions_perm_counterexample`): after `g`
    the set of imports contains `pkg.m._C`, which silences the marker of `f`; in the other order `f`
    keeps its marker.  The import `pkg.m._C` is not canonical. -/
example :
    r18_textOf (createFunctions ⟨apiR, true⟩ false [fOther, fOwn] stM)
      = "\n// TODO An internal class must not be used as a type in a public class.\n@Pure\nfun g(\n    x: _C\n)\n"
        ++ "\n@Pure\nfun f(\n    x: _C\n)\n"
    ∧ r18_textOf (createFunctions ⟨apiR, true⟩ false [fOwn, fOther] stM)
      = "\n// TODO An internal class must not be used as a type in a public class.\n@Pure\nfun f(\n    x: _C\n)\n"
        ++ "\n// TODO An internal class must not be used as a type in a public class.\n@Pure\nfun g(\n    x: _C\n)\n"
    ∧ canonicalOk apiR stM (createFunctions ⟨apiR, true⟩ false [fOther, fOwn] stM) = false := by decide +kernel

private def clsA : Class :=
  { id := "pkg/m/A", name := "A", isPublic := true,
    typeParams := [{ name := "T", type := none, variance := .invariant }] }
private def clsB : Class :=
  { id := "pkg/m/B", name := "B", isPublic := true,
    methods := [{ (mkF "h" (.typeVar "T")) with
      typeVars := [{ name := "T", upperBound := none }],
      params := [{ id := "s", name := "self", isOptional := false, default := .none, assignedBy := .implicit,
                   type := none }, mkP (.typeVar "T")] }] }

/-- FORMERLY the counterexample to the unrestricted `classes_perm`: `classGenerics` was not reset for a
    class without type parameters, so the method `h<T>` of `B` lost its type parameter when `B` came after
    the generic class `A<T>`.  Now the generics of `A` are scoped to `A`: `B.h` prints `fun h<T>(` in BOTH
    orders, the blocks are permuted, and both runs end with the `classGenerics` they started with; the
    side condition of `classes_perm_partial` holds (nothing is imported). -/
example :
    r18_textOf (createClasses env0 false [clsA, clsB] stM)
      = "\nclass A<T>()\n" ++ "\nclass B() {\n    @Pure\n    fun h<T>(\n        x: T\n    )\n}\n"
    ∧ r18_textOf (createClasses env0 false [clsB, clsA] stM)
      = "\nclass B() {\n    @Pure\n    fun h<T>(\n        x: T\n    )\n}\n" ++ "\nclass A<T>()\n"
    ∧ r18_classBlock env0 false stM clsB = "\nclass B() {\n    @Pure\n    fun h<T>(\n        x: T\n    )\n}\n"
    ∧ (match createClasses env0 false [clsA, clsB] stM with
        | .ok (_, s1) => s1.classGenerics == stM.classGenerics
        | .error _ => false) = true
    ∧ canonicalOk ({} : API) stM (createClasses env0 false [clsA, clsB] stM) = true := by
  decide +kernel

/-- … and nested: the inner generic class `A<T>` of `Outer<U>` puts the generics of `Outer` back, so the
    method `k<T>` of `Outer` after it still prints its own type parameter `T` (but not `U`) -/
private def clsOuter : Class :=
  { id := "pkg/m/Outer", name := "Outer", isPublic := true,
    typeParams := [{ name := "U", type := none, variance := .invariant }],
    classes := [clsA],
    methods := [{ (mkF "k" (.typeVar "T")) with
      typeVars := [{ name := "T", upperBound := none }, { name := "U", upperBound := none }],
      params := [{ id := "s", name := "self", isOptional := false, default := .none, assignedBy := .implicit,
                   type := none }, mkP (.typeVar "T")] }] }

example :
    r18_textOf (createClassString env0 3 clsOuter "" true { stM with classGenerics := ["X"] })
      = "class Outer<U>() {\n    class A<T>()\n\n    @Pure\n    fun k<T>(\n        x: T\n    )\n}"
    ∧ (match createClassString env0 3 clsOuter "" true { stM with classGenerics := ["X"] } with
        | .ok (_, s1) => s1.classGenerics == ["X"]
        | .error _ => false) = true := by
  decide +kernel

/-! #### an unrelated module, and a module that is not unrelated -/

private def clsD : Class := { id := "pkg/other/D", name := "D", isPublic := true }
private def modOther : Module := { id := "pkg/other", name := "other", classes := [clsD] }
/-- `f` and `g` of `pkg/m` reference the class `D` of `pkg/other`; `k` references `Foo` of a library `lib` -/
private def fD : Function := mkF "f" (.named "D" "pkg.other.D")
private def gD : Function := mkF "g" (.list [.named "D" "pkg.other.D"])
private def kExt : Function := mkF "k" (.named "Foo" "lib.Foo")
private def api1 : API := { package := "pkg", modules := [modM [fD, gD, kExt], modOther], classes := [clsD] }
private def clsE : Class := { id := "pkg/extra/E", name := "E", isPublic := true }
private def modExtra : Module := { id := "pkg/extra", name := "extra", classes := [clsE] }
/-- `api1` plus the unrelated module `pkg/extra` -/
private def api2 : API := { api1 with modules := api1.modules ++ [modExtra], classes := api1.classes ++ [clsE] }
private def clsFoo : Class := { id := "pkg/sub/lib/Foo", name := "Foo", isPublic := true }
private def modLib : Module := { id := "pkg/sub/lib", name := "lib", classes := [clsFoo] }
/-- `api1` plus a module `pkg/sub/lib` that defines a class with the SAME NAME `Foo` as the library class -/
private def api3 : API := { api1 with modules := api1.modules ++ [modLib], classes := api1.classes ++ [clsFoo] }

/-- the stub of `pkg/m`, with and without the unrelated module: identical; the side conditions of
    `unrelated_module_added` hold (the only outside class is `lib.Foo`, `E` is not connected to it) -/
example :
    modText (callGenerator ⟨api1, true⟩ (modM [fD, gD, kExt]) {})
      = "package pkg.m\n\nfrom lib import Foo\nfrom pkg.other import D\n"
        ++ "\n@Pure\nfun f(\n    x: D\n)\n" ++ "\n@Pure\nfun g(\n    x: List<D>\n)\n" ++ "\n@Pure\nfun k(\n    x: Foo\n)\n"
    ∧ modText (callGenerator ⟨api2, true⟩ (modM [fD, gD, kExt]) {})
      = modText (callGenerator ⟨api1, true⟩ (modM [fD, gD, kExt]) {})
    ∧ (match callGenerator ⟨api1, true⟩ (modM [fD, gD, kExt]) {} with
        | .ok (_, s1) => s1.outside == ["lib.Foo"] && r18_connected api1 "lib.Foo" clsE == false
        | .error _ => false) = true := by decide +kernel

/-- COUNTEREXAMPLE showing that the side condition of `unrelated_module_added` is necessary
    (`same_name_class_changes_import`): the added module defines a class whose id ends with `lib/Foo`; the
    lookup of `_add_to_imports` now finds it, and the import line of `pkg/m` changes. -/
example :
    modText (callGenerator ⟨api3, true⟩ (modM [fD, gD, kExt]) {})
      = "package pkg.m\n\nfrom pkg.`sub`.lib import Foo\nfrom pkg.other import D\n"
        ++ "\n@Pure\nfun f(\n    x: D\n)\n" ++ "\n@Pure\nfun g(\n    x: List<D>\n)\n" ++ "\n@Pure\nfun k(\n    x: Foo\n)\n"
    ∧ r18_connected api1 "lib.Foo" clsFoo = true := by decide +kernel

/-- the two functions in both orders: same header, same import block, permuted blocks; the side condition
    of `functions_perm_partial` holds (both imports are canonical) -/
example :
    modText (callGenerator ⟨api1, true⟩ (modM [gD, fD]) {})
      = "package pkg.m\n\nfrom pkg.other import D\n" ++ "\n@Pure\nfun g(\n    x: List<D>\n)\n" ++ "\n@Pure\nfun f(\n    x: D\n)\n"
    ∧ modText (callGenerator ⟨api1, true⟩ (modM [fD, gD]) {})
      = "package pkg.m\n\nfrom pkg.other import D\n" ++ "\n@Pure\nfun f(\n    x: D\n)\n" ++ "\n@Pure\nfun g(\n    x: List<D>\n)\n"
    ∧ canonicalOk api1 stM (createFunctions ⟨api1, true⟩ false [fD, gD, kExt] stM) = true
    ∧ r18_functionBlock ⟨api1, true⟩ false stM gD = "\n@Pure\nfun g(\n    x: List<D>\n)\n" := by decide +kernel

/-- the side conditions of `module_reorder_partial` hold for the module `pkg/m` of `api1` (all imports are
    canonical; there are no classes) -/
example :
    (match callGenerator ⟨api1, true⟩ (modM [fD, gD, kExt]) {} with
      | .ok (_, s1) => s1.imports == ["pkg.other.D", "lib.Foo"]
          && s1.imports.all fun q => decide (r18_selfIns api1 (r18_modStart "pkg/m" {}) q)
      | .error _ => false) = true := by decide +kernel

end StubGen.C18
