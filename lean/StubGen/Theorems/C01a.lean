/-
C01, analyser half — "Every analysable package is processed to completion": the visitor never trips over its own guards.

`_ast_visitor.py` keeps a stack of the declarations it is inside of and protects it with `assert`s and
"unexpected parent" `AssertionError`s (eight sites; the site inventory T3 lists them).  The theorems here say that none of
them can fire, for EVERY package: they are statements about the walk over an arbitrary list of modules with arbitrary
definitions, nested to any depth.  (Helper lemmas: `Proofs/StackDiscipline.lean`.)  The other errors of the analysis
(`ValueError`, `TypeError`, `AttributeError`, `IndexError` on the inputs DESIGN §4/C01 lists) are not excluded here.
-/
import StubGen.Proofs.StackDiscipline
import StubGen.Model.Pipeline

namespace StubGen.C01a

open StubGen

/-- every `enter_*` raises no `AssertionError` and pushes exactly one frame, of its own kind, whatever the stack is -/
theorem enter_pushes_one_frame (env : AEnv) :
    (∀ f, sd_Push (fun _ => True) .fn (enterFuncdef env f)) ∧
    (∀ a, sd_Push (fun _ => True) .assigns (enterAssignment env a)) ∧
    (∀ n fq bases removed defs, sd_Push (fun _ => True) .cls (enterClassdef env n fq bases removed defs)) ∧
    (∀ n fq defs, sd_Push (fun _ => True) .enum (enterEnumdef env n fq defs)) ∧
    (∀ m, sd_Push (fun _ => True) .module (enterModuledef m)) :=
  ⟨fun f => sd_enterFuncdef env f, fun a => sd_enterAssignment env a,
   fun n fq b r d => sd_enterClassdef env n fq b r d, fun n fq d => sd_enterEnumdef env n fq d,
   fun m => sd_enterModuledef m⟩

/-- every `leave_*`, called with the frame of its kind on top (an assignment frame: on top of a class, a function or an
    enum), raises no `AssertionError`, pops that frame and keeps the kinds of the frames below -/
theorem leave_pops_its_frame :
    sd_Pop sd_TopFn leaveFuncdef ∧ sd_Pop sd_TopAssign leaveAssignment ∧ sd_Pop sd_TopCls leaveClassdef ∧
    sd_Pop sd_TopEnum leaveEnumdef ∧ sd_Pop sd_TopModule leaveModuledef :=
  ⟨sd_leaveFuncdef, sd_leaveAssignment, sd_leaveClassdef, sd_leaveEnumdef, sd_leaveModuledef⟩

/-- `_create_attribute` is only guarded by "the parent is a class, or the constructor of a class"; under that guard it
    raises no `AssertionError` and leaves the stack alone -/
theorem create_attribute_guard (env : AEnv) (isMember : Bool) (name fullname : String) (isVar : Bool)
    (var : Option VarInfo) (un : Option MType) (isStatic : Bool) :
    sd_Q sd_AttrCtx (createAttributeV env isMember name fullname isVar var un isStatic) :=
  sd_createAttributeV env isMember name fullname isVar var un isStatic

/-- THE WALK IS BALANCED: run from any state, the walk over any list of modules (definitions nested to any depth)
    raises no `AssertionError`, and when it completes the declaration stack has the kinds it started with -/
theorem walk_balanced (env : AEnv) (ms : List SrcModule) (h : ∀ m ∈ ms, sd_noNoneL m.defs = true) (s : VSt) :
    match walkModules env ms s with
    | .error e => e ≠ PyErr.assertionError
    | .ok (_, t) => sd_shape t.stack = sd_shape s.stack := by
  have h1 := (sd_walkModules env (P := fun _ => True) ms h).run s trivial
  revert h1
  cases walkModules env ms s <;> exact id

/-- … in particular the analysis of a package never ends in an `AssertionError` -/
theorem analysis_never_asserts (env : AEnv) (docRoot : GNode) (ms : List SrcModule)
    (h : ∀ m ∈ ms, sd_noNoneL m.defs = true) :
    analyze env docRoot ms ≠ .error .assertionError := by
  unfold analyze
  have := (sd_walkModules env (P := fun _ => True) ms h).run
    { doc := { root := docRoot, style := env.opts.style } } trivial
  revert this
  dsimp only [StateT.run]
  cases walkModules env ms { doc := { root := docRoot, style := env.opts.style } } with
  | error e => intro h1 h2; injection h2 with h2; exact h1 h2
  | ok r => intro _ h2; cases h2

/-- … and when it completes, the stack is empty again: every declaration that was entered has been left and recorded -/
theorem analysis_leaves_empty_stack (env : AEnv) (docRoot : GNode) (ms : List SrcModule)
    (h : ∀ m ∈ ms, sd_noNoneL m.defs = true) (t : VSt)
    (ht : walkModules env ms { doc := { root := docRoot, style := env.opts.style } } = .ok ((), t)) :
    t.stack = [] := by
  have := walk_balanced env ms h { doc := { root := docRoot, style := env.opts.style } }
  rw [ht] at this
  simpa [sd_shape] using this

/-- `get_api` as a whole (discovery, alias table, walk): no `AssertionError` for any directory listing, mypy graph,
    expression-type dict and docstring tree -/
theorem get_api_never_asserts (i : ToolInput) (h : ∀ m ∈ i.graph, sd_noNoneL m.defs = true) :
    getApi i ≠ .error .assertionError := by
  unfold getApi
  cases hd : discoverSorted i.srcDir i.files i.isTestRun with
  | error e =>
    intro he
    injection he with he
    subst he
    unfold discoverSorted discoverFrom discover at hd
    dsimp only at hd
    split at hd
    · rename_i e' h'
      split at h' <;> cases h'
      cases hd
    · cases hd
  | ok r =>
    obtain ⟨root, d⟩ := r
    dsimp only
    have hsel : ∀ m ∈ selectModules i.graph d, sd_noNoneL m.defs = true := by
      intro m hm
      unfold selectModules at hm
      rcases List.mem_append.mp hm with hm | hm
      · exact h m (List.mem_filter.mp hm).1
      · exact h m (List.mem_filter.mp hm).1
    have := analysis_never_asserts
      { opts := i.opts, aliases := getAliases (pathStem root) i.aliasFacts, infoBases := i.infoBases } i.docRoot _ hsel
    revert this
    cases analyze { opts := i.opts, aliases := getAliases (pathStem root) i.aliasFacts, infoBases := i.infoBases } i.docRoot
        (selectModules i.graph d) with
    | error e => intro h1 h2; injection h2 with h2; exact h1 (by rw [h2])
    | ok r => intro _ h2; cases h2

/-! Non-vacuity and sharpness. -/

/-- definitions as they come out of mypy satisfy the hypothesis: a class with a method, an overload with implementation,
    a nested class -/
example : sd_noNoneL [.cls "A" "m.A" [] [] [.other "PassStmt", .cls "B" "m.A.B" [] [] []], .docExpr "d" "d"] = true := by
  decide +kernel

/-- the hypothesis is needed: the model's stand-in for an `OverloadedFuncDef` without items (a node `None`) trips the
    walker's "Node visited twice" guard the second time -/
theorem none_twice_asserts :
    (do walkNone; walkNone : V Unit) { doc := { root := { name := "m" }, style := .numpy } } = .error .assertionError := rfl

end StubGen.C01a
