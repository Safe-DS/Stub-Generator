/-
C05 — the Safe-DS type text written by the generator (`typeStr`, model of `_create_type_string`) is
the image of the API type under the documented structural mapping `Spec.typeText`, at every nesting
depth and independently of the generator state, the API and the position; rendering never raises on
renderable types and only adds TODO keys / imports.  Proof machinery: `StubGen.Proofs.TypeText`.

Two hypotheses are new since the model followed the generator fixes (see (0) and (2) below):
`tt_litOk` (the text is `Spec.typeText` unless a union of exactly one `Literal[…]` and `None` repeats a
literal value — there the specification deduplicates and the generator does not) and
`tt_seqImportable` (totality needs a qualified name on generic classes with arguments, which are now
imported).  Unconditionally the text is `tt_typeText`.
-/
import StubGen.Proofs.TypeText

namespace StubGen.C05

open StubGen

/-! ### (0) the one place where generator and `Spec.typeText` part

Since the literal members of a union are deduplicated, `Spec.typeText` deduplicates the literal values
in *both* literal shortcuts of the union case; the generator does so only where several `Literal[…]`
members are merged.  For a union of exactly one `Literal[…]` and `None` it prints the values as they
are.  `tt_litOk t` (defined in `Proofs/TypeText.lean`) says that no such union with repeated literal
values occurs in `t`; `tt_typeText` is `Spec.typeText` with the generator's behaviour at that place. -/

private def tLitDup : AType := .union [.literal [.int 1, .int 1], .named "None" "builtins.None"]

/-- counterexample to `typeStr_text` without the hypothesis `tt_litOk`: a renderable type on which
    the generator and `Spec.typeText` differ -/
example : (match typeStr ⟨{}, true⟩ tLitDup {} with
    | .ok (s, _) => some s
    | .error _ => none) = some "literal<1, 1, null>" := by decide +kernel
example : Spec.typeText true tLitDup = "literal<1, null>" := by decide +kernel
example : Spec.renderable tLitDup = true ∧ tt_litOk tLitDup = false := by decide +kernel
example : tt_typeText true tLitDup = "literal<1, 1, null>" := by decide +kernel
/-- a lone `Literal[1, 1]` is not deduplicated by either side -/
example : Spec.typeText true (.literal [.int 1, .int 1]) = "literal<1, 1>" ∧
    tt_litOk (.literal [.int 1, .int 1]) = true := by decide +kernel

/-- `tt_litOk` on a union, spelled out: if the union consists of exactly one literal member and `None`,
    the literal's values are pairwise distinct; and all members are `tt_litOk` -/
theorem litOk_union (ts : List AType) :
    tt_litOk (.union ts) = true ↔
      ((ts.length == 2 && (ts.filter Spec.isLit).length == 1 && ts.any Spec.isNoneType) = true →
        Spec.dedupLit ((ts.filter Spec.isLit).flatMap Spec.litsOf) = (ts.filter Spec.isLit).flatMap Spec.litsOf) ∧
      tt_litOkL ts = true := by
  rw [tt_litOk, Bool.and_eq_true, Bool.or_eq_true, Bool.not_eq_true', decide_eq_true_eq]
  cases (ts.length == 2 && (ts.filter Spec.isLit).length == 1 && ts.any Spec.isNoneType) <;> simp

/-- sufficient: every `Literal[…]` in the type lists pairwise distinct values -/
theorem litOk_of_distinct_literals (t : AType) (h : tt_litNodup t = true) : tt_litOk t = true :=
  tt_litOk_of_litNodup t h

/-- on `tt_litOk` types the two texts agree -/
theorem typeText_model_eq (safe : Bool) (t : AType) (hl : tt_litOk t = true) :
    tt_typeText safe t = Spec.typeText safe t :=
  tt_typeText_eq safe t hl

/-- (1) compositional and position-independent: whenever the generator renders a type, the text is
    `tt_typeText` of the type and the naming flag — for every state, API and call site … -/
theorem typeStr_text_model (env : Env) (t : AType) (st st' : St) (s : String)
    (h : typeStr env t st = .ok (s, st')) : s = tt_typeText env.safe t :=
  (tt_typeStr_gpost env t st s st' h).1

/-- … which is `Spec.typeText` unless a one-literal-and-`None` union repeats a literal value
    (statement changed: hypothesis `hl` is new, see the counterexample above). -/
theorem typeStr_text (env : Env) (t : AType) (st st' : St) (s : String)
    (h : typeStr env t st = .ok (s, st')) (hl : tt_litOk t = true) : s = Spec.typeText env.safe t :=
  (typeStr_text_model env t st st' s h).trans (tt_typeText_eq env.safe t hl)

theorem typeStrs_text (env : Env) (ts : List AType) (st st' : St) (r : List String)
    (h : typeStrs env ts st = .ok (r, st')) (hl : tt_litOkL ts = true) : r = Spec.typeTexts env.safe ts :=
  (tt_typeStrs_gpost env ts st r st' h).1.trans (tt_typeTexts_eq env.safe ts hl)

theorem typeStrsSkipLit_text (env : Env) (ts : List AType) (st st' : St) (r : List String)
    (h : typeStrsSkipLit env ts st = .ok (r, st')) (hl : tt_litOkL ts = true) :
    r = Spec.nonLitTexts env.safe ts :=
  (tt_typeStrsSkipLit_gpost env ts st r st' h).1.trans (tt_nonLitTexts_eq env.safe ts hl)

theorem typeStrsNamed_text (env : Env) (pre : String) (i : Nat) (ts : List AType) (st st' : St)
    (r : List String) (h : typeStrsNamed env pre i ts st = .ok (r, st')) (hl : tt_litOkL ts = true) :
    r = Spec.namedTexts env.safe pre i ts :=
  (tt_typeStrsNamed_gpost env ts pre i st r st' h).1.trans (tt_namedTexts_eq env.safe ts hl pre i)

/-- position independence, spelled out: two successful renderings of the same type under the same
    naming flag agree, whatever the APIs, states and modules involved. -/
theorem typeStr_position_independent (env env' : Env) (t : AType) (st st' st1 st1' : St) (s s' : String)
    (hsafe : env.safe = env'.safe)
    (h : typeStr env t st = .ok (s, st1)) (h' : typeStr env' t st' = .ok (s', st1')) : s = s' := by
  rw [typeStr_text_model env t st st1 s h, typeStr_text_model env' t st' st1' s' h', hsafe]

/-- (2) the `ValueError("Unexpected type")`, `IndexError` and `ValueError` (no import source) branches
    are unreachable on renderable types all of whose generic classes with type arguments have a
    qualified name.  (Statement changed: `hq` is new.  The generator now imports the class of a
    `namedSeq`, and `_add_to_imports("")` raises; `Spec.renderable` does not ask for a qualified name
    there, see the example `namedSeq "C" "" [int]` below.) -/
theorem typeStr_total (env : Env) (st : St) (t : AType) (hr : Spec.renderable t = true)
    (hq : tt_seqImportable t = true) : ∃ s st', typeStr env t st = .ok (s, st') :=
  Tot.of_noRaise (typeStr_noRaise env t hr hq) st

/-- (1)+(2): on such types the generator writes exactly the text `tt_typeText` … -/
theorem typeStr_renders_model (env : Env) (st : St) (t : AType) (hr : Spec.renderable t = true)
    (hq : tt_seqImportable t = true) : ∃ st', typeStr env t st = .ok (tt_typeText env.safe t, st') := by
  obtain ⟨s, st', h⟩ := typeStr_total env st t hr hq
  exact ⟨st', by rw [← typeStr_text_model env t st st' s h]; exact h⟩

/-- … that is, the specified text (on `tt_litOk` types). -/
theorem typeStr_renders_spec (env : Env) (st : St) (t : AType) (hr : Spec.renderable t = true)
    (hq : tt_seqImportable t = true) (hl : tt_litOk t = true) :
    ∃ st', typeStr env t st = .ok (Spec.typeText env.safe t, st') := by
  obtain ⟨s, st', h⟩ := typeStr_total env st t hr hq
  exact ⟨st', by rw [← typeStr_text env t st st' s h hl]; exact h⟩

/-- (5) rendering a type only adds TODO keys, imports and outside-package classes; the emission log,
    the queued reexports, the class generics and the module ids are untouched. -/
theorem todos_imports_only_grow (env : Env) (t : AType) (st st' : St) (s : String)
    (h : typeStr env t st = .ok (s, st')) :
    st.todos ⊆ st'.todos ∧ st.imports ⊆ st'.imports ∧ st.outside ⊆ st'.outside ∧
    st'.log = st.log ∧ st'.reexports = st.reexports ∧ st'.classGenerics = st.classGenerics ∧
    st'.moduleId = st.moduleId ∧ st'.reexportModuleId = st.reexportModuleId ∧
    st'.creatingReexport = st.creatingReexport :=
  have g := (tt_typeStr_gpost env t st s st' h).2
  ⟨g.todos, g.imports, g.outside, g.log, g.reexports, g.classGenerics, g.moduleId,
   g.reexportModuleId, g.creatingReexport⟩

/-! ### (3) union normalisation, stated on `Spec.unionText` (and hence on the generator by (1)) -/

/-- the member list that `Spec.unionText` prints inside `union<…>` (`unionMembers`, defined in
    `Proofs/TypeText.lean`) is literally the list computed by the function -/
theorem unionMembers_def (members : List String) :
    unionMembers members =
      if (sortStrings (Spec.dedup members)).contains "Nothing?" then
        (sortStrings (Spec.dedup members)).filter (· != "Nothing?") ++ ["Nothing?"]
      else sortStrings (Spec.dedup members) := rfl

/-- complete case analysis of the result: empty, the single member, the `T?` shorthand, or
    `union<…>` over `unionMembers` — decided by the *set* of members and the flag alone. -/
theorem union_shape (members : List String) (b : Bool) :
    (members = [] ∧ Spec.unionText members b = "") ∨
    (∃ m, members ≠ [] ∧ (∀ x ∈ members, x = m) ∧ Spec.unionText members b = m) ∨
    (∃ x, x ≠ "Nothing?" ∧ (∀ m, m ∈ members ↔ m = x ∨ m = "Nothing?") ∧ b = true ∧
      Spec.unionText members b = x ++ "?") ∨
    (2 ≤ (unionMembers members).length ∧
      ¬ (∃ x, x ≠ "Nothing?" ∧ (∀ m, m ∈ members ↔ m = x ∨ m = "Nothing?") ∧ b = true) ∧
      Spec.unionText members b = "union<" ++ joinWith ", " (unionMembers members) ++ ">") :=
  unionText_cases members b

/-- (a) the member list inside `union<…>` has no duplicates and exactly the given members. -/
theorem union_dedup (members : List String) (b : Bool) (ms : List String)
    (_hres : Spec.unionText members b = "union<" ++ joinWith ", " ms ++ ">")
    (hms : ms = unionMembers members) : ms.Nodup ∧ ∀ m, m ∈ ms ↔ m ∈ members := by
  subst hms
  exact ⟨unionMembers_nodup members, mem_unionMembers members⟩

/-- (b) `Nothing?`, when present, is the last member (and occurs only there). -/
theorem union_none_last (members : List String) (h : "Nothing?" ∈ members) :
    ∃ init, unionMembers members = init ++ ["Nothing?"] ∧ "Nothing?" ∉ init := by
  refine ⟨(sortStrings (Spec.dedup members)).filter (· != "Nothing?"), ?_, ?_⟩
  · unfold unionMembers
    dsimp only
    rw [if_pos (by simpa using (mem_sorted_dedup members _).2 h)]
  · simp

/-- (c) a union all of whose members are the same text is that text. -/
theorem union_single (members : List String) (m : String) (b : Bool) (hne : members ≠ [])
    (h : ∀ x ∈ members, x = m) : Spec.unionText members b = m := by
  rw [unionText_congr (l' := [m]) (fun a => ?_) b, unionText_singleton]
  constructor
  · intro ha; simpa using h a ha
  · intro ha
    obtain ⟨y, hy⟩ := List.exists_mem_of_ne_nil members hne
    have : a = m := by simpa using ha
    rw [this, ← h y hy]
    exact hy

/-- (d) for a member `x` other than `Nothing?`: the result is `x?` iff the set of members is exactly
    `{x, Nothing?}` and some member is of a nullable kind. -/
theorem nullable_shorthand_iff (members : List String) (b : Bool) (x : String) (hx : x ≠ "Nothing?")
    (hmem : x ∈ members) :
    Spec.unionText members b = x ++ "?" ↔ (∀ m, m ∈ members ↔ m = x ∨ m = "Nothing?") ∧ b = true := by
  constructor
  · intro hres
    rcases unionText_cases members b with ⟨h, _⟩ | ⟨m, _, hall, hm⟩ | ⟨y, _, hy, hb, hyres⟩ | ⟨_, _, hu⟩
    · rw [h] at hmem; simp at hmem
    · exfalso
      have h1 : x = m := hall x hmem
      rw [hm, ← h1] at hres
      have := congrArg String.length hres
      simp at this
    · rw [hyres] at hres
      have : y = x := (String.append_left_inj "?").1 hres
      subst this
      exact ⟨hy, hb⟩
    · exfalso
      rw [hu] at hres
      have := congrArg (fun s => s.toList.reverse.head?) hres
      simp at this
  · rintro ⟨hset, rfl⟩
    rw [unionText_congr (l' := [x, "Nothing?"]) (fun a => by rw [hset a]; simp) true, unionText_pair x hx]

/-- (d) needs `x ∈ members`: a result can end in `?` without the shorthand having been applied. -/
example : Spec.unionText ["Nothing?"] true = "Nothing" ++ "?" := by decide +kernel

/-- (e) the result depends on the set of members only … -/
theorem union_set_insensitive (members members' : List String) (b : Bool)
    (h : ∀ m, m ∈ members ↔ m ∈ members') : Spec.unionText members b = Spec.unionText members' b :=
  unionText_congr h b

/-- … in particular not on their order. -/
theorem union_order_insensitive (members members' : List String) (b : Bool)
    (h : List.Perm members members') : Spec.unionText members b = Spec.unionText members' b :=
  unionText_congr (fun _ => h.mem_iff) b

/-- at type level: a union without `Literal` members is order-insensitive.  (With literal members the
    merged `literal<…>` lists the literals in source order, see the example below.) -/
theorem union_type_order_insensitive (safe : Bool) (ts ts' : List AType)
    (h : ∀ t ∈ ts, Spec.isLit t = false) (hp : List.Perm ts ts') :
    Spec.typeText safe (.union ts) = Spec.typeText safe (.union ts') := by
  rw [typeText_union_noLit safe ts h,
    typeText_union_noLit safe ts' (fun t ht => h t (hp.symm.subset ht)),
    typeTexts_eq_map, typeTexts_eq_map, hp.any_eq]
  exact unionText_congr (fun a => (hp.map _).mem_iff) _

/-! ### (4) the documented mapping, constructor by constructor -/

theorem builtins_mapped (safe : Bool) (q : String) :
    Spec.typeText safe (.named "int" q) = "Int" ∧ Spec.typeText safe (.named "str" q) = "String" ∧
    Spec.typeText safe (.named "bool" q) = "Boolean" ∧ Spec.typeText safe (.named "float" q) = "Float" ∧
    Spec.typeText safe (.named "None" q) = "Nothing?" :=
  ⟨rfl, rfl, rfl, rfl, rfl⟩

/-- classes, enums and generic classes without arguments: their name, back-quoted when it is a
    Safe-DS keyword (statement changed: was `= n`) -/
theorem class_mapped (safe : Bool) (n q : String) (h : Spec.builtin n = none) :
    Spec.typeText safe (.named n q) = escapeKeyword n := by
  rw [Spec.typeText, h]; rfl

/-- … so for a name that is not a keyword it is the name itself (the former statement) -/
theorem class_mapped_plain (safe : Bool) (n q : String) (h : Spec.builtin n = none)
    (hk : Generated.keywords.contains n = false) : Spec.typeText safe (.named n q) = n := by
  rw [class_mapped safe n q h, escapeKeyword, hk]; rfl

theorem list_mapped (safe : Bool) (t : AType) (ts : List AType) :
    Spec.typeText safe (.list []) = "List<Any>" ∧
    Spec.typeText safe (.list [t]) = "List<" ++ Spec.typeText safe t ++ ">" ∧
    Spec.typeText safe (.list (t :: ts)) = "List<" ++ joinWith ", " (Spec.typeTexts safe (t :: ts)) ++ ">" :=
  ⟨rfl, rfl, rfl⟩

theorem set_mapped (safe : Bool) (t : AType) (ts : List AType) :
    Spec.typeText safe (.set []) = "Set<Any>" ∧
    Spec.typeText safe (.set [t]) = "Set<" ++ Spec.typeText safe t ++ ">" ∧
    Spec.typeText safe (.set (t :: ts)) = "Set<" ++ joinWith ", " (Spec.typeTexts safe (t :: ts)) ++ ">" :=
  ⟨rfl, rfl, rfl⟩

/-- `Sequence[…]`, `Collection[…]`, generic classes with arguments (statement changed: the head is
    `escapeKeyword n`, was `n`) -/
theorem namedSeq_mapped (safe : Bool) (n q : String) (t : AType) (ts : List AType) :
    Spec.typeText safe (.namedSeq n q []) = escapeKeyword n ++ "<Any>" ∧
    Spec.typeText safe (.namedSeq n q (t :: ts)) =
      escapeKeyword n ++ "<" ++ joinWith ", " (Spec.typeTexts safe (t :: ts)) ++ ">" :=
  ⟨rfl, rfl⟩

theorem dict_mapped (safe : Bool) (k v : AType) :
    Spec.typeText safe (.dict k v) = "Map<" ++ Spec.typeText safe k ++ ", " ++ Spec.typeText safe v ++ ">" := rfl

theorem tuple_mapped (safe : Bool) (ts : List AType) :
    Spec.typeText safe (.tuple ts) = "Tuple<" ++ joinWith ", " (Spec.typeTexts safe ts) ++ ">" := rfl

theorem typeTexts_map (safe : Bool) (ts : List AType) :
    Spec.typeTexts safe ts = ts.map (Spec.typeText safe) :=
  typeTexts_eq_map safe ts

theorem literal_mapped (safe : Bool) (ls : List Lit) :
    Spec.typeText safe (.literal ls) = "literal<" ++ joinWith ", " (ls.map Spec.litText) ++ ">" := rfl

theorem final_mapped (safe : Bool) (t : AType) : Spec.typeText safe (.final t) = Spec.typeText safe t := by
  rw [Spec.typeText]

theorem typeVar_mapped (safe : Bool) (n : String) (u : AType) :
    Spec.typeText safe (.typeVar n) = escapeKeyword (convertName n safe) ∧
    Spec.typeText safe (.typeVarB n u) = escapeKeyword (convertName n safe) :=
  ⟨rfl, rfl⟩

theorem callable_mapped (safe : Bool) (ps : List AType) (r : AType) :
    Spec.typeText safe (.callable ps r) =
      "(" ++ joinWith ", " (Spec.namedTexts safe "param_" 1 ps) ++ ") -> " ++
      (match r with
       | .tuple ts => "(" ++ joinWith ", " (Spec.namedTexts safe "result_" 1 ts) ++ ")"
       | other => if Spec.isNamedNone other then "()"
                  else convertName "result_1" safe ++ ": " ++ Spec.typeText safe other) :=
  typeText_callable safe ps r

/-- `Optional[T]` / `T | None` is `T?` for every `T` of a nullable kind (named, list, set, dict, tuple) -/
theorem optional_mapped (safe : Bool) (T : AType) (hl : Spec.isLit T = false)
    (hk : Spec.nullableKind T = true) (hx : Spec.typeText safe T ≠ "Nothing?") :
    Spec.typeText safe (.union [T, .named "None" "builtins.None"]) = Spec.typeText safe T ++ "?" ∧
    Spec.typeText safe (.union [.named "None" "builtins.None", T]) = Spec.typeText safe T ++ "?" := by
  have h := optional_text safe T hl hk hx
  refine ⟨h, ?_⟩
  rw [← h]
  refine (union_type_order_insensitive safe _ _ ?_ (List.Perm.swap _ _ _))
  intro t ht
  rcases List.mem_cons.1 ht with rfl | ht
  · rfl
  · rw [List.mem_singleton.1 ht]; exact hl

/-- `Optional[C]` for a class `C` (statement changed: `escapeKeyword n ++ "?"`, was `n ++ "?"`) -/
theorem optional_class_mapped (safe : Bool) (n q : String) (hb : Spec.builtin n = none)
    (hq : q ≠ "builtins.None") (hn : n ≠ "Nothing?") :
    Spec.typeText safe (.union [.named n q, .named "None" "builtins.None"]) = escapeKeyword n ++ "?" := by
  have h := (optional_mapped safe (.named n q) rfl (by simpa [Spec.nullableKind] using hq)
    (by rw [class_mapped safe n q hb]; exact tt_escapeKeyword_ne_nothing n hn)).1
  rw [h, class_mapped safe n q hb]

/-- several `Literal[…]` members of a union are merged into one `literal<…>` whose values are those of
    the members without repetitions (first occurrences kept; `true` and `1` stay different) -/
theorem merged_literals_dedup (l : List Lit) :
    (Spec.dedupLit l).Nodup ∧ (∀ x, x ∈ Spec.dedupLit l ↔ x ∈ l) ∧ (Spec.dedupLit l).Sublist l ∧
    (l.Nodup → Spec.dedupLit l = l) :=
  ⟨tt_dedupLit_nodup l, tt_mem_dedupLit l, tt_dedupLit_sublist l, tt_dedupLit_of_nodup l⟩

/-- the union case with at least two literal members (and not just `None` besides them) -/
theorem union_literals_mapped (safe : Bool) (ts : List AType) (h2 : (ts.filter Spec.isLit).length ≥ 2)
    (hn : ((ts.filter (fun t => !Spec.isLit t)).length == 1
      && (ts.filter (fun t => !Spec.isLit t)).any Spec.isNoneType) = false) :
    Spec.typeText safe (.union ts) =
      Spec.unionText (Spec.nonLitTexts safe ts ++
        ["literal<" ++ joinWith ", "
          ((Spec.dedupLit ((ts.filter Spec.isLit).flatMap Spec.litsOf)).map Spec.litText) ++ ">"])
        (ts.any Spec.nullableKind) := by
  rw [typeText_union, if_pos h2, hn]
  rfl

/-- a union without literal members is the normalised union of the members' texts -/
theorem union_mapped (safe : Bool) (ts : List AType) (h : ∀ t ∈ ts, Spec.isLit t = false) :
    Spec.typeText safe (.union ts) = Spec.unionText (Spec.typeTexts safe ts) (ts.any Spec.nullableKind) :=
  typeText_union_noLit safe ts h

/-! ### Non-vacuity: closed instances, under both naming flags, on the specification and on the generator -/

section Examples

private def tInt : AType := .named "int" "builtins.int"
private def tStr : AType := .named "str" "builtins.str"
private def tFloat : AType := .named "float" "builtins.float"
private def tNone : AType := .named "None" "builtins.None"
private def tCls : AType := .named "my_class" "pkg.mod.my_class"
/-- `dict[str, list[int | None]]` -/
private def ex1 : AType := .dict tStr (.list [.union [tInt, tNone]])
/-- `Literal[1] | Literal["a"] | None` -/
private def ex2 : AType := .union [.literal [.int 1], .literal [.str "a"], tNone]
/-- `Callable[[int, str], tuple[int, float]]` -/
private def ex3 : AType := .callable [tInt, tStr] (.tuple [tInt, tFloat])
/-- a union with duplicates, a class and `None` in the middle -/
private def ex4 : AType := .union [tInt, tStr, tInt, tCls, tNone, tStr]
/-- `set[my_class] | None`, `Final[_T]`-like wrappers, a keyword-named type variable -/
private def ex5 : AType := .final (.union [.set [tCls], tNone])
private def ex6 : AType := .callable [.typeVar "from"] tNone

private def env1 (safe : Bool) : Env := { api := {}, safe := safe }
private def st1 : St := { moduleId := "pkg/other", todos := ["variadic"], imports := ["a.b"] }
private def text (r : Except PyErr (String × St)) : Option String :=
  match r with
  | .ok (s, _) => some s
  | .error _ => none

example : Spec.typeText true ex1 = "Map<String, List<Int?>>" := by decide +kernel
example : Spec.typeText false ex1 = "Map<String, List<Int?>>" := by decide +kernel
example : Spec.typeText true ex2 = "literal<1, \"a\", null>" := by decide +kernel
example : Spec.typeText true ex3 = "(param1: Int, param2: String) -> (result1: Int, result2: Float)" := by decide +kernel
example : Spec.typeText false ex3 = "(param_1: Int, param_2: String) -> (result_1: Int, result_2: Float)" := by
  decide +kernel
example : Spec.typeText true ex4 = "union<Int, String, my_class, Nothing?>" := by decide +kernel
example : Spec.typeText false ex4 = "union<Int, String, my_class, Nothing?>" := by decide +kernel
example : Spec.typeText true ex5 = "Set<my_class>?" := by decide +kernel
example : Spec.typeText true ex6 = "(param1: `from`) -> ()" := by decide +kernel
/-- the hypotheses of `typeStr_total` / `typeStr_text` are satisfiable -/
example : Spec.renderable ex1 = true ∧ Spec.renderable ex2 = true ∧ Spec.renderable ex3 = true ∧
    Spec.renderable ex4 = true ∧ Spec.renderable ex5 = true ∧ Spec.renderable ex6 = true := by decide +kernel
example : tt_seqImportable ex1 = true ∧ tt_seqImportable ex2 = true ∧ tt_seqImportable ex3 = true ∧
    tt_seqImportable ex4 = true ∧ tt_seqImportable ex5 = true ∧ tt_seqImportable ex6 = true := by decide +kernel
example : tt_litOk ex1 = true ∧ tt_litOk ex2 = true ∧ tt_litOk ex3 = true ∧
    tt_litOk ex4 = true ∧ tt_litOk ex5 = true ∧ tt_litOk ex6 = true := by decide +kernel
example : tt_litNodup ex2 = true := by decide +kernel
example : Spec.renderable (.list [.enum ["a"]]) = false := by decide +kernel
/-- the generator itself, from two different states and under both flags -/
example : text (typeStr (env1 true) ex1 {}) = some "Map<String, List<Int?>>" := by decide +kernel
example : text (typeStr (env1 true) ex1 st1) = some "Map<String, List<Int?>>" := by decide +kernel
example : text (typeStr (env1 true) ex2 st1) = some "literal<1, \"a\", null>" := by decide +kernel
example : text (typeStr (env1 false) ex3 st1) =
    some "(param_1: Int, param_2: String) -> (result_1: Int, result_2: Float)" := by decide +kernel
example : text (typeStr (env1 true) ex4 st1) = some "union<Int, String, my_class, Nothing?>" := by decide +kernel
example : text (typeStr (env1 true) ex5 st1) = some "Set<my_class>?" := by decide +kernel
/-- the state really grows (so (5) is not vacuous) and non-renderable types really raise -/
example : (match typeStr (env1 true) ex5 st1 with
    | .ok (_, st') => (st'.todos, st'.imports, st'.outside)
    | .error _ => ([], [], [])) =
    (["variadic", "no set support"], ["a.b", "pkg.mod.my_class"], ["pkg.mod.my_class"]) := by decide +kernel
example : text (typeStr (env1 true) (.list [.enum ["a"]]) {}) = none := by decide +kernel
example : text (typeStr (env1 true) (.named "C" "") {}) = none := by decide +kernel
/-- the hypothesis `tt_seqImportable` of `typeStr_total` is needed: a generic class with arguments and
    no qualified name is `Spec.renderable`, and the generator raises on it -/
example : Spec.renderable (.namedSeq "C" "" [tInt]) = true ∧ tt_seqImportable (.namedSeq "C" "" [tInt]) = false ∧
    text (typeStr (env1 true) (.namedSeq "C" "" [tInt]) {}) = none := by decide +kernel
/-- keyword-named classes are back-quoted, generic classes with arguments are imported, names without
    a module path are not -/
example : Spec.typeText true (.named "from" "pkg.mod.from") = "`from`" ∧
    text (typeStr (env1 true) (.named "from" "pkg.mod.from") st1) = some "`from`" ∧
    Spec.typeText true (.namedSeq "in" "pkg.in" [tInt, tInt]) = "`in`<Int, Int>" ∧
    text (typeStr (env1 true) (.namedSeq "in" "pkg.in" [tInt, tInt]) st1) = some "`in`<Int, Int>" := by decide +kernel
example : (match typeStr (env1 true) (.namedSeq "Sequence" "typing.Sequence" [tInt]) st1 with
    | .ok (s, st') => (s, st'.todos, st'.imports, st'.outside)
    | .error _ => ("", [], [], [])) =
    ("Sequence<Int>", ["variadic"], ["a.b", "typing.Sequence"], ["typing.Sequence"]) := by decide +kernel
example : (match typeStr (env1 true) (.named "C" "C") st1 with
    | .ok (s, st') => (s, st'.imports, st'.outside)
    | .error _ => ("", [], [])) = ("C", ["a.b"], []) := by decide +kernel
/-- union normalisation on closed inputs -/
example : Spec.unionText ["B", "Nothing?", "A", "B"] true = "union<A, B, Nothing?>" := by decide +kernel
example : unionMembers ["B", "Nothing?", "A", "B"] = ["A", "B", "Nothing?"] := by decide +kernel
example : Spec.unionText ["Nothing?", "A", "A"] true = "A?" := by decide +kernel
example : Spec.unionText ["Nothing?", "A", "A"] false = "union<A, Nothing?>" := by decide +kernel
example : Spec.unionText ["A", "A"] true = "A" := by decide +kernel
/-- the `T?` shorthand is limited to nullable kinds (named, list, set, dict, tuple): `Optional[T]` for a
    type variable or a `Sequence[…]` stays a two-member union — specification and generator agree -/
example : Spec.typeText true (.union [.typeVar "T", tNone]) = "union<T, Nothing?>" ∧
    text (typeStr (env1 true) (.union [.typeVar "T", tNone]) st1) = some "union<T, Nothing?>" ∧
    Spec.typeText true (.union [.namedSeq "Sequence" "typing.Sequence" [tInt], tNone]) =
      "union<Sequence<Int>, Nothing?>" := by decide +kernel
/-- merged literal members are deduplicated (`true` and `1` stay different) — specification and generator -/
example : Spec.typeText true (.union [.literal [.int 1, .str "a"], .literal [.str "a", .int 2, .bool true], tInt])
      = "union<Int, literal<1, \"a\", 2, true>>" ∧
    text (typeStr (env1 true) (.union [.literal [.int 1, .str "a"], .literal [.str "a", .int 2, .bool true], tInt]) st1)
      = some "union<Int, literal<1, \"a\", 2, true>>" ∧
    text (typeStr (env1 true) (.union [.literal [.int 1, .str "a"], .literal [.str "a", .int 1], tNone]) st1)
      = some "literal<1, \"a\", null>" := by decide +kernel
/-- literal members keep their source order: permuting them changes the text -/
example : Spec.typeText true (.union [.literal [.int 1], .literal [.str "a"], tInt]) = "union<Int, literal<1, \"a\">>" ∧
    Spec.typeText true (.union [.literal [.str "a"], .literal [.int 1], tInt]) = "union<Int, literal<\"a\", 1>>" := by
  decide +kernel

end Examples

end StubGen.C05
