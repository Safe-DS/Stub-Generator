/-
C14 — type-source preference and the warning option (model: `StubGen.Model.Analyze`,
`reconcileParameter` / `reconcileResults` = `_ast_visitor.py` lines 278-334).

"When both a type hint and a docstring give a type for a parameter or result, the stub uses the hint
under the CODE preference and the docstring type under the DOCSTRING preference; when only one source
gives a type, that type is used under either preference.  The warning option affects log output only —
a discrepancy warning is logged exactly when both sources give different types and warnings are
enabled — and never the generated files."

All statements are for all inputs.  Proof machinery: `StubGen.Proofs.Reconcile`.
Known findings that the statements make explicit (they are part of the theorems, not hidden):
* whenever the docstring type is taken, the parameter's `isOptional`/`default` are REPLACED by the
  docstring default (`param_choice`), also when the code has a default and the docstring has none;
* results appended for surplus documented results without a name are numbered `result_<position + 1>`
  (`result_choice`), 1-based like the names `parseResults` generates; with generated code names and unnamed
  documented results the names of the returned list are pairwise distinct (`appended_names_fresh`);
* a documented result WITHOUT a type still consumes its position (`result_choice`, `result_warn_iff`).
-/
import StubGen.Proofs.Reconcile

set_option linter.unusedSimpArgs false

namespace StubGen.C14

open StubGen

/-! ### 1, 2 — parameters -/

/-- `reconcileParameter` never raises. -/
theorem param_total (env : AEnv) (fid : String) (p : Parameter) (st : VSt) :
    ∃ p' st', reconcileParameter env fid p st = .ok (p', st') :=
  ⟨_, _, l14_reconcileParameter_run env fid p st⟩

/-- The decision table of the parameter type, and what else changes: nothing but `type`,
    `isOptional`, `default`; the latter two change exactly when the docstring type is taken, and then
    they become the docstring's default (finding: the code default is replaced). -/
theorem param_choice (env : AEnv) (fid : String) (p p' : Parameter) (st st' : VSt)
    (h : reconcileParameter env fid p st = .ok (p', st')) :
    p'.type = (match p.type, p.doc.type with
      | _, none => p.type
      | none, some d => some d
      | some h, some d => if env.opts.preferDocstring then some d else some h) ∧
    p'.id = p.id ∧ p'.name = p.name ∧ p'.assignedBy = p.assignedBy ∧ p'.doc = p.doc ∧
    (if p.doc.type.isSome ∧ (p.type.isNone ∨ env.opts.preferDocstring) then
       p'.isOptional = (p.doc.defaultValue != "") ∧ p'.default = .str p.doc.defaultValue
     else p'.isOptional = p.isOptional ∧ p'.default = p.default) := by
  obtain ⟨rfl, -⟩ := l14_reconcileParameter_ok h
  unfold l14_paramOut
  cases ht : p.type <;> cases hd : p.doc.type <;> cases hp : env.opts.preferDocstring <;> simp [ht, hd]

/-- The same as one equation between records. -/
theorem param_choice_record (env : AEnv) (fid : String) (p p' : Parameter) (st st' : VSt)
    (h : reconcileParameter env fid p st = .ok (p', st')) :
    p' = (match p.type, p.doc.type with
      | _, none => p
      | none, some d =>
        { p with type := some d, isOptional := p.doc.defaultValue != "", default := .str p.doc.defaultValue }
      | some _, some d =>
        if env.opts.preferDocstring then
          { p with type := some d, isOptional := p.doc.defaultValue != "", default := .str p.doc.defaultValue }
        else p) := by
  exact (l14_reconcileParameter_ok h).1

/-- The state changes in its warning log only, and the log grows by exactly one record when both
    sources give a type, the two differ (Python `!=`), and warnings are enabled; by nothing otherwise. -/
theorem param_warn_iff (env : AEnv) (fid : String) (p p' : Parameter) (st st' : VSt)
    (h : reconcileParameter env fid p st = .ok (p', st')) :
    st' = { st with warnings := st.warnings ++
      (match p.type, p.doc.type with
       | some h, some d =>
         if env.opts.warn = true ∧ h.pyEq d = false then
           ["Different type hint and docstring types for '" ++ fid ++ "'."]
         else []
       | _, _ => []) } := by
  exact (l14_reconcileParameter_ok h).2

/-- A record is logged iff both sources give different types and warnings are enabled. -/
theorem param_warn_logged_iff (env : AEnv) (fid : String) (p p' : Parameter) (st st' : VSt)
    (h : reconcileParameter env fid p st = .ok (p', st')) :
    (st'.warnings = st.warnings ++ ["Different type hint and docstring types for '" ++ fid ++ "'."] ↔
      (env.opts.warn = true ∧ ∃ h d, p.type = some h ∧ p.doc.type = some d ∧ h.pyEq d = false)) ∧
    (st'.warnings = st.warnings ↔
      ¬ (env.opts.warn = true ∧ ∃ h d, p.type = some h ∧ p.doc.type = some d ∧ h.pyEq d = false)) := by
  have := param_warn_iff env fid p p' st st' h
  subst this
  dsimp only
  cases ht : p.type <;> cases hd : p.doc.type <;> simp

/-! ### 3, 4 — results -/

/-- `reconcileResults` never raises (any arguments). -/
theorem result_total (env : AEnv) (fid : String) (i : Nat) (all rs : List Result) (docs : List ResultDoc)
    (st : VSt) : ∃ rs' st', reconcileResults env fid i all rs docs st = .ok (rs', st') :=
  ⟨_, _, l14_reconcileResults_run env fid docs i all rs st⟩

/-- The general form.  The recursion threads the loop counter `i`, the list `all` being built and the
    not yet visited code results `rs`; the invariant is `all = pre ++ rs` with `pre.length = i`
    (true at the call in `enterFuncdef`: `i = 0`, `pre = []`).  Then the returned list is
    * `pre`, untouched,
    * the remaining code results, position by position against the documented results: the type is the
      documented one iff there is one and the preference is DOCSTRING; `id` and `name` never change,
    * one appended result per documented result BEYOND the code results that has a type, named by the
      docstring or else `result_<k + 1>` with `k` the loop counter (= `i` + position in `docs`). -/
theorem result_choice_general (env : AEnv) (fid : String) (i : Nat) (pre rs rs' : List Result)
    (docs : List ResultDoc) (st st' : VSt) (hpre : pre.length = i)
    (h : reconcileResults env fid i (pre ++ rs) rs docs st = .ok (rs', st')) :
    rs' = pre
      ++ rs.mapIdx (fun k r => match docs[k]? with
          | some d => if d.type.isSome ∧ env.opts.preferDocstring then { r with type := d.type } else r
          | none => r)
      ++ ((docs.drop rs.length).zipIdx (i + rs.length)).filterMap (fun (d, k) =>
          d.type.map fun dt =>
            { id := fid ++ "/" ++ (if d.name != "" then d.name else "result_" ++ toString (k + 1)),
              name := (if d.name != "" then d.name else "result_" ++ toString (k + 1)), type := some dt }) := by
  obtain ⟨rfl, -⟩ := l14_reconcileResults_ok h
  rw [l14_resOut_closed env fid docs i pre rs hpre, l14_appended_eq]
  congr 2
  symm
  rw [List.mapIdx_eq_iff]
  intro k
  rw [l14_zipUpd_getElem?]
  cases rs[k]? with
  | none => rfl
  | some r =>
    cases hd : docs[k]? with
    | none => rfl
    | some d =>
      simp only [Option.map_some, l14_updOne]
      cases hdt : d.type <;> cases hp : env.opts.preferDocstring <;> simp

/-- The call in `enterFuncdef` (`reconcileResults env fid 0 rs rs docs`), position by position:
    (a) every code result keeps its position, `id` and `name`; its type is the documented type iff the
        documented result at that position has a type and the preference is DOCSTRING;
    (b) behind them, one result per documented result at a position `≥ rs.length` that has a type,
        named by the docstring or else `result_<k + 1>` with `k` the 0-based position in `docs` — the
        same 1-based numbering as the generated names of code results; documented results without a type
        add nothing;
    (c) the resulting length. -/
theorem result_choice (env : AEnv) (fid : String) (rs rs' : List Result) (docs : List ResultDoc)
    (st st' : VSt) (h : reconcileResults env fid 0 rs rs docs st = .ok (rs', st')) :
    (∀ (i : Nat) (r : Result), rs[i]? = some r →
      rs'[i]? = some { r with type := match docs[i]? with
        | some d => if d.type.isSome ∧ env.opts.preferDocstring then d.type else r.type
        | none => r.type }) ∧
    rs'.drop rs.length = ((docs.drop rs.length).zipIdx rs.length).filterMap (fun (d, k) =>
        d.type.map fun dt =>
          { id := fid ++ "/" ++ (if d.name != "" then d.name else "result_" ++ toString (k + 1)),
            name := (if d.name != "" then d.name else "result_" ++ toString (k + 1)), type := some dt }) ∧
    rs'.length = rs.length + ((docs.drop rs.length).filter (·.type.isSome)).length := by
  obtain ⟨rfl, -⟩ := l14_reconcileResults_ok h
  have hc := l14_resOut_closed env fid docs 0 [] rs rfl
  simp only [List.nil_append, Nat.zero_add] at hc
  rw [hc]
  refine ⟨?_, ?_, ?_⟩
  · intro i r hr
    have hi : i < rs.length := by
      rcases Nat.lt_or_ge i rs.length with hlt | hge
      · exact hlt
      · rw [List.getElem?_eq_none hge] at hr; cases hr
    rw [List.getElem?_append_left (by rw [l14_zipUpd_length]; exact hi), l14_zipUpd_getElem?, hr]
    simp only [Option.map_some, Option.some.injEq]
    cases docs[i]? with
    | none => rfl
    | some d =>
      simp only [l14_updOne]
      cases hdt : d.type <;> cases hp : env.opts.preferDocstring <;> simp
  · rw [List.drop_append_of_le_length (by rw [l14_zipUpd_length]; exact Nat.le_refl _)]
    rw [List.drop_of_length_le (by rw [l14_zipUpd_length]; exact Nat.le_refl _), List.nil_append,
      l14_appended_eq]
    rfl
  · rw [List.length_append, l14_zipUpd_length, l14_appended_length]

/-- Appended names are fresh.  If the code results carry the generated names (`result_<j + 1>` at
    position `j`: what `parseResults` produces when the docstring gives no names) and the documented
    results beyond the code results that have a type are unnamed, then the names of the returned list
    are pairwise distinct (they are `result_1 … ` in increasing order, with gaps for documented results
    without a type). -/
theorem appended_names_fresh_general (env : AEnv) (fid : String) (rs rs' : List Result) (docs : List ResultDoc)
    (st st' : VSt) (h : reconcileResults env fid 0 rs rs docs st = .ok (rs', st'))
    (hrs : ∀ (j : Nat) (r : Result), rs[j]? = some r → r.name = "result_" ++ toString (j + 1))
    (hdocs : ∀ d ∈ docs.drop rs.length, d.type.isSome → d.name = "") :
    (rs'.map (·.name)).Nodup := by
  obtain ⟨rfl, -⟩ := l14_reconcileResults_ok h
  exact l14_resOut_names_nodup env fid rs docs hrs hdocs

/-- … in particular when no documented result has a name. -/
theorem appended_names_fresh (env : AEnv) (fid : String) (rs rs' : List Result) (docs : List ResultDoc)
    (st st' : VSt) (h : reconcileResults env fid 0 rs rs docs st = .ok (rs', st'))
    (hrs : ∀ (j : Nat) (r : Result), rs[j]? = some r → r.name = "result_" ++ toString (j + 1))
    (hdocs : ∀ d ∈ docs, d.name = "") :
    (rs'.map (·.name)).Nodup :=
  appended_names_fresh_general env fid rs rs' docs st st' h hrs
    (fun d hd _ => hdocs d (List.mem_of_mem_drop hd))

/-- … and the ids, which are `fid ++ "/" ++ name` for the appended results: if the code results have
    ids of that form too, the ids of the returned list are pairwise distinct. -/
theorem appended_ids_fresh (env : AEnv) (fid : String) (rs rs' : List Result) (docs : List ResultDoc)
    (st st' : VSt) (h : reconcileResults env fid 0 rs rs docs st = .ok (rs', st'))
    (hrs : ∀ (j : Nat) (r : Result), rs[j]? = some r →
      r.name = "result_" ++ toString (j + 1) ∧ r.id = fid ++ "/" ++ r.name)
    (hdocs : ∀ d ∈ docs, d.name = "") :
    (rs'.map (·.id)).Nodup := by
  have hn := appended_names_fresh env fid rs rs' docs st st' h (fun j r hj => (hrs j r hj).1) hdocs
  have hid : ∀ r ∈ rs', r.id = fid ++ "/" ++ r.name := by
    intro r hr
    obtain ⟨k, hk⟩ := List.getElem?_of_mem hr
    obtain ⟨h1, h2, -⟩ := result_choice env fid rs rs' docs st st' h
    rcases Nat.lt_or_ge k rs.length with hlt | hge
    · obtain ⟨r0, hr0⟩ : ∃ r0, rs[k]? = some r0 := ⟨rs[k], List.getElem?_eq_getElem hlt⟩
      have := h1 k r0 hr0
      rw [hk] at this
      simp only [Option.some.injEq] at this
      subst this
      exact (hrs k r0 hr0).2
    · have hm : r ∈ rs'.drop rs.length := by
        have : (rs'.drop rs.length)[k - rs.length]? = some r := by
          rw [List.getElem?_drop, ← hk]; congr 1; omega
        exact List.mem_of_getElem? this
      rw [h2, List.mem_filterMap] at hm
      obtain ⟨⟨d, j⟩, -, hdj⟩ := hm
      cases hdt : d.type with
      | none => simp [hdt] at hdj
      | some dt =>
        simp only [hdt, Option.map_some, Option.some.injEq] at hdj
        subst hdj
        rfl
  have : rs'.map (·.id) = (rs'.map (·.name)).map (fun n => fid ++ "/" ++ n) := by
    rw [List.map_map]
    exact List.map_congr_left (fun r hr => hid r hr)
  rw [this]
  refine List.Pairwise.map _ (fun a b hab e => hab ?_) hn
  have e' := congrArg String.toList e
  simp only [String.toList_append, List.append_cancel_left_eq] at e'
  exact String.toList_inj.1 e'

/-- The warning log (ANY arguments, no invariant needed): the state changes in its warning log only;
    one record per position `k < min rs.length docs.length` (in order of position; the records are all
    the same string) at which BOTH the code result and the documented result have a type, the types
    differ (Python `!=`), and warnings are enabled.  Nothing is logged for appended results, for
    positions where either type is missing, or with warnings disabled. -/
theorem result_warn_iff (env : AEnv) (fid : String) (i : Nat) (all rs rs' : List Result)
    (docs : List ResultDoc) (st st' : VSt)
    (h : reconcileResults env fid i all rs docs st = .ok (rs', st')) :
    st' = { st with
      warnings := st.warnings ++
        List.map (fun _ => "Different type hint and docstring types for the result of '" ++ fid ++ "'.")
          ((rs.zip docs).filter (fun (r, d) => match r.type, d.type with
            | some h, some dt => env.opts.warn && !(h.pyEq dt)
            | _, _ => false)) } := by
  obtain ⟨-, rfl⟩ := l14_reconcileResults_ok h
  rw [l14_resWarn_eq]
  rfl

/-- … hence: nothing at all is logged with warnings disabled, … -/
theorem result_warn_off (env : AEnv) (fid : String) (i : Nat) (all rs rs' : List Result)
    (docs : List ResultDoc) (st st' : VSt) (hw : env.opts.warn = false)
    (h : reconcileResults env fid i all rs docs st = .ok (rs', st')) : st' = st := by
  rw [result_warn_iff env fid i all rs rs' docs st st' h]
  have : ∀ l : List (Result × ResultDoc), List.filter (fun (x : Result × ResultDoc) =>
      match x.fst.type, x.snd.type with
      | some h, some dt => env.opts.warn && !(h.pyEq dt)
      | _, _ => false) l = [] := by
    intro l
    rw [List.filter_eq_nil_iff]
    intro a _
    rw [hw]
    split <;> simp
  rw [this]
  simp

/-- … and the number of records is the number of differing positions. -/
theorem result_warn_count (env : AEnv) (fid : String) (i : Nat) (all rs rs' : List Result)
    (docs : List ResultDoc) (st st' : VSt)
    (h : reconcileResults env fid i all rs docs st = .ok (rs', st')) :
    st'.warnings = st.warnings ++ List.replicate
      ((rs.zip docs).countP (fun (r, d) => match r.type, d.type with
          | some h, some dt => env.opts.warn && !(h.pyEq dt)
          | _, _ => false))
      ("Different type hint and docstring types for the result of '" ++ fid ++ "'.") := by
  rw [result_warn_iff env fid i all rs rs' docs st st' h]
  dsimp only
  rw [List.countP_eq_length_filter]
  congr 1
  generalize List.filter _ _ = l
  induction l with
  | nil => rfl
  | cons a l ih => simp [List.replicate_succ, ih]

/-! ### 5 — the warning option never alters the result

`l14_Sim x x'` (in `StubGen.Proofs.Reconcile`): run from two states that differ in the warning log only,
`x` and `x'` return the same value and final states that again differ in the log only, or raise the
same error.  It is the instance "log only" of `obl_Sim`, which is proved for EVERY function of the
analyser — the `toAbstract*` family, parameters, results, attributes, classes, enums, modules and the
mutual walker `walkDef`/`walkDefs` — between `env` and `env` with `opts.warn` replaced; so the full
statement holds, no `_partial` variant is needed. -/

/-- The API (all tables) produced by the analysis is identical for every value of `opts.warn`; only the
    warning list (the second component, projected away) may differ; an error under one setting is the
    same error under the other. -/
theorem warning_pure (env : AEnv) (w : Bool) (docRoot : GNode) (mods : List SrcModule) :
    (analyze env docRoot mods).map Prod.fst =
      (analyze { env with opts := { env.opts with warn := w } } docRoot mods).map Prod.fst :=
  l14_analyze_envW env w docRoot mods

/-- the same for any two environments that differ in `opts.warn` only -/
theorem warning_pure' (env env' : AEnv) (w : Bool) (h : env' = { env with opts := { env.opts with warn := w } })
    (docRoot : GNode) (mods : List SrcModule) :
    (analyze env docRoot mods).map Prod.fst = (analyze env' docRoot mods).map Prod.fst := by
  subst h
  exact warning_pure env w docRoot mods

/-- an error occurs under one setting iff it occurs under the other, and it is the same error -/
theorem warning_pure_error (env : AEnv) (w : Bool) (docRoot : GNode) (mods : List SrcModule) (e : PyErr) :
    analyze env docRoot mods = .error e ↔
      analyze { env with opts := { env.opts with warn := w } } docRoot mods = .error e := by
  have h := warning_pure env w docRoot mods
  revert h
  cases analyze env docRoot mods <;>
    cases analyze { env with opts := { env.opts with warn := w } } docRoot mods <;>
    simp [Except.map]
  rintro rfl
  rfl

/-- a successful analysis yields the same API under both settings -/
theorem warning_pure_ok (env : AEnv) (w : Bool) (docRoot : GNode) (mods : List SrcModule)
    (api : AnaResult) (log : List String) (h : analyze env docRoot mods = .ok (api, log)) :
    ∃ log', analyze { env with opts := { env.opts with warn := w } } docRoot mods = .ok (api, log') := by
  have h' := warning_pure env w docRoot mods
  rw [h] at h'
  revert h'
  cases analyze { env with opts := { env.opts with warn := w } } docRoot mods with
  | error e => simp [Except.map]
  | ok r =>
    obtain ⟨api', log'⟩ := r
    simp only [Except.map, Except.ok.injEq]
    rintro rfl
    exact ⟨log', rfl⟩

/-- The step-level statement for `enterFuncdef` (the only function whose callees read `opts.warn`):
    started in states that differ in the warning log only, the two runs raise the same error, or end in
    states that differ in the warning log only — in particular with the same function frame on the stack. -/
theorem enterFuncdef_warning_pure (env : AEnv) (w : Bool) (f : FuncDef) (s : VSt) (log : List String) :
    match enterFuncdef env f s,
      enterFuncdef { env with opts := { env.opts with warn := w } } f { s with warnings := log } with
    | .ok (_, t), .ok (_, t') => ∃ log', t' = { t with warnings := log' }
    | .error e, .error e' => e = e'
    | _, _ => False := by
  have h := (obl_enterFuncdef_sim true false env w f).l14.run s log
  revert h
  show l14_Rel (enterFuncdef env f s) (enterFuncdef (l14_envW env w) f (l14_setW s log)) → _
  cases enterFuncdef env f s with
  | error e => cases enterFuncdef (l14_envW env w) f (l14_setW s log) <;> exact fun h => h
  | ok r =>
    cases enterFuncdef (l14_envW env w) f (l14_setW s log) with
    | error e => exact fun h => h
    | ok r' => exact fun h => h.2

/-- the same for a whole function (`enter`, constructor assignments, `leave`) -/
theorem walkFunc_warning_pure (env : AEnv) (w : Bool) (f : FuncDef) (s : VSt) (log : List String) :
    match walkFunc env f s,
      walkFunc { env with opts := { env.opts with warn := w } } f { s with warnings := log } with
    | .ok (_, t), .ok (_, t') => ∃ log', t' = { t with warnings := log' }
    | .error e, .error e' => e = e'
    | _, _ => False := by
  have h := (obl_walkFunc_sim true false env w f).l14.run s log
  revert h
  show l14_Rel (walkFunc env f s) (walkFunc (l14_envW env w) f (l14_setW s log)) → _
  cases walkFunc env f s with
  | error e => cases walkFunc (l14_envW env w) f (l14_setW s log) <;> exact fun h => h
  | ok r =>
    cases walkFunc (l14_envW env w) f (l14_setW s log) with
    | error e => exact fun h => h
    | ok r' => exact fun h => h.2

/-! ### 6 — non-vacuity: closed instances -/

section Examples

private def intT : AType := .named "int" "builtins.int"
private def strT : AType := .named "str" "builtins.str"

private def envOf (preferDoc warn : Bool) : AEnv :=
  { opts := { plaintext := false, style := .numpy, preferDocstring := preferDoc, warn := warn },
    aliases := [], infoBases := [] }

private def st0 : VSt := { doc := { root := { name := "m" }, style := .numpy }, warnings := ["earlier"] }

/-- `x: int = 3`, documented as `x : str` (no documented default) -/
private def pBoth : Parameter :=
  { id := "m/f/x", name := "x", isOptional := true, default := .int 3, assignedBy := .positionOrName,
    doc := { type := some strT, defaultValue := "", description := "d" }, type := some intT }

/-- hint and docstring agree up to Python `==` (`Literal[True]` vs `Literal[1]`), not syntactically -/
private def pEqual : Parameter :=
  { pBoth with doc := { type := some (.literal [.int 1]) }, type := some (.literal [.bool true]) }

private def pHintOnly : Parameter := { pBoth with doc := {} }
private def pDocOnly : Parameter := { pBoth with type := none }

private def typeIs (t : Option AType) (u : AType) : Bool :=
  match t with
  | some t => AType.beq t u
  | none => false

/-- what the examples observe of a run: chosen type, `isOptional`, `default`, the log -/
private def paramRun (env : AEnv) (p : Parameter) (t : AType) (opt : Bool) (dflt : DefaultVal)
    (log : List String) : Bool :=
  match reconcileParameter env "m/f" p st0 with
  | .ok (p', s') => typeIs p'.type t && p'.isOptional == opt && p'.default == dflt && s'.warnings == log
  | .error _ => false

private def msgP : String := "Different type hint and docstring types for 'm/f'."

/-- hint `int`, docstring `str`, all four option pairs (preference, warning):
    CODE keeps `int` and the code default; DOCSTRING takes `str` and REPLACES the default `3` by the
    (absent) docstring default — the finding; the record appears iff warnings are enabled. -/
example : paramRun (envOf false true) pBoth intT true (.int 3) ["earlier", msgP] = true := by decide +kernel
example : paramRun (envOf false false) pBoth intT true (.int 3) ["earlier"] = true := by decide +kernel
example : paramRun (envOf true true) pBoth strT false (.str "") ["earlier", msgP] = true := by decide +kernel
example : paramRun (envOf true false) pBoth strT false (.str "") ["earlier"] = true := by decide +kernel
/-- equal types (by `==`, syntactically different): no record, even with warnings enabled;
    the preference still selects the source -/
example : paramRun (envOf false true) pEqual (.literal [.bool true]) true (.int 3) ["earlier"] = true := by
  decide +kernel
example : paramRun (envOf true true) pEqual (.literal [.int 1]) false (.str "") ["earlier"] = true := by
  decide +kernel
/-- only one source: that type under either preference, never a record -/
example : paramRun (envOf false true) pHintOnly intT true (.int 3) ["earlier"] = true := by decide +kernel
example : paramRun (envOf true true) pHintOnly intT true (.int 3) ["earlier"] = true := by decide +kernel
example : paramRun (envOf false true) pDocOnly strT false (.str "") ["earlier"] = true := by decide +kernel
example : paramRun (envOf true true) pDocOnly strT false (.str "") ["earlier"] = true := by decide +kernel

/-- two code results `(int, str)`, three documented results: `a : str`, one WITHOUT a type, `float` unnamed -/
private def rs2 : List Result :=
  [{ id := "m/f/result_1", name := "result_1", type := some intT },
   { id := "m/f/result_2", name := "result_2", type := some strT }]
private def docs3 : List ResultDoc :=
  [{ type := some strT, name := "a" }, { type := none, name := "b" },
   { type := some (.named "float" "builtins.float"), name := "" }]

private def resultRun (env : AEnv) (rs : List Result) (docs : List ResultDoc)
    (expect : List (String × String × AType)) (log : List String) : Bool :=
  match reconcileResults env "m/f" 0 rs rs docs st0 with
  | .ok (rs', s') =>
    rs'.length == expect.length
      && (rs'.zip expect).all (fun (r, e) => r.id == e.1 && r.name == e.2.1 && typeIs r.type e.2.2)
      && s'.warnings == log
  | .error _ => false

private def msgR : String := "Different type hint and docstring types for the result of 'm/f'."

/-- CODE preference: the hints stay; position 0 differs (`int` vs `str`) → one record; position 1 has no
    documented type → nothing; position 2 has no code result → appended as `result_3` (position 2, numbered
    from 1): no collision with the id `m/f/result_2` of the second code result -/
example : resultRun (envOf false true) rs2 docs3
    [("m/f/result_1", "result_1", intT), ("m/f/result_2", "result_2", strT),
     ("m/f/result_3", "result_3", .named "float" "builtins.float")] ["earlier", msgR] = true := by
  decide +kernel
/-- DOCSTRING preference: position 0 takes `str` but keeps id and name; same record -/
example : resultRun (envOf true true) rs2 docs3
    [("m/f/result_1", "result_1", strT), ("m/f/result_2", "result_2", strT),
     ("m/f/result_3", "result_3", .named "float" "builtins.float")] ["earlier", msgR] = true := by
  decide +kernel
/-- warnings disabled: the same lists, an unchanged log -/
example : resultRun (envOf false false) rs2 docs3
    [("m/f/result_1", "result_1", intT), ("m/f/result_2", "result_2", strT),
     ("m/f/result_3", "result_3", .named "float" "builtins.float")] ["earlier"] = true := by
  decide +kernel
example : resultRun (envOf true false) rs2 docs3
    [("m/f/result_1", "result_1", strT), ("m/f/result_2", "result_2", strT),
     ("m/f/result_3", "result_3", .named "float" "builtins.float")] ["earlier"] = true := by
  decide +kernel
/-- no code results, one unnamed documented result → `result_1` (numbered from 1) -/
example : resultRun (envOf false true) [] [{ type := some intT }] [("m/f/result_1", "result_1", intT)]
    ["earlier"] = true := by
  decide +kernel

/-- ids and names of a run are pairwise distinct -/
private def distinctRun (env : AEnv) (rs : List Result) (docs : List ResultDoc) : Bool :=
  match reconcileResults env "m/f" 0 rs rs docs st0 with
  | .ok (rs', _) => decide (rs'.map (·.id)).Nodup && decide (rs'.map (·.name)).Nodup
  | .error _ => false

/-- the former id collision is gone: two code results and an unnamed third documented result give three
    distinct ids `m/f/result_1`, `m/f/result_2`, `m/f/result_3` (an instance of `appended_names_fresh_general`
    / `appended_ids_fresh`'s conclusion; `docs3` names only positions covered by code results) -/
example : distinctRun (envOf false true) rs2 docs3 = true := by decide +kernel
example : distinctRun (envOf true false) rs2 docs3 = true := by decide +kernel
/-- the hypothesis "surplus documented results are unnamed" of `appended_names_fresh` is needed: a surplus
    documented result NAMED `result_1` collides with the first code result -/
example : distinctRun (envOf false true) rs2
    [{ type := some strT }, { type := none }, { type := some intT, name := "result_1" }] = false := by
  decide +kernel

/-! end to end: `m.py` with `def f(x: int) -> None` and the numpy docstring `x : str` -/

private def docF : GDoc :=
  { value := "doc",
    parsed := [.parameters [{ name := "x", annotation := some (.name "str" "str"), description := "d",
                              default := none }]] }

private def rootM : GNode := { name := "m", functions := [{ name := "f", docstring := some docF }] }

private def argX : Arg :=
  { name := "x", isSelf := false, isCls := false, kind := 0, posOnly := false,
    varType := some (.inst "int" "builtins.int" []), annotation := some (.unbound "int" []), init := none }

private def funF : FuncDef :=
  { name := "f", fullname := "m.f", isStatic := false, isClass := false, isProperty := false, args := [argX],
    hasCallableType := true, retType := some .none, unanalyzedRet := some .none,
    unanalyzedRetLiteralIsNone := false, body := [] }

private def modM : SrcModule :=
  { path := "m.py", fullname := "m", name := "m", imports := [], defs := [.func funF] }

/-- the analysis succeeds, the parameter table is `[m/f/x : t]`, and the log is `log` -/
private def anaRun (env : AEnv) (t : AType) (log : List String) : Bool :=
  match analyze env rootM [modM] with
  | .ok (api, l) =>
    (match api.parameters with
     | [p] => p.id == "m/f/x" && typeIs p.type t
     | _ => false) && l == log
  | .error _ => false

/-- `warning_pure` is not vacuous: the log DOES differ between the two settings, the API does not -/
example : anaRun (envOf false true) intT [msgP] = true := by decide +kernel
example : anaRun (envOf false false) intT [] = true := by decide +kernel
example : anaRun (envOf true true) strT [msgP] = true := by decide +kernel
example : anaRun (envOf true false) strT [] = true := by decide +kernel

/-- … and the error case: a parameter without `variable.type` is a `ValueError` under both settings -/
private def modBad : SrcModule :=
  { modM with defs := [.func { funF with args := [{ argX with varType := none }] }] }
example : (match analyze (envOf false true) rootM [modBad] with | .error .valueError => true | _ => false) = true := by
  decide +kernel
example : (match analyze (envOf false false) rootM [modBad] with | .error .valueError => true | _ => false) = true := by
  decide +kernel

end Examples

end StubGen.C14
