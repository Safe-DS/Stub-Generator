/-
C12 — whole-tool part: the API FILE (`API.to_dict` + `json.dump(indent=2)`), not only the tables of the API object.
-/
import StubGen.Proofs.ApiDict
import StubGen.Proofs.ApiDictTotal
import StubGen.Proofs.JsonLex
import StubGen.Proofs.Pipeline
import StubGen.Theorems.C12

namespace StubGen.C12b

open StubGen

/-- `API.to_dict()`: schema version 1, the package name, and the eight top-level lists hold the entries of the eight tables
    in the order `sorted(values, key=id)`: their `"id"` sequences are `C12.jsonIds` of the tables. -/
theorem api_dict_lists {pkg : String} {r : AnaResult} {j : JVal} (h : r.toJ pkg = .ok j) :
    j.get "schemaVersion" = .int 1 ∧ j.get "package" = .str pkg ∧
    (j.get "modules").idList = C12.jsonIds r.modules (·.id) ∧
    (j.get "classes").idList = C12.jsonIds r.classes (·.id) ∧
    (j.get "functions").idList = C12.jsonIds r.functions (·.id) ∧
    (j.get "results").idList = C12.jsonIds r.results (·.id) ∧
    (j.get "enums").idList = C12.jsonIds r.enums (·.id) ∧
    (j.get "enum_instances").idList = C12.jsonIds r.enumInstances (·.id) ∧
    (j.get "attributes").idList = C12.jsonIds r.attributes (·.id) ∧
    (j.get "parameters").idList = C12.jsonIds r.parameters (·.id) := by
  obtain ⟨attrs, params, ha, hp, hj⟩ := aj_toJ_ok h
  subst hj
  unfold C12.jsonIds
  refine ⟨rfl, rfl, ?_, ?_, ?_, ?_, ?_, ?_, ?_, ?_⟩
  · show (JVal.list _).idList = _
    rw [aj_idList_map (·.id) Module.toJ aj_module_id, aj_sortedById_ids]
  · show (JVal.list _).idList = _
    rw [aj_idList_map (·.id) Class.toJ aj_class_id, aj_sortedById_ids]
  · show (JVal.list _).idList = _
    rw [aj_idList_map (·.id) Function.toJ aj_function_id, aj_sortedById_ids]
  · show (JVal.list _).idList = _
    rw [aj_idList_map (·.id) Result.toJ aj_result_id, aj_sortedById_ids]
  · show (JVal.list _).idList = _
    rw [aj_idList_map (·.id) Enum.toJ aj_enum_id, aj_sortedById_ids]
  · show (JVal.list _).idList = _
    rw [aj_idList_map (·.id) EnumInstance.toJ aj_enumInstance_id, aj_sortedById_ids]
  · show (JVal.list attrs).idList = _
    rw [aj_mapExcept_ids (·.id) Attribute.toJ aj_attribute_id _ _ ha, aj_sortedById_ids]
  · show (JVal.list params).idList = _
    rw [aj_mapExcept_ids (·.id) Parameter.toJ aj_parameter_id _ _ hp, aj_sortedById_ids]

/-- END TO END: in the API file of a completed run the eight top-level lists are strictly increasing in the id
    (sorted by id and free of duplicates), the schema version is 1, the package is named after the adjusted root. -/
theorem api_file_lists_sorted_nodup {i : ToolInput} {o : ToolOutput} (h : runTool i = .ok o) :
    ∃ j, o.api.toJ o.packageName = .ok j ∧ o.apiFileText = j.dumps 0 ∧
      j.get "schemaVersion" = .int 1 ∧ j.get "package" = .str o.packageName ∧
      (j.get "modules").idList.Pairwise (· < ·) ∧ (j.get "classes").idList.Pairwise (· < ·) ∧
      (j.get "functions").idList.Pairwise (· < ·) ∧ (j.get "results").idList.Pairwise (· < ·) ∧
      (j.get "enums").idList.Pairwise (· < ·) ∧ (j.get "enum_instances").idList.Pairwise (· < ·) ∧
      (j.get "attributes").idList.Pairwise (· < ·) ∧ (j.get "parameters").idList.Pairwise (· < ·) := by
  obtain ⟨root, d, r, ws, text, gen, _, ha, ht, _, ho⟩ := pl_runTool_ok h
  subst ho
  unfold apiJsonText at ht
  cases hj : r.toJ (pathStem root) with
  | error e => simp [hj, bind, Except.bind] at ht
  | ok j =>
    simp only [hj, bind, Except.bind, pure, Except.pure, Except.ok.injEq] at ht
    obtain ⟨h1, h2, l1, l2, l3, l4, l5, l6, l7, l8⟩ := api_dict_lists hj
    obtain ⟨s1, s2, s3, s4, s5, s6, s7, s8⟩ := C12.json_lists_sorted_nodup ha
    refine ⟨j, rfl, ht.symm, h1, h2, ?_, ?_, ?_, ?_, ?_, ?_, ?_, ?_⟩
    · rw [l1]; exact s1
    · rw [l2]; exact s2
    · rw [l3]; exact s3
    · rw [l4]; exact s4
    · rw [l5]; exact s5
    · rw [l6]; exact s6
    · rw [l7]; exact s7
    · rw [l8]; exact s8

/-- every entry of a module / class / function / enum in the file names its parts by id, in declaration order -/
theorem entry_references (m : Module) (c : Class) (f : Function) (e : Enum) :
    m.toJ.get "classes" = strsJ (m.classes.map (·.id)) ∧ m.toJ.get "functions" = strsJ (m.functions.map (·.id)) ∧
    m.toJ.get "enums" = strsJ (m.enums.map (·.id)) ∧
    c.toJ.get "methods" = strsJ (c.methods.map (·.id)) ∧ c.toJ.get "attributes" = strsJ (c.attributes.map (·.id)) ∧
    c.toJ.get "classes" = strsJ (c.classes.map (·.id)) ∧ c.toJ.get "superclasses" = strsJ c.superclasses ∧
    f.toJ.get "parameters" = strsJ (f.params.map (·.id)) ∧ f.toJ.get "results" = strsJ (f.results.map (·.id)) ∧
    f.toJ.get "is_static" = .bool f.isStatic ∧ f.toJ.get "is_class_method" = .bool f.isClassMethod ∧
    f.toJ.get "is_property" = .bool f.isProperty ∧
    e.toJ.get "instances" = strsJ (e.instances.map (·.id)) :=
  ⟨rfl, rfl, rfl, rfl, rfl, rfl, rfl, rfl, rfl, rfl, rfl, rfl, rfl⟩

/-- The serialisation of a docstring type (`dataclasses.asdict`, then `json.dump`) fails on an `EnumType` only (the error
    branch below); every type the docstring parser derives from an annotation (`_griffe_annotation_to_api_type`, any
    nesting depth) is free of them and serialises. -/
theorem docstring_types_serialise (e : GExpr) (t : AType) (h : annToType e = some t) : ∃ j, t.asdict = .ok j :=
  asdict_ok_of_noEnum t (annToType_noEnum e t h)

/-- "The API file is valid JSON", lexical part: every string token the serialiser writes — keys, ids, names, docstring
    texts with any characters whatsoever — is a quote, a sequence of unescaped characters ≥ U+0020 other than `"` and `\\`
    and of RFC 8259 escape sequences (`\\" \\\\ \\b \\f \\n \\r \\t \\uXXXX`, a surrogate pair above the BMP), and a quote. -/
theorem api_file_strings_valid (s : String) :
    ∃ body, (jsonStr s).toList = '"' :: body ++ ['"'] ∧ JsonBodyOk body :=
  let ⟨body, h1, h2, _⟩ := jsonStr_valid s
  ⟨body, h1, h2⟩

/-- `json.dump(…, indent=2)` on a small inventory: the exact text (S-P compares this text byte for byte with the file the
    tool writes) -/
example : (JVal.dict [("schemaVersion", .int 1), ("package", .str "p\"q"), ("modules", .list []),
    ("x", .list [.str "é", .null, .bool true, .floatTok "1.5"])]).dumps 0
    = "{\n  \"schemaVersion\": 1,\n  \"package\": \"p\\\"q\",\n  \"modules\": [],\n  \"x\": [\n    \"\\u00e9\",\n    null,\n    true,\n    1.5\n  ]\n}" := by
  decide +kernel

/-- a docstring type that is an `EnumType` cannot be serialised (`frozenset` is not JSON serialisable): the error branch -/
def enumDocAttr : Attribute :=
  { id := "p/C/x", name := "x", isPublic := true, isStatic := false, type := none, doc := { type := some (.enum ["a"]) } }
example : (Attribute.toJ enumDocAttr).toOption.isNone = true := by decide +kernel

end StubGen.C12b
