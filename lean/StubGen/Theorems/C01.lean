/-
C01 (generator half) — "a run either completes — writing the API JSON file and the stub files — or
rejects the input with the documented 'No files found to analyse' error.  It never aborts with an
internal error raised from the tool's own code and never fails to terminate."

Termination of the generator model is checked by Lean (every definition of `Model/Gen.lean` and
`Model/Files.lean` is total; recursion over the class hierarchy is by fuel).  What is proved here is
that no `.error` branch — the model of a Python exception raised by the generator's own code — is
reached on the APIs of `Spec.Scope01` (`Spec/Scope01.lean`: decidable, one clause per `raise` site).

1. `generator_total`: on `Scope01` APIs `runGenerator` returns normally.
2. kernel-checked boundary examples: violating one clause of `Scope01` gives the corresponding error.
3. `errors_only_from_scope` and the sharper `never_keyError`: a failing run ends in one of
   `ValueError`, `IndexError`, `LookupError`, `.unsupported` (recursion budget) — never `KeyError`, never
   from `_create_outside_package_class` — and the API is outside `Scope01`.
4. per-function totality (from *all* states where no markers are flushed, under "every pending key has
   a message" otherwise), the invariant, and the fuel lemmas for classes.
5. non-vacuity.

Proof machinery: `StubGen.Proofs.Totality` (names `o01_…`).
-/
import StubGen.Proofs.Totality

namespace StubGen.C01

open StubGen Spec

/-- every pending marker key has a message in the generator's table -/
def PendingOk (st : St) : Prop := ∀ k ∈ st.todos, (assocGet? Generated.todoMessages k).isSome = true

/-! ### 1. the generator never raises on `Scope01` APIs -/

theorem generator_total (api : API) (safe : Bool) (pre : List String) (h : Scope01 api = true) :
    ∃ r, runGenerator api safe pre = .ok r := by
  obtain ⟨stubs, st, h1, hI⟩ := (o01_generateStubData_safe ⟨api, safe⟩ h).run {} (o01_inv_init _)
  obtain ⟨ops, h2⟩ := o01_createStubFiles_ok safe stubs st.outside pre hI.outside
  exact ⟨_, runGenerator_ok.2 ⟨stubs, st, ops, h1, h2, rfl⟩⟩

/-! ### 3. which errors, and only outside the scope -/

/-- a failing run: `ValueError` (a type that cannot be rendered or imported, an empty superclass),
    `IndexError` (a class type with an empty name), `LookupError` (a private superclass that is not in
    the package) or the recursion budget.  In particular no `KeyError` (marker and variance tables), and
    `_create_outside_package_class` (`IndexError` on a path without a dot) never raises in a run. -/
theorem never_keyError (api : API) (safe : Bool) (pre : List String) (e : PyErr)
    (h : runGenerator api safe pre = .error e) :
    e ∈ [PyErr.valueError, .indexError, .lookupError, .unsupported] := by
  have hk : o01_outOk o01_P0 ((generateStubData ⟨api, safe⟩).run {}) :=
    (o01_generateStubData_keeps ⟨api, safe⟩).run {} (o01_inv_init _)
  unfold runGenerator at h
  dsimp only at h
  generalize (generateStubData ⟨api, safe⟩).run {} = r at h hk
  match r, hk, h with
  | .error e', hk, h => cases h; exact hk
  | .ok (stubs, st), hk, h =>
    obtain ⟨ops, h2⟩ := o01_createStubFiles_ok safe stubs st.outside pre hk.outside
    dsimp only at h
    rw [h2] at h
    cases h

theorem errors_only_from_scope (api : API) (safe : Bool) (pre : List String) (e : PyErr)
    (h : runGenerator api safe pre = .error e) :
    e ∈ [PyErr.valueError, .indexError, .lookupError, .keyError, .unsupported] ∧ Scope01 api = false := by
  refine ⟨?_, ?_⟩
  · have := never_keyError api safe pre e h
    simp only [List.mem_cons, List.not_mem_nil, or_false] at this ⊢
    tauto
  · cases hs : Scope01 api with
    | false => rfl
    | true =>
      obtain ⟨r, hr⟩ := generator_total api safe pre hs
      rw [hr] at h
      cases h

/-- (e) every class path that reaches `classes_outside_package` contains a dot — it is an import name with
    at least two dot-segments (`_add_to_imports` returns early for a single segment; a class found in the
    package is not added) — so `_create_outside_package_class` (`path_parts[-1]`, `IndexError`) never raises
    in a run.  No hypothesis on the API. -/
theorem placeholder_stubs_never_raise (api : API) (safe : Bool) (stubs : List StubData) (st : St)
    (h : (generateStubData ⟨api, safe⟩).run {} = .ok (stubs, st)) (pre : List String) :
    (∀ q ∈ st.outside, '.' ∈ q.toList) ∧ ∃ ops, createStubFiles safe stubs st.outside pre = .ok ops := by
  have hk := (o01_generateStubData_keeps (P := o01_P0) ⟨api, safe⟩).run {} (o01_inv_init _)
  have h' : generateStubData ⟨api, safe⟩ {} = .ok (stubs, st) := h
  rw [h'] at hk
  exact ⟨hk.outside, o01_createStubFiles_ok safe stubs st.outside pre hk.outside⟩

/-- `typeOk` is `Spec.renderable` together with `tt_seqImportable` of C05 -/
theorem typeOk_iff (t : AType) : typeOk t = true ↔ renderable t = true ∧ tt_seqImportable t = true := by
  unfold typeOk
  rw [Bool.and_eq_true, o01_importable_eq]

/-! ### 4. per-function totality -/

/-- `varianceKeyword` never raises: the three variance names are keys of `Generated.varianceKeywords` -/
theorem varianceKeyword_total (v : Variance) (st : St) : ∃ k, varianceKeyword v st = .ok (k, st) := by
  rw [varianceKeyword_eq]
  exact ⟨_, rfl⟩

/-- a type: `typeStr_total` of C05, in terms of `Spec.typeOk` -/
theorem typeStr_total (env : Env) (t : AType) (h : typeOk t = true) (st : St) :
    ∃ s st', typeStr env t st = .ok (s, st') :=
  (o01_typeOk_safe o01_PTriv_good env t h).total st

theorem createParameter_total (env : Env) (p : Parameter) (h : optTypeOk p.type = true) (st : St) :
    ∃ r st', createParameter env p st = .ok (r, st') :=
  (o01_createParameter_safe o01_PTriv_good env p h).total st

/-- the first parameter of an instance method is not rendered -/
theorem createParameterString_total (env : Env) (ps : List Parameter) (indent : String) (isInstanceMethod : Bool)
    (h : paramsOk (if isInstanceMethod then ps.drop 1 else ps) = true) (st : St) :
    ∃ r st', createParameterString env ps indent isInstanceMethod st = .ok (r, st') :=
  (o01_createParameterString_safe o01_PTriv_good env ps indent isInstanceMethod h).total st

theorem createResultString_total (env : Env) (rs : List Result) (h : resultsOk rs = true) (st : St) :
    ∃ r st', createResultString env rs st = .ok (r, st') :=
  (o01_createResultString_safe o01_PTriv_good env rs h).total st

theorem typeVarStrings_total (env : Env) (isMethod : Bool) (tvs : List TypeVar) (h : typeVarsOk tvs = true)
    (st : St) : ∃ r st', typeVarStrings env isMethod tvs st = .ok (r, st') :=
  (o01_typeVarStrings_safe o01_PTriv_good env isMethod tvs h).total st

theorem typeParamStrings_total (env : Env) (tps : List TypeParam) (h : typeParamsOk tps = true) (st : St) :
    ∃ r st', typeParamStrings env tps st = .ok (r, st') :=
  (o01_typeParamStrings_safe o01_PTriv_good env tps h).total st

/-- `_create_imports_string` never raises -/
theorem createImportsString_total (env : Env) (st : St) : ∃ r, createImportsString env st = .ok (r, st) := by
  unfold createImportsString
  rw [bind_apply]
  show ∃ r, (if st.imports.isEmpty = true then _ else _ : G String) st = _
  split
  · exact ⟨_, rfl⟩
  · exact ⟨_, rfl⟩

/-- `_create_enum_string` is a pure function of the enum (no state, no exception) -/
example (env : Env) (e : Enum) : String := createEnumString env e

/-- flushing the markers succeeds when every pending key has a message, and leaves none pending -/
theorem createTodoMsg_total (indent : String) (st : St) (h : PendingOk st) :
    ∃ s, createTodoMsg indent st = .ok (s, { st with todos := [] }) :=
  ⟨_, (createTodoMsg_ok indent st _).2 ⟨h, rfl⟩⟩

/-- without that invariant it raises `KeyError` -/
example : (match createTodoMsg "" { todos := ["no such key"] } with
    | .error e => some e | .ok _ => none) = some PyErr.keyError := by decide +kernel

theorem createFunctionString_total (env : Env) (f : Function) (indent : String) (isMethod inRe : Bool)
    (h : functionOk isMethod f = true) (st : St) (hst : PendingOk st) :
    ∃ r st', createFunctionString env f indent isMethod inRe st = .ok (r, st') ∧ PendingOk st' := by
  obtain ⟨r, st', h1, h2⟩ := (o01_createFunctionString_safe o01_PTodo_good o01_PTodo_flush env f indent isMethod inRe h
    (fun _ _ => ⟨trivial, fun _ => trivial⟩)).run st (o01_inv_todo hst)
  exact ⟨r, st', h1, h2.todos⟩

theorem createPropertyFunctionString_total (env : Env) (f : Function) (indent : String)
    (h : resultsOk f.results = true) (st : St) (hst : PendingOk st) :
    ∃ r st', createPropertyFunctionString env f indent st = .ok (r, st') ∧ PendingOk st' := by
  obtain ⟨r, st', h1, h2⟩ := (o01_createPropertyFunctionString_safe o01_PTodo_good o01_PTodo_flush env f indent
    h).run st (o01_inv_todo hst)
  exact ⟨r, st', h1, h2.todos⟩

/-- a private attribute is skipped whatever its type -/
theorem createAttribute_total (env : Env) (a : Attribute) (inner : String)
    (h : (!a.isPublic || optTypeOk a.type) = true) (st : St) (hst : PendingOk st) :
    ∃ r st', createAttribute env a inner st = .ok (r, st') ∧ PendingOk st' := by
  obtain ⟨r, st', h1, h2⟩ := (o01_createAttribute_safe o01_PTodo_good o01_PTodo_flush env a inner h).run st
    (o01_inv_todo hst)
  exact ⟨r, st', h1, h2.todos⟩

/-! #### classes: fuel -/

/-- `createClassString` with fuel `n` succeeds on a class that passes the check with fuel `n` … -/
theorem createClassString_total (env : Env) (n : Nat) (c : Class) (indent : String) (inRe : Bool)
    (h : classOk env.api n c = true) (st : St) (hst : PendingOk st) :
    ∃ r st', createClassString env n c indent inRe st = .ok (r, st') ∧ PendingOk st' := by
  obtain ⟨r, st', h1, h2⟩ := (o01_createClassString_safe o01_PTodo_good o01_PTodo_flush env n c indent inRe h
    (fun _ => ⟨trivial, fun _ => trivial⟩)).run st (o01_inv_todo hst)
  exact ⟨r, st', h1, h2.todos⟩

/-- … the check is monotone in the fuel, so any larger fuel does as well … -/
theorem classOk_mono (api : API) {n m : Nat} (hnm : n ≤ m) (c : Class) (h : classOk api n c = true) :
    classOk api m c = true :=
  o01_classOk_mono api hnm c h

theorem createClassString_total_of_le (env : Env) {n m : Nat} (hnm : n ≤ m) (c : Class) (indent : String)
    (inRe : Bool) (h : classOk env.api n c = true) (st : St) (hst : PendingOk st) :
    ∃ r st', createClassString env m c indent inRe st = .ok (r, st') ∧ PendingOk st' :=
  createClassString_total env m c indent inRe (classOk_mono env.api hnm c h) st hst

/-- … and when no rendered class of the hierarchy has a private superclass (`localOk`: the conditions
    on types and superclass strings only), fuel above the nesting depth suffices. -/
theorem classOk_of_nesting (api : API) (n : Nat) (c : Class) (hl : localOk c = true) (hd : nestDepth c ≤ n) :
    classOk api n c = true :=
  o01_classOk_of_depth api n c hl hd

/-- the generator's budget `#classes + 64` therefore covers every hierarchy without private
    superclasses that is nested at most `#classes + 64` deep -/
theorem scope_of_nesting (api : API)
    (h : ∀ m ∈ api.modules, (m.name == "__init__") = false →
      (∀ f ∈ m.functions, f.isPublic = true → functionOk false f = true) ∧
      (∀ c ∈ m.classes, c.isPublic = true → c.inheritsFromException = false →
        localOk c = true ∧ nestDepth c ≤ api.classes.length + 64)) :
    Scope01 api = true := by
  unfold Scope01
  refine List.all_eq_true.2 fun m hm => ?_
  unfold moduleOk
  cases hn : m.name == "__init__" with
  | true => rfl
  | false =>
    obtain ⟨h1, h2⟩ := h m hm hn
    simp only [Bool.false_or, Bool.and_eq_true, List.all_eq_true, Bool.or_eq_true, Bool.not_eq_true',
      Bool.and_eq_false_imp]
    refine ⟨fun f hf => ?_, fun c hc => ?_⟩
    · cases hp : f.isPublic with
      | false => exact Or.inl rfl
      | true => exact Or.inr (h1 f hf hp)
    · cases hp : c.isPublic with
      | false => exact Or.inl (by simp)
      | true =>
        cases he : c.inheritsFromException with
        | true => exact Or.inl (by simp)
        | false =>
          obtain ⟨hl, hd⟩ := h2 c hc hp he
          exact Or.inr (classOk_of_nesting api _ c hl hd)

/-! #### the invariant "every pending key has a message" -/

/-- Every function of the generator keeps the invariant, whatever its arguments: all keys it adds are
    literal keys of the message table (or `"Set"`/`"List"`).  Moreover the only exceptions are the four
    of `never_keyError`.  (`o01_Keeps`: the walk `inv_…` of `Proofs/GenInv.lean` at the invariant, `o01_runInv`.) -/
theorem pending_preserved {α : Type} {x : G α} (hx : o01_Keeps o01_PTodo x) {st st' : St} {a : α}
    (hst : PendingOk st) (h : x st = .ok (a, st')) : PendingOk st' := by
  have := hx.run st (o01_inv_todo hst)
  rw [h] at this
  exact this.todos

theorem errors_of_keeps {α : Type} {x : G α} (hx : o01_Keeps o01_PTodo x) {st : St} {e : PyErr}
    (hst : PendingOk st) (h : x st = .error e) :
    e ∈ [PyErr.valueError, .indexError, .lookupError, .unsupported] := by
  have := hx.run st (o01_inv_todo hst)
  rw [h] at this
  exact this

/-- the instances for the declaration-level functions -/
theorem generator_functions_keep_pending (env : Env) :
    (∀ t, o01_Keeps o01_PTodo (typeStr env t)) ∧
    (∀ p, o01_Keeps o01_PTodo (createParameter env p)) ∧
    (∀ ps indent b, o01_Keeps o01_PTodo (createParameterString env ps indent b)) ∧
    (∀ rs, o01_Keeps o01_PTodo (createResultString env rs)) ∧
    (∀ f indent b1 b2, o01_Keeps o01_PTodo (createFunctionString env f indent b1 b2)) ∧
    (∀ f indent, o01_Keeps o01_PTodo (createPropertyFunctionString env f indent)) ∧
    (∀ a inner, o01_Keeps o01_PTodo (createAttribute env a inner)) ∧
    (∀ n c indent b, o01_Keeps o01_PTodo (createClassString env n c indent b)) ∧
    (∀ n sc inner ad, o01_Keeps o01_PTodo (createInternalClassString env n sc inner ad)) ∧
    (∀ m, o01_Keeps o01_PTodo (createModuleString env m)) ∧
    (∀ m, o01_Keeps o01_PTodo (callGenerator env m)) ∧
    o01_Keeps o01_PTodo (createReexportModuleStrings env) ∧
    o01_Keeps o01_PTodo (generateStubData env) :=
  have h := o01_runInv (P := o01_PTodo) env
  have g := h.toGenInv
  ⟨fun _ => .of_inv (inv_typeStr g _), fun _ => .of_inv (inv_createParameter g _),
    fun _ _ _ => .of_inv (inv_createParameterString g _ _ _), fun _ => .of_inv (inv_createResultString g _),
    fun _ _ _ _ => .of_inv (inv_createFunctionString g _ _ _ _),
    fun _ _ => .of_inv (inv_createPropertyFunctionString g _ _), fun _ _ => .of_inv (inv_createAttribute g _ _),
    fun _ _ _ _ => .of_inv (inv_createClassString g _ _ _ _),
    fun _ _ _ _ => .of_inv (inv_createInternalClassString g _ _ _ _), fun _ => .of_inv (inv_createModuleString g _),
    fun _ => .of_inv (inv_callGenerator h _), .of_inv (inv_createReexportModuleStrings h),
    .of_inv (inv_generateStubData h)⟩

/-! ### 2. the boundaries: one clause of `Scope01` violated, the corresponding exception raised

(kernel-evaluated; `errOf r = none` means that the run returned normally) -/

/-- the exception a run ends in -/
private def errOf (r : Except PyErr GenResult) : Option PyErr :=
  match r with
  | .error e => some e
  | .ok _ => none

private def tInt : AType := .named "int" "builtins.int"
private def tStr : AType := .named "str" "builtins.str"

private def mkP (n : String) (a : Assign) (t : Option AType) (opt : Bool := false) (d : DefaultVal := .none) :
    Parameter :=
  { id := n, name := n, isOptional := opt, default := d, assignedBy := a, type := t }

/-- a package with one module, one public function `f(x: t)` -/
private def fnApi (t : AType) : API :=
  { package := "pkg",
    modules := [{ id := "pkg/m", name := "m",
                  functions := [{ id := "pkg/m/f", name := "f", isPublic := true,
                                  params := [mkP "x" .positionOrName (some t)] }] }] }

/-- a package with one module, one public class `C` with the given superclasses and inner classes;
    `table` is the flat class table of the API -/
private def clsApi (supers : List String) (inner : List Class) (table : List Class) : API :=
  { package := "pkg",
    modules := [{ id := "pkg/m", name := "m",
                  classes := [{ id := "pkg/m/C", name := "C", isPublic := true, superclasses := supers,
                                classes := inner }] }],
    classes := table }

/-- inside the scope -/
example : Scope01 (fnApi tInt) = true ∧ errOf (runGenerator (fnApi tInt) true) = none := by decide +kernel
/-- an `EnumType` (or `BoundaryType`) anywhere in a rendered type: `raise ValueError("Unexpected type")` -/
example : Scope01 (fnApi (.list [.enum ["a"]])) = false ∧
    errOf (runGenerator (fnApi (.list [.enum ["a"]])) true) = some .valueError := by decide +kernel
/-- a class type with an empty name: `name[0]` raises `IndexError` -/
example : Scope01 (fnApi (.named "" "pkg.m.X")) = false ∧
    errOf (runGenerator (fnApi (.named "" "pkg.m.X")) true) = some .indexError := by decide +kernel
/-- a class type without qualified name: `raise ValueError("Type has no import source.")` -/
example : Scope01 (fnApi (.named "X" "")) = false ∧
    errOf (runGenerator (fnApi (.named "X" "")) true) = some .valueError := by decide +kernel
/-- the same for a generic class with arguments (`importable`) -/
example : Scope01 (fnApi (.namedSeq "Sequence" "" [tInt])) = false ∧
    errOf (runGenerator (fnApi (.namedSeq "Sequence" "" [tInt])) true) = some .valueError := by decide +kernel
/-- a public superclass from another library is fine (it is imported, a placeholder stub is written) … -/
example : Scope01 (clsApi ["other.Base"] [] []) = true ∧ errOf (runGenerator (clsApi ["other.Base"] [] []) true) = none := by
  decide +kernel
/-- … an empty superclass string is not: the same `ValueError` of `_add_to_imports` -/
example : Scope01 (clsApi [""] [] []) = false ∧ errOf (runGenerator (clsApi [""] [] []) true) = some .valueError := by
  decide +kernel
/-- a private superclass that is not a class of the package (a private base class from another library):
    `_get_class_in_package` raises `LookupError` -/
example : Scope01 (clsApi ["other_lib.base._Base"] [] []) = false ∧
    errOf (runGenerator (clsApi ["other_lib.base._Base"] [] []) true) = some .lookupError := by decide +kernel

/-- a private class that is its own superclass: the inlining never ends (`RecursionError` in Python, the
    recursion budget in the model) -/
private def cyclic : Class :=
  { id := "pkg/m/_A", name := "_A", isPublic := false, superclasses := ["pkg.m._A"] }
example : Scope01 (clsApi ["pkg.m._A"] [] [cyclic]) = false ∧
    errOf (runGenerator (clsApi ["pkg.m._A"] [] [cyclic]) true) = some .unsupported := by decide +kernel

/-- `nest k`: a chain of `k + 1` nested public classes -/
private def nest : Nat → Class
  | 0 => { id := "pkg/m/C/D", name := "D", isPublic := true }
  | n + 1 => { id := "pkg/m/C/D", name := "D", isPublic := true, classes := [nest n] }

/-- with an empty class table the budget is 64: `C` may contain a chain of 63 nested classes … -/
example : nestDepth (nest 62) = 63 ∧ Scope01 (clsApi [] [nest 62] []) = true := by decide +kernel
/-- … but not of 64 -/
example : nestDepth (nest 63) = 64 ∧ Scope01 (clsApi [] [nest 63] []) = false ∧
    errOf (runGenerator (clsApi [] [nest 63] []) true) = some .unsupported := by decide +kernel

/-- `Scope01` is sufficient, not necessary: it asks every result type to be `typeOk`, but a lone `None`
    result is dropped before its (here empty) name is looked at -/
private def noneOnlyApi : API :=
  { package := "pkg",
    modules := [{ id := "pkg/m", name := "m",
                  functions := [{ id := "pkg/m/f", name := "f", isPublic := true,
                                  results := [{ id := "r", name := "result_1",
                                                type := some (.named "" "builtins.None") }] }] }] }
example : Scope01 noneOnlyApi = false ∧ errOf (runGenerator noneOnlyApi true) = none := by decide +kernel

/-- the same at the level of one type: the return type `None` of a callable is recognised by its name and
    never imported, so its missing qualified name does no harm -/
example : typeOk (.callable [] (.named "None" "")) = false ∧
    (match typeStr ⟨{}, true⟩ (.callable [] (.named "None" "")) {} with
      | .ok (s, _) => some s
      | .error _ => none) = some "() -> ()" := by decide +kernel

/-! ### 5. non-vacuity: a package with a re-exported function with all parameter kinds, a function without
types, a generic class with constructor, property, nested class and a private base class in another module
(whose method is inlined), and an enum -/

private def clsBase : Class :=
  { id := "pkg/_mod_b/_Base", name := "_Base", isPublic := false,
    methods := [{ id := "pkg/_mod_b/_Base/helper", name := "helper", isPublic := true,
                  params := [mkP "self" .implicit none, mkP "x" .positionOrName (some tInt)],
                  results := [{ id := "r", name := "result_1", type := some (.list [tStr]) }] }] }

private def clsInner : Class :=
  { id := "pkg/shapes/Widget/Inner", name := "Inner", isPublic := true,
    attributes := [{ id := "pkg/shapes/Widget/Inner/size", name := "size", isPublic := true, isStatic := false, type := some tInt }] }

private def clsWidget : Class :=
  { id := "pkg/shapes/Widget", name := "Widget", isPublic := true,
    superclasses := ["pkg._mod_b._Base"],
    ctor := some { id := "pkg/shapes/Widget/__init__", name := "__init__", isPublic := true,
                   params := [mkP "self" .implicit none, mkP "label" .positionOrName (some tStr)] },
    methods := [{ id := "pkg/shapes/Widget/area", name := "area", isPublic := true, isProperty := true,
                  results := [{ id := "r", name := "result_1", type := some (.union [tInt, .named "None" "builtins.None"]) }] }],
    classes := [clsInner],
    typeParams := [{ name := "T", type := some tInt, variance := .covariant }] }

private def exApi : API :=
  { package := "pkg",
    modules := [
      { id := "pkg/__init__", name := "__init__",
        qualifiedImports := [{ qualifiedName := "pkg.funcs.do_it", «alias» := none }] },
      { id := "pkg/funcs", name := "funcs",
        functions := [
          { id := "pkg/funcs/do_it", name := "do_it", isPublic := true,
            reexportedBy := [{ id := "pkg", qualifiedImports := [{ qualifiedName := "pkg.funcs.do_it", «alias» := none }] }],
            typeVars := [{ name := "T", upperBound := some tInt }],
            params := [mkP "a" .positionOnly (some tInt),
                       mkP "b" .positionOrName (some (.named "Array" "numpy.core.Array")) true (.str "None"),
                       mkP "args" .positionalVararg (some (.tuple [tInt])),
                       mkP "c" .nameOnly (some (.set [tStr])),
                       mkP "kwargs" .namedVararg (some (.dict tStr tInt))],
            results := [{ id := "r", name := "result_1", type := some (.typeVar "T") }] },
          { id := "pkg/funcs/plain", name := "plain", isPublic := true,
            params := [mkP "x" .positionOrName none] }] },
      { id := "pkg/shapes", name := "shapes", classes := [clsWidget] },
      { id := "pkg/colors", name := "colors", docstring := "Doc.",
        enums := [{ id := "pkg/colors/Color", name := "Color",
                    instances := [{ id := "pkg/colors/Color/RED", name := "RED" }] }] },
      { id := "pkg/_mod_b", name := "_mod_b", classes := [clsBase] }],
    classes := [clsWidget, clsInner, clsBase] }


private def exApiA : API := { exApi with modules := exApi.modules.filter (fun m => m.classes.isEmpty) }
private def exApiB : API := { exApi with modules := exApi.modules.filter (fun m => !m.classes.isEmpty) }

private def summary (r : Except PyErr GenResult) : Option (List String × List String) :=
  match r with
  | .ok g => some (g.ops.map (·.path), g.log.map (fun e => e.1 ++ " " ++ e.2))
  | .error _ => none

/-- the package is in the scope … -/
example : Scope01 exApi = true := by decide +kernel
/-- … hence the run returns normally (by the theorem) … -/
example : ∃ r, runGenerator exApi true = .ok r := generator_total exApi true [] (by decide +kernel)
/-- … and by evaluation (in two halves, to keep each kernel evaluation short): files written and
    declarations emitted by the function/enum half -/
example : summary (runGenerator exApiA true) = some (
    ["pkg/funcs/funcs.sdsstub", "pkg/colors/colors.sdsstub", "pkg/do_it.sdsstub", "numpy/core/core.sdsstub"],
    ["module pkg/funcs", "moved pkg/funcs/do_it", "fun pkg/funcs/plain", "module pkg/colors", "enum pkg/colors/Color",
     "restub pkg/do_it", "fun pkg/funcs/do_it"]) := by decide +kernel

/-- the class half of the same package -/
example : summary (runGenerator exApiB true) = some (
    ["pkg/shapes/shapes.sdsstub"],
    ["module pkg/shapes", "class pkg/shapes/Widget", "class pkg/shapes/Widget/Inner", "attr pkg/shapes/Widget/Inner/size",
     "endclass pkg/shapes/Widget/Inner", "prop pkg/shapes/Widget/area", "fun pkg/_mod_b/_Base/helper",
     "endclass pkg/shapes/Widget", "module pkg/_mod_b"]) := by decide +kernel

end StubGen.C01
