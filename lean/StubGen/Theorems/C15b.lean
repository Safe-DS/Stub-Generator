/-
C15 — whole-tool part: the test-run flag inside `_run_stub_generator`.
-/
import StubGen.Proofs.Pipeline
import StubGen.Theorems.C15

namespace StubGen.C15b

open StubGen List

/-- END TO END: for a source tree without `test`/`tests`/`docs` directories the flag changes NOTHING of the run: same
    error, or same API JSON text and same write log. -/
theorem tool_flag_irrelevant (i : ToolInput) (h : ∀ f ∈ i.files, inExcludedDir f = false) (b : Bool) :
    runTool { i with isTestRun := b } = runTool i := by
  have h' : ∀ f ∈ sortPaths i.files, inExcludedDir f = false := fun f hf => h f ((pl_mem_sortPaths f _).mp hf)
  refine pl_runTool_congr ?_ rfl rfl rfl
  rw [pl_getApi_eq, pl_getApi_eq]
  exact congrArg (· >>= _) (pl_discoverFrom_flag i.srcDir (sortPaths i.files) h' b i.isTestRun)

/-- END TO END: every module the walker visits is a module of mypy's graph that was discovered: a kept file, or the
    `__init__.py` of a kept package directory. -/
theorem tool_analysed_kept (i : ToolInput) {o : ToolOutput} (h : runTool i = .ok o) :
    ∃ root d, discoverSorted i.srcDir i.files i.isTestRun = .ok (root, d) ∧
      o.analysed = selectAsts (i.graph.map (·.path)) d ∧
      ∀ p ∈ o.analysed, p ∈ i.graph.map (·.path) ∧ (p ∈ d.walkable.map pathStr ∨ pyEndsWith p "__init__.py" = true) := by
  obtain ⟨root, d, r, ws, text, gen, hd, _, _, _, ho⟩ := pl_runTool_ok h
  have ha : o.analysed = selectAsts (i.graph.map (·.path)) d := by
    rw [ho]; exact pl_selectModules_paths i.graph d
  refine ⟨root, d, hd, ha, ?_⟩
  intro p hp
  rw [ha] at hp
  exact C15.analysed_subset _ d p hp

end StubGen.C15b
