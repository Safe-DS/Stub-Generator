/-
C17 — "A public class that derives, directly or transitively, from private classes of the package shows in
its stub every public method of those private ancestors exactly once, the subclass's own definition taking
precedence over inherited ones and nearer ancestors over farther ones.  Private ancestors are never named in
the stub's superclass list, while public superclasses are listed in declaration order …"
GENERATOR side, on the emission log (exact logs: `StubGen.C03`; machinery: `StubGen.Proofs.Emission`).

What is proved for ALL inputs: the superclass list (8), own definitions win (9), the exact inherited part of a
class block for every hierarchy (`C03.class_log_shape` + `C03.internalLog_eq`).  "Exactly once, nearer wins"
holds when the private ancestry is a CHAIN (10); for a DIAMOND it is FALSE of the model (and of the tool): the
set of defined names is handed DOWN each branch but not ACROSS sibling bases — known finding K17
(`diamond_logged_twice`, `diamond_inherited_twice`).
-/
import StubGen.Proofs.Emission

namespace StubGen.C17

open StubGen

/-! ### 8. the superclass list -/

/-- for ANY inlining function: the names returned by the superclass loop are the last dotted components of
    the superclasses whose last component has no `_` prefix, keyword-escaped, in declaration order — a private
    ancestor is never named -/
theorem private_supers_not_named (env : Env) (inline : String → G String) (scs : List String) (st st' : St)
    (names : List String) (text : String) (h : superclassesG env inline scs st = .ok ((names, text), st')) :
    names = (scs.filter fun s => !isInternal (lastD "" (splitDot s))).map
      fun s => escapeKeyword (lastD "" (splitDot s)) :=
  n03_superclassesG_names env inline scs st (names, text) st' h

/-- the log of the loop: the private superclasses, and only they, are inlined, in declaration order (for the
    public ones `addToImports` runs instead, which logs nothing) -/
theorem supers_log (env : Env) (fuel : Nat) (inner : String) (ad : List String) (scs : List String) (st st' : St)
    (r : List String × String)
    (h : superclassesG env (fun sc => createInternalClassString env fuel sc inner ad) scs st = .ok (r, st')) :
    st'.log = st.log ++ (scs.filter fun s => isInternal (lastD "" (splitDot s))).flatMap
      fun sc => n03_internalLog env fuel sc ad :=
  (n03_superclassesG_tr env (L := fun sc => n03_internalLog env fuel sc ad)
    (fun sc st => (n03_class_tr env fuel).2 sc inner ad st) scs st r st' h).2.log

/-! ### 9. the subclass's own definition wins -/

/-- whatever the kind of class: a method whose name is in `already` is skipped -/
theorem own_definition_wins (m : Function) (isInternalClass : Bool) (already : List String)
    (h : m.name ∈ already) : methodSkipped m isInternalClass already = true := by
  unfold methodSkipped
  have : already.contains m.name = true := by simpa using h
  rw [this, Bool.or_true]

/-- the set handed to the inlining of the private bases (`n03_ownNames c`, see `C03.class_log_shape`: the
    inlined part of the block of `c` is `n03_internalLog env fuel sc (n03_ownNames c)`) contains exactly the
    names of the emitted attributes, of the emitted own methods and of the public inner classes -/
theorem own_names (c : Class) (n : String) :
    n ∈ n03_ownNames c ↔
      (∃ a ∈ c.attributes, a.isPublic = true ∧ isTypeVarType a.type = false ∧ a.name = n) ∨
      (∃ m ∈ c.methods, m.isPublic = true ∧ m.name = n) ∨
      (∃ ic ∈ c.classes, ic.isPublic = true ∧ ic.name = n) := by
  have ha : ∀ a : Attribute, n03_attrShown a = true ↔ a.isPublic = true ∧ isTypeVarType a.type = false := by
    intro a; simp [n03_attrShown]
  have hm : ∀ m : Function, methodSkipped m false [] = false ↔ m.isPublic = true := by
    intro m; cases h : m.isPublic <;> simp [methodSkipped, h]
  unfold n03_ownNames
  simp only [n03_mem_unionSet, n03_mem_attrNames, n03_mem_methNames, ha, hm, List.mem_map, List.mem_filter,
    and_assoc, or_assoc]

/-- this IS the set `createClassString` builds in the run: the sets `createClassAttributeString` /
    `createClassMethodString` return, and the names of the public inner classes -/
theorem own_names_in_run (env : Env) (c : Class) (inner : String) (st st' st'' : St) (ra rm : String × List String)
    (h1 : createClassAttributeString env c.attributes inner st = .ok (ra, st'))
    (h2 : createClassMethodString env c.methods inner false [] st' = .ok (rm, st'')) :
    unionSet (unionSet ra.2 rm.2) ((c.classes.filter (·.isPublic)).map (·.name)) = n03_ownNames c := by
  rw [(n03_createClassAttributeString_tr env c.attributes inner st ra st' h1).1,
    (n03_createClassMethodString_tr env c.methods inner false [] st' rm st'' h2).1]
  rfl

/-- hence no method of a directly inlined private base `k` whose name the class defines itself is logged -/
theorem inherited_shadowed_by_own (c k : Class) :
    ∀ e ∈ n03_methLog true (n03_ownNames c) k.methods,
      ∃ m ∈ k.methods, m.name ∉ n03_ownNames c ∧ e = (if m.isProperty then "prop" else "fun", m.id) := by
  intro e he
  simp only [n03_methLog, List.mem_map] at he
  obtain ⟨m, hm, rfl⟩ := he
  obtain ⟨h1, h2⟩ := List.mem_filter.1 hm
  refine ⟨m, h1, fun hin => ?_, rfl⟩
  rw [own_definition_wins m true _ hin] at h2
  cases h2

/-- and the set only grows on the way up: what the class or a nearer ancestor defines stays defined -/
theorem defined_grows (ad : List String) (ms : List Function) (n : String) (h : n ∈ ad) :
    n ∈ unionSet ad (n03_methNames true ad ms) :=
  (n03_mem_unionSet _ _ _).2 (Or.inl h)

/-! ### 10. a chain of private ancestors: inherited exactly once, nearer wins -/

/-- `n03_chain env fuel scs = some ks` says: following the private superclasses from `scs`, every class on the
    path has at most one private superclass, each resolves through `getClassInPackage`, the path ends within
    `fuel` steps; `ks` is the path, nearest ancestor first -/
theorem chain_eq (env : Env) (fuel : Nat) (scs : List String) :
    n03_chain env 0 scs = (if (scs.filter n03_privSuper).isEmpty then some [] else none) ∧
    n03_chain env (fuel + 1) scs =
      match scs.filter n03_privSuper with
      | [] => some []
      | [s] =>
        (match getClassInPackage env s with
         | .ok k => (n03_chain env fuel k.superclasses).map (k :: ·)
         | .error _ => none)
      | _ => none :=
  ⟨by rw [n03_chain], rfl⟩

/-- the block of a class with a chain ancestry: the inherited part is `n03_inheritedLog` -/
theorem chain_block (env : Env) (fuel : Nat) (c : Class) (ks : List Class)
    (hchain : n03_chain env fuel c.renderedSupers = some ks) (hab : c.isAbstract = false) :
    n03_classLog env (fuel + 1) c = ("class", c.id) ::
      (n03_attrLog c.attributes
        ++ (c.classes.filter (·.isPublic)).flatMap (n03_classLog env fuel)
        ++ n03_methLog false [] c.methods
        ++ n03_inheritedLog env fuel (n03_ownNames c) ks
        ++ [("endclass", c.id)]) := by
  rw [n03_classLog]
  have hi := n03_chain_log env fuel c.renderedSupers ks (n03_ownNames c) (n03_ownNames c) hchain (fun _ => Iff.rfl)
  by_cases he : c.renderedSupers.isEmpty = true
  · have hnil : c.renderedSupers = [] := by simpa using he
    rw [hnil] at hi
    simp only [List.filter_nil, List.flatMap_nil] at hi
    simp only [he, Bool.not_true, Bool.false_and, Bool.false_eq_true, if_false, ← hi]
  · have he' : c.renderedSupers.isEmpty = false := by simpa using he
    simp only [he', hab, Bool.not_false, Bool.and_self, if_true, hi]

/-- per ancestor, nearest first: its methods that are visible (public, or without `_` prefix) and whose name
    is not yet defined; the blocks of its inner classes without `_` prefix; then the rest of the chain with the
    visible method names of this ancestor added to the defined set -/
theorem inheritedLog_eq (env : Env) (fuel : Nat) (defined : List String) (k : Class) (ks : List Class) :
    n03_inheritedLog env fuel defined [] = [] ∧
    n03_inheritedLog env (fuel + 1) defined (k :: ks) =
      (k.methods.filter fun m => (m.isPublic || !isInternal m.name) && !defined.contains m.name).map
          (fun m => (if m.isProperty then "prop" else "fun", m.id))
        ++ (k.classes.filter fun ic => !isInternal ic.name && !defined.contains ic.name).flatMap (n03_classLog env fuel)
        ++ n03_inheritedLog env fuel
            (defined ++ (k.methods.filter fun m => m.isPublic || !isInternal m.name).map (·.name)) ks := by
  refine ⟨by cases fuel <;> rfl, ?_⟩
  rw [n03_inheritedLog]
  rfl

/-- INHERITED EXACTLY ONCE, NEARER WINS.  For a class whose private ancestry is the chain `ks`, the inherited
    method entries of its block (those outside inner-class blocks) are `n03_inheritedMeths (own names) ks`, one
    entry per list element, in order; and the method `m` of the `i`-th ancestor is in that list iff its name
    is visible, is not defined by the class itself, and is not the name of a visible method of a nearer
    ancestor — a shadowed method is not logged. -/
theorem inherited_once_chain (env : Env) (fuel : Nat) (c : Class) (ks : List Class)
    (hchain : n03_chain env fuel c.renderedSupers = some ks) :
    n03_topMeths (n03_inheritedLog env fuel (n03_ownNames c) ks) =
        (n03_inheritedMeths (n03_ownNames c) ks).map (fun m => (if m.isProperty then "prop" else "fun", m.id)) ∧
    ∀ m : Function, m ∈ n03_inheritedMeths (n03_ownNames c) ks ↔
      ∃ (i : Nat) (k : Class), ks[i]? = some k ∧ m ∈ k.methods ∧ (m.isPublic = true ∨ isInternal m.name = false) ∧
        m.name ∉ n03_ownNames c ∧
        ∀ (j : Nat) (k' : Class) (m' : Function), j < i → ks[j]? = some k' → m' ∈ k'.methods →
          (m'.isPublic = true ∨ isInternal m'.name = false) → m'.name ≠ m.name := by
  refine ⟨n03_topMeths_inherited env fuel _ ks (n03_chain_length env fuel _ ks hchain), ?_⟩
  intro m
  have hv : ∀ x : Function, n03_visName x = true ↔ (x.isPublic = true ∨ isInternal x.name = false) := by
    intro x; simp [n03_visName]
  generalize n03_ownNames c = defined
  clear hchain
  induction ks generalizing defined with
  | nil => simp [n03_inheritedMeths]
  | cons k ks ih =>
    rw [n03_inheritedMeths, List.mem_append]
    constructor
    · rintro (h | h)
      · obtain ⟨hm, hc⟩ := List.mem_filter.1 h
        have hc' : n03_visName m = true ∧ m.name ∉ defined := by simpa using hc
        exact ⟨0, k, rfl, hm, (hv m).1 hc'.1, hc'.2, fun j _ _ hj => absurd hj (Nat.not_lt_zero _)⟩
      · obtain ⟨i, k', hk', hm, hvm, hnd, hsh⟩ := (ih _).1 h
        refine ⟨i + 1, k', by simpa using hk', hm, hvm, ?_, ?_⟩
        · intro hin; exact hnd (List.mem_append.2 (Or.inl hin))
        · intro j k'' m' hj hk'' hm' hv' hname
          cases j with
          | zero =>
            have : k'' = k := by simpa using hk''.symm
            subst this
            apply hnd
            rw [List.mem_append, List.mem_map]
            exact Or.inr ⟨m', List.mem_filter.2 ⟨hm', (hv m').2 hv'⟩, hname⟩
          | succ j =>
            exact hsh j k'' m' (by omega) (by simpa using hk'') hm' hv' hname
    · rintro ⟨i, k', hk', hm, hvm, hnd, hsh⟩
      cases i with
      | zero =>
        have : k' = k := by simpa using hk'.symm
        subst this
        exact Or.inl (List.mem_filter.2 ⟨hm, by simp [(hv m).2 hvm, hnd]⟩)
      | succ i =>
        refine Or.inr ((ih _).2 ⟨i, k', by simpa using hk', hm, hvm, ?_, ?_⟩)
        · intro hin
          rcases List.mem_append.1 hin with hin | hin
          · exact hnd hin
          · rw [List.mem_map] at hin
            obtain ⟨m', hm', hname⟩ := hin
            obtain ⟨hm1, hm2⟩ := List.mem_filter.1 hm'
            exact hsh 0 k m' (Nat.succ_pos _) rfl hm1 ((hv m').1 hm2) hname
        · intro j k'' m' hj hk'' hm' hv' hname
          exact hsh (j + 1) k'' m' (by omega) (by simpa using hk'') hm' hv' hname

theorem inheritedMeths_eq (defined : List String) (k : Class) (ks : List Class) :
    n03_inheritedMeths defined [] = [] ∧
    n03_inheritedMeths defined (k :: ks) =
      (k.methods.filter fun m => n03_visName m && !defined.contains m.name)
        ++ n03_inheritedMeths (defined ++ (k.methods.filter n03_visName).map (·.name)) ks :=
  ⟨rfl, rfl⟩

theorem topMeths_eq (Δ : List LogEntry) : n03_topMeths Δ = (n03_top 0 Δ).filter fun e => e.1 != "class" := rfl

/-! ### K17: the diamond -/

private def dA : Class :=
  { id := "pkg/mod/_A", name := "_A", isPublic := false,
    methods := [{ id := "pkg/mod/_A/shared", name := "shared", isPublic := true }] }
private def dB : Class :=
  { id := "pkg/mod/_B", name := "_B", isPublic := false,
    methods := [{ id := "pkg/mod/_B/shared", name := "shared", isPublic := true }] }
private def dC : Class :=
  { id := "pkg/mod/C", name := "C", isPublic := true, superclasses := ["pkg.mod._A", "pkg.mod._B"] }
private def dEnv : Env := { api := { package := "pkg", classes := [dC, dA, dB] }, safe := true }

/-- two private sibling bases both DEFINE `shared`: it is emitted twice (log and text) -/
theorem diamond_logged_twice :
    (match createClassString dEnv 5 dC "" true {} with
      | .ok (t, st') => (t, st'.log)
      | .error _ => ("", [])) =
    ("class C() {\n    // TODO Result type information missing.\n    @Pure\n    fun shared()\n\n" ++
      "    // TODO Result type information missing.\n    @Pure\n    fun shared()\n}",
     [("class", "pkg/mod/C"), ("fun", "pkg/mod/_A/shared"), ("fun", "pkg/mod/_B/shared"),
      ("endclass", "pkg/mod/C")]) := by
  decide +kernel

private def eBase : Class :=
  { id := "pkg/mod/_Base", name := "_Base", isPublic := false,
    methods := [{ id := "pkg/mod/_Base/shared", name := "shared", isPublic := true }] }
private def eA : Class := { id := "pkg/mod/_A", name := "_A", isPublic := false, superclasses := ["pkg.mod._Base"] }
private def eB : Class := { id := "pkg/mod/_B", name := "_B", isPublic := false, superclasses := ["pkg.mod._Base"] }
private def eEnv : Env := { api := { package := "pkg", classes := [dC, eA, eB, eBase] }, safe := true }

/-- two private sibling bases both INHERIT `shared` from a common private base: the very same method
    (`pkg/mod/_Base/shared`) is logged twice -/
theorem diamond_inherited_twice :
    (match createClassString eEnv 5 dC "" true {} with
      | .ok (_, st') => st'.log
      | .error _ => []) =
    [("class", "pkg/mod/C"), ("fun", "pkg/mod/_Base/shared"), ("fun", "pkg/mod/_Base/shared"),
     ("endclass", "pkg/mod/C")] := by
  decide +kernel

/-- the chain hypothesis of `inherited_once_chain` rules the diamonds out -/
example : (n03_chain dEnv 4 dC.superclasses).isNone = true ∧ (n03_chain eEnv 4 dC.superclasses).isNone = true := by
  decide +kernel

/-- hence "every inherited method is logged exactly once" is false without the chain hypothesis -/
theorem inherited_once_false_for_diamond :
    ¬ ∀ (env : Env) (fuel : Nat) (c : Class) (st st' : St) (t : String),
        createClassString env fuel c "" true st = .ok (t, st') →
        ∀ e ∈ st'.log, e.1 = "fun" → (st'.log.filter (· == e)).length = 1 := by
  intro H
  cases hrun : createClassString eEnv 5 dC "" true {} with
  | error e =>
    have := diamond_inherited_twice
    rw [hrun] at this
    simp at this
  | ok r =>
    obtain ⟨t, st'⟩ := r
    have hlog := diamond_inherited_twice
    rw [hrun] at hlog
    dsimp only at hlog
    have := H eEnv 5 dC {} st' t hrun ("fun", "pkg/mod/_Base/shared") (by rw [hlog]; decide) rfl
    rw [hlog] at this
    revert this
    decide +kernel

/-! ### 11. non-vacuity: a closed example through `callGenerator` -/

private def xInt : AType := .named "int" "builtins.int"
private def xB : Class :=
  { id := "pkg/mod/_B", name := "_B", isPublic := false,
    methods := [{ id := "pkg/mod/_B/bar", name := "bar", isPublic := true },
                { id := "pkg/mod/_B/baz", name := "baz", isPublic := true },
                { id := "pkg/mod/_B/_hidden", name := "_hidden", isPublic := false }] }
private def xA : Class :=
  { id := "pkg/mod/_A", name := "_A", isPublic := false, superclasses := ["pkg.mod._B"],
    methods := [{ id := "pkg/mod/_A/foo", name := "foo", isPublic := true },
                { id := "pkg/mod/_A/bar", name := "bar", isPublic := true }] }
private def xC : Class :=
  { id := "pkg/mod/C", name := "C", isPublic := true, superclasses := ["pkg.mod._A", "other.Pub"],
    attributes := [{ id := "pkg/mod/C/x", name := "x", isPublic := true, isStatic := false, type := some xInt }],
    methods := [{ id := "pkg/mod/C/foo", name := "foo", isPublic := true }] }
private def xM : Module :=
  { id := "pkg/mod", name := "mod",
    functions := [{ id := "pkg/mod/f", name := "f", isPublic := true },
                  { id := "pkg/mod/_g", name := "_g", isPublic := false }],
    classes := [xC, xA, xB],
    enums := [{ id := "pkg/mod/E", name := "E" }] }
private def xEnv : Env := { api := { package := "pkg", modules := [xM], classes := [xC, xA, xB] }, safe := true }

/-- module with a public and a private function, a public class `C(_A, other.Pub)` with an attribute, the
    private chain `_A(_B)`, `C.foo` overriding `_A.foo`, `_A.bar` shadowing `_B.bar`, an enum.
    LOG order inside the class: attribute, own `foo`, inherited `bar` (from `_A`), inherited `baz` (from `_B`). -/
example :
    (match callGenerator xEnv xM {} with
      | .ok (_, st') => st'.log
      | .error _ => []) =
    [("module", "pkg/mod"), ("fun", "pkg/mod/f"), ("class", "pkg/mod/C"), ("attr", "pkg/mod/C/x"),
     ("fun", "pkg/mod/C/foo"), ("fun", "pkg/mod/_A/bar"), ("fun", "pkg/mod/_B/baz"), ("endclass", "pkg/mod/C"),
     ("enum", "pkg/mod/E")] := by
  decide +kernel

/-- TEXT order inside the class: attribute, inherited `bar`, inherited `baz`, and only then the own `foo`;
    the private ancestor `_A` is not named after `sub`, the public `Pub` is -/
example :
    (match callGenerator xEnv xM {} with
      | .ok (r, _) => r.1
      | .error _ => "") =
    "package pkg.mod\n\nfrom other import Pub\n\n// TODO Result type information missing.\n@Pure\nfun f()\n\n" ++
    "class C() sub Pub {\n    attr x: Int\n\n" ++
    "    // TODO Result type information missing.\n    @Pure\n    fun bar()\n\n" ++
    "    // TODO Result type information missing.\n    @Pure\n    fun baz()\n\n" ++
    "    // TODO Result type information missing.\n    @Pure\n    fun foo()\n}\n\nenum E\n" := by
  decide +kernel

/-- the chain hypothesis holds for it, with the ancestors nearest first -/
example : (n03_chain xEnv (classFuel xEnv - 1) xC.superclasses).map (·.map (·.id)) =
    some ["pkg/mod/_A", "pkg/mod/_B"] := by
  decide +kernel

/-- and the theorem's list is what the run logged -/
example : (n03_inheritedMeths (n03_ownNames xC) [xA, xB]).map (·.id) = ["pkg/mod/_A/bar", "pkg/mod/_B/baz"] := by
  decide +kernel

/-! a public inner class hides an inherited member of the same name: `C` has the public inner class `foo`,
    its private base `_B` has a method `foo` — the method is neither logged nor printed (`bar` is) -/

private def zB : Class :=
  { id := "pkg/mod/_B", name := "_B", isPublic := false,
    methods := [{ id := "pkg/mod/_B/foo", name := "foo", isPublic := true },
                { id := "pkg/mod/_B/bar", name := "bar", isPublic := true }] }
private def zFoo : Class := { id := "pkg/mod/C/foo", name := "foo", isPublic := true }
private def zC : Class :=
  { id := "pkg/mod/C", name := "C", isPublic := true, superclasses := ["pkg.mod._B"], classes := [zFoo] }
private def zEnv : Env := { api := { package := "pkg", classes := [zC, zB, zFoo] }, safe := true }

example : n03_ownNames zC = ["foo"] := by decide +kernel

example :
    (match createClassString zEnv 5 zC "" true {} with
      | .ok (t, st') => (t, st'.log)
      | .error _ => ("", [])) =
    ("class C() {\n    @PythonName(\"foo\")\n    class Foo()\n\n    // TODO Result type information missing.\n    @Pure\n    fun bar()\n}",
     [("class", "pkg/mod/C"), ("class", "pkg/mod/C/foo"), ("endclass", "pkg/mod/C/foo"),
      ("fun", "pkg/mod/_B/bar"), ("endclass", "pkg/mod/C")]) := by
  decide +kernel

/-! a moved declaration: `f` is re-exported by the package `pkg` (shorter path) — logged `moved` in its module,
    emitted once in the re-export stub `pkg/f` -/

private def pkgRef : ModRef := { id := "pkg", qualifiedImports := [⟨"pkg.mod.f", none⟩] }
private def yM : Module :=
  { id := "pkg/mod", name := "mod",
    functions := [{ id := "pkg/mod/f", name := "f", isPublic := true, reexportedBy := [pkgRef] },
                  { id := "pkg/mod/h", name := "h", isPublic := true }] }
private def yEnv : Env := { api := { package := "pkg", modules := [yM] }, safe := true }

example :
    (match generateStubData yEnv {} with
      | .ok (ds, st') => (st'.log, ds.map fun d => (d.dir, d.name))
      | .error _ => ([], [])) =
    ([("module", "pkg/mod"), ("moved", "pkg/mod/f"), ("fun", "pkg/mod/h"), ("restub", "pkg/f"), ("fun", "pkg/mod/f")],
     [("pkg/mod", "mod"), ("pkg/f", "f")]) := by
  decide +kernel

end StubGen.C17
