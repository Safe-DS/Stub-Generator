/-
C20 — TODO markers (model: `StubGen.Model.Gen`; specification of the deserved keys:
`StubGen.Spec.Markers`).  "A declaration in a stub is preceded by the corresponding TODO marker
exactly when it exhibits a construct Safe-DS cannot express.  Markers sit on that declaration and on
no other."  The generator collects marker keys in `St.todos` (a duplicate-free list used as a set)
and `createTodoMsg` prints them sorted and empties the set.  All statements are for all inputs and
all generator states unless a hypothesis is stated.  Proof machinery: `StubGen.Proofs.Markers`.
-/
import StubGen.Proofs.Markers

namespace StubGen.C20

open StubGen

/-! ### 1. types -/

/-- every key but the state-dependent one is pending after `typeStr` iff it was pending before or the
    type deserves it -/
theorem typeStr_todos (env : Env) (t : AType) (st st' : St) (s : String)
    (h : typeStr env t st = .ok (s, st')) (k : String) (hk : k ≠ "internal class as type") :
    k ∈ st'.todos ↔ (k ∈ st.todos ∨ k ∈ Spec.typeKeys t) :=
  (typeStr_grows env t st s st' h).mem k hk

/-- the state-dependent key appears only if the type mentions a class named `_…` -/
theorem typeStr_internal (env : Env) (t : AType) (st st' : St) (s : String)
    (h : typeStr env t st = .ok (s, st')) :
    "internal class as type" ∈ st'.todos →
      "internal class as type" ∈ st.todos ∨ Spec.mentionsInternal t = true :=
  (typeStr_grows env t st s st' h).internal

theorem typeStr_nodup (env : Env) (t : AType) (st st' : St) (s : String)
    (h : typeStr env t st = .ok (s, st')) : st.todos.Nodup → st'.todos.Nodup :=
  (typeStr_grows env t st s st' h).nodup

/-- `typeStr` changes nothing of the state except `todos`, `imports`, `outside` -/
theorem typeStr_frame (env : Env) (t : AType) (st st' : St) (s : String)
    (h : typeStr env t st = .ok (s, st')) :
    st'.log = st.log ∧ st'.reexports = st.reexports ∧ st'.classGenerics = st.classGenerics ∧
      st'.moduleId = st.moduleId ∧ st'.reexportModuleId = st.reexportModuleId ∧
      st'.creatingReexport = st.creatingReexport :=
  let g := typeStr_grows env t st s st' h
  ⟨g.log, g.reexports, g.classGenerics, g.moduleId, g.reexportModuleId, g.creatingReexport⟩

/-! ### 2. parameters -/

theorem createParameter_todos (env : Env) (p : Parameter) (st st' : St) (out : ParamOut)
    (h : createParameter env p st = .ok (out, st')) (hp : Spec.optionalIsTyped p = true)
    (k : String) (hk : k ≠ "internal class as type") :
    k ∈ st'.todos ↔ (k ∈ st.todos ∨ k ∈ Spec.paramKeys p) :=
  (createParameter_grows env p hp st out st' h).mem k hk

theorem createParameter_nodup (env : Env) (p : Parameter) (st st' : St) (out : ParamOut)
    (h : createParameter env p st = .ok (out, st')) (hp : Spec.optionalIsTyped p = true) :
    st.todos.Nodup → st'.todos.Nodup :=
  (createParameter_grows env p hp st out st' h).nodup

/-- the hypothesis `optionalIsTyped` is needed: an untyped optional parameter whose default could not
    be parsed deserves "unknown value", but the generator drops the default of an untyped parameter -/
private def untypedOptional : Parameter :=
  { id := "m/f/x", name := "x", isOptional := true, default := .unknown, assignedBy := .positionOrName,
    type := none }

example : Spec.optionalIsTyped untypedOptional = false := by decide +kernel
example : "unknown value" ∈ Spec.paramKeys untypedOptional := by decide +kernel
example : (match createParameter ⟨{}, true⟩ untypedOptional {} with
    | .ok (_, st') => st'.todos
    | .error _ => []) = ["param without type"] := by decide +kernel

/-! ### 3. flushing -/

theorem createTodoMsg_flushes (indent : String) (st st' : St) (s : String)
    (h : createTodoMsg indent st = .ok (s, st')) : st'.todos = [] ∧ st' = { st with todos := [] } := by
  have := ((createTodoMsg_ok indent st (s, st')).1 h).2
  cases this
  exact ⟨rfl, rfl⟩

/-- the marker line of key `k` (`todoMsgOf` of the proof file) -/
abbrev msg (k : String) : String := todoMsgOf k

example (k : String) : msg k = Generated.todoPrefix ++ (assocGet? Generated.todoMessages k).getD "" := rfl

/-- the marker block of a key set (`renderTodos` of the proof file): the sorted marker lines, each
    indented and terminated by a newline -/
abbrev todoBlock (indent : String) (keys : List String) : String := renderTodos indent keys

example (indent : String) (keys : List String) : todoBlock indent keys =
    if keys = [] then "" else indent ++ joinWith ("\n" ++ indent) (sortStrings (keys.map msg)) ++ "\n" := rfl

/-- when every pending key has a message the call succeeds and prints the sorted marker lines -/
theorem createTodoMsg_text (indent : String) (st : St)
    (hkeys : ∀ k ∈ st.todos, (assocGet? Generated.todoMessages k).isSome) :
    ∃ s st', createTodoMsg indent st = .ok (s, st') ∧
      s = if st.todos = [] then ""
          else indent ++ joinWith ("\n" ++ indent) (sortStrings (st.todos.map msg)) ++ "\n" :=
  ⟨_, _, (createTodoMsg_ok indent st _).2 ⟨hkeys, rfl⟩, rfl⟩

/-- and whenever the call succeeds that is its text -/
theorem createTodoMsg_text' (indent : String) (st st' : St) (s : String)
    (h : createTodoMsg indent st = .ok (s, st')) :
    (∀ k ∈ st.todos, (assocGet? Generated.todoMessages k).isSome) ∧
    s = if st.todos = [] then ""
        else indent ++ joinWith ("\n" ++ indent) (sortStrings (st.todos.map msg)) ++ "\n" := by
  have := (createTodoMsg_ok indent st (s, st')).1 h
  refine ⟨this.1, ?_⟩
  have h2 := this.2
  cases h2
  rfl

/-! ### 4. markers never move to a neighbouring declaration -/

theorem flushed_function (env : Env) (f : Function) (indent : String) (isMethod inRe : Bool)
    (st st' : St) (text : String)
    (h : createFunctionString env f indent isMethod inRe st = .ok (text, st')) :
    st'.todos = [] ∨ (text = "" ∧ st'.todos = st.todos) :=
  createFunctionString_flushed env f indent isMethod inRe st text st' h

theorem flushed_property (env : Env) (f : Function) (indent : String) (st st' : St) (text : String)
    (h : createPropertyFunctionString env f indent st = .ok (text, st')) : st'.todos = [] :=
  createPropertyFunctionString_flushed env f indent st text st' h

theorem flushed_attribute (env : Env) (a : Attribute) (inner : String) (st st' : St) (text : String)
    (h : createAttribute env a inner st = .ok (some text, st')) : st'.todos = [] :=
  (createAttribute_flushed env a inner st _ st' h).2 (by simp)

theorem skipped_attribute (env : Env) (a : Attribute) (inner : String) (st st' : St)
    (h : createAttribute env a inner st = .ok (none, st')) : st' = st :=
  (createAttribute_flushed env a inner st _ st' h).1 rfl

theorem flushed_class (env : Env) (fuel : Nat) (c : Class) (indent : String) (inRe : Bool)
    (st st' : St) (text : String)
    (h : createClassString env fuel c indent inRe st = .ok (text, st')) :
    st'.todos = [] ∨ (text = "" ∧ st'.todos = st.todos) :=
  createClassString_flushed env fuel c indent inRe st text st' h

theorem flushed_module (env : Env) (m : Module) (st st' : St) (r : String × String)
    (h : createModuleString env m st = .ok (r, st')) (h0 : st.todos = []) : st'.todos = [] :=
  createModuleString_keeps env m st h0 r st' h

/-! ### 5. marker iff feature: functions

`function_markers` as proposed — with `Spec.functionKeys` and no condition on the result types — is
false of the model: `Spec.resultKeys` asks for "result without type" when every typed result
`Spec.rendersEmpty` (unions all of whose members render empty, under `Final`s), but the generator
renders one more kind of type as the empty string (`rendersEmptyM`): type variables whose converted
name is empty (`__` under the Safe-DS naming convention), and the marker appears for them too.
(The former counterexample `union [union []]` is now covered by `Spec.rendersEmpty`, see below.) -/

private def gBad : Function :=
  { id := "m/g", name := "g", isPublic := true,
    results := [{ id := "m/g/r", name := "r", type := some (.typeVar "__") }] }

/-- the former counterexample: specification and generator now agree on it -/
private def gNested : Function :=
  { id := "m/g", name := "g", isPublic := true,
    results := [{ id := "m/g/r", name := "r", type := some (.union [.union []]) }] }

example : (match createFunctionString ⟨{}, true⟩ gNested "" false false {} with
    | .ok (text, st') => (text, st'.todos)
    | .error _ => ("", [])) = ("// TODO Result type information missing.\n@Pure\nfun g()", []) := by decide +kernel
example : Spec.functionKeys gNested false gNested.typeVars = ["result without type"] := by decide +kernel
example : rendersEmptyM true (.union [.union []]) = true ∧ Spec.rendersEmpty (.union [.union []]) = true := by
  decide +kernel

/-- counterexample: all hypotheses of `function_markers` hold (empty pending set, not re-exported, no
    parameters), the stub carries the marker "result without type", the specification's key set is empty -/
example : (match createFunctionString ⟨{}, true⟩ gBad "" false false {} with
    | .ok (text, st') => (text, st'.todos)
    | .error _ => ("", [])) = ("// TODO Result type information missing.\n@Pure\nfun g()", []) := by decide +kernel
example : Spec.functionKeys gBad false gBad.typeVars = [] := by decide +kernel
example : rendersEmptyM true (.typeVar "__") = true ∧ Spec.rendersEmpty (.typeVar "__") = false ∧
    mk_tvNonempty true (.typeVar "__") = false := by decide +kernel

private theorem isPrefixOfL_append_right {p a : List Char} (h : isPrefixOfL p a = true) (x : List Char) :
    isPrefixOfL p (a ++ x) = true := by
  induction p generalizing a with
  | nil => rfl
  | cons c p ih =>
    cases a with
    | nil => cases h
    | cons d a =>
      rw [isPrefixOfL, Bool.and_eq_true] at h
      rw [List.cons_append, isPrefixOfL, h.1, ih h.2]; rfl

/-- a text whose first marker line is not that of "internal class as type" is not a block of that marker alone
    followed by a rest that does not begin with a marker -/
private theorem not_internal_block {keys : List String} {text rest : String} (hnd : keys.Nodup)
    (hsub : ∀ k ∈ keys, k = "internal class as type") (htext : text = todoBlock "" keys ++ rest)
    (hrest : pyStartsWith rest ("" ++ "// TODO") = false)
    (hm : pyStartsWith text "// TODO" = true) (hi : pyStartsWith text "// TODO An" = false) : False := by
  match keys, hnd, hsub with
  | [], _, _ =>
    rw [show text = rest by rw [htext]; exact String.empty_append] at hm
    rw [String.empty_append, hm] at hrest
    cases hrest
  | [k], _, hs =>
    cases hs k List.mem_cons_self
    rw [htext, pyStartsWith, String.toList_append,
      isPrefixOfL_append_right (by decide +kernel)] at hi
    cases hi
  | k1 :: k2 :: _, hnd, hs =>
    rw [hs k1 (by simp), hs k2 (by simp)] at hnd
    simp at hnd
/-- `function_markers` as proposed: `Spec.functionKeys`, no condition on the result types -/
def FunctionMarkersProposed : Prop :=
  ∀ (env : Env) (f : Function) (indent : String) (isMethod inRe : Bool) (st st' : St) (text : String),
    createFunctionString env f indent isMethod inRe st = .ok (text, st') → st.todos = [] →
    (isMethod = true ∨ inRe = true ∨ f.reexportedBy = []) →
    (∀ p ∈ f.params, Spec.optionalIsTyped p = true) →
    ∃ keys rest, keys.Nodup ∧
      (∀ k, k ≠ "internal class as type" →
        (k ∈ keys ↔ k ∈ Spec.functionKeys f isMethod
          (f.typeVars.filter fun tv =>
            !isMethod || !st.classGenerics.contains (escapeKeyword (convertName tv.name env.safe))))) ∧
      text = todoBlock indent keys ++ rest ∧
      pyStartsWith rest (indent ++ "// TODO") = false

/-- … is refuted by `gBad` -/
theorem function_markers_proposed_false : ¬ FunctionMarkersProposed := by
  intro H
  have hex : (match createFunctionString ⟨{}, true⟩ gBad "" false false {} with
      | .ok (text, st') => (text, st'.todos)
      | .error _ => ("", [])) = ("// TODO Result type information missing.\n@Pure\nfun g()", []) := by decide +kernel
  cases hrun : createFunctionString ⟨{}, true⟩ gBad "" false false {} with
  | error e =>
    rw [hrun] at hex
    simp only [Prod.mk.injEq] at hex
    exact absurd hex.1 (by decide)
  | ok r =>
    obtain ⟨text, st'⟩ := r
    rw [hrun] at hex
    simp only [Prod.mk.injEq] at hex
    obtain ⟨keys, rest, hnd, hk, htext, hrest⟩ :=
      H _ _ _ _ _ _ _ _ hrun rfl (Or.inr (Or.inr rfl)) (by decide)
    have hsub : ∀ k ∈ keys, k = "internal class as type" := by
      intro k hkm
      by_contra hne
      have := (hk k hne).1 hkm
      have he : Spec.functionKeys gBad false
          (gBad.typeVars.filter fun tv => !false || !({} : St).classGenerics.contains
            (escapeKeyword (convertName tv.name (⟨{}, true⟩ : Env).safe))) = [] := by decide +kernel
      rw [he] at this
      simp at this
    rw [hex.1] at htext
    exact not_internal_block hnd hsub htext hrest (by decide +kernel) (by decide +kernel)

/-- the same inside a union: every member renders empty in the model, not in the specification -/
example : rendersEmptyM true (.union [.typeVar "__", .union []]) = true ∧
    Spec.rendersEmpty (.union [.typeVar "__", .union []]) = false := by decide +kernel

/-- `rendersEmptyM` and `Spec.rendersEmpty` differ only through such type variables: they agree on
    every type in which no type variable with an empty converted name sits under unions / `Final`s
    (`mk_tvNonempty`), in particular on every type without type variables -/
theorem rendersEmpty_agree (safe : Bool) (t : AType) (h : mk_tvNonempty safe t = true) :
    rendersEmptyM safe t = Spec.rendersEmpty t :=
  mk_rendersEmptyM_eq safe t h

theorem rendersEmpty_agree_of_noTypeVar (safe : Bool) (t : AType) (h : mk_hasTypeVar t = false) :
    rendersEmptyM safe t = Spec.rendersEmpty t :=
  mk_rendersEmptyM_eq safe t (mk_tvNonempty_of_noTypeVar safe t h)

/-- and the specification's notion always implies the model's -/
theorem rendersEmpty_sound (safe : Bool) (t : AType) (h : Spec.rendersEmpty t = true) :
    rendersEmptyM safe t = true :=
  rendersEmptyM_of_rendersEmpty safe t h

/-- the strongest true variant: marker iff feature w.r.t. `functionKeysM`, which is `Spec.functionKeys`
    with `rendersEmptyM` (the types the model renders as `""`) in place of `Spec.rendersEmpty` -/
theorem function_markers_model (env : Env) (f : Function) (indent : String) (isMethod inRe : Bool)
    (st st' : St) (text : String)
    (h : createFunctionString env f indent isMethod inRe st = .ok (text, st'))
    (h0 : st.todos = []) (hnm : isMethod = true ∨ inRe = true ∨ f.reexportedBy = [])
    (hps : ∀ p ∈ f.params, Spec.optionalIsTyped p = true) :
    ∃ keys rest, keys.Nodup ∧
      (∀ k, k ≠ "internal class as type" →
        (k ∈ keys ↔ k ∈ functionKeysM env.safe f isMethod
          (f.typeVars.filter fun tv =>
            !isMethod || !st.classGenerics.contains (escapeKeyword (convertName tv.name env.safe))))) ∧
      ("internal class as type" ∈ keys → functionInternal f = true) ∧
      (∀ k ∈ keys, (assocGet? Generated.todoMessages k).isSome) ∧
      text = todoBlock indent keys ++ rest ∧
      (∃ funcParams tvs resultString, rest = functionRest env f indent funcParams tvs resultString) ∧
      pyStartsWith rest (indent ++ "// TODO") = false ∧
      st'.todos = [] := by
  obtain ⟨hst, keys, fp, tvs, rs, h1, h2, h3, h4, h5⟩ :=
    createFunctionString_markers env f indent isMethod inRe st h0 hnm hps text st' h
  exact ⟨keys, _, h1, h2, h3, h4, h5, ⟨fp, tvs, rs, rfl⟩, functionRest_not_marker env f indent fp tvs rs,
    by rw [hst]⟩

/-- `function_markers` under the extra hypothesis that the two notions of "renders empty" agree on the
    result types (`PlainResults`) -/
theorem function_markers_of_agree (env : Env) (f : Function) (indent : String) (isMethod inRe : Bool)
    (st st' : St) (text : String)
    (h : createFunctionString env f indent isMethod inRe st = .ok (text, st'))
    (h0 : st.todos = []) (hnm : isMethod = true ∨ inRe = true ∨ f.reexportedBy = [])
    (hps : ∀ p ∈ f.params, Spec.optionalIsTyped p = true)
    (hres : ∀ r ∈ f.results, ∀ t, r.type = some t → rendersEmptyM env.safe t = Spec.rendersEmpty t) :
    ∃ keys rest, keys.Nodup ∧
      (∀ k, k ≠ "internal class as type" →
        (k ∈ keys ↔ k ∈ Spec.functionKeys f isMethod
          (f.typeVars.filter fun tv =>
            !isMethod || !st.classGenerics.contains (escapeKeyword (convertName tv.name env.safe))))) ∧
      ("internal class as type" ∈ keys → functionInternal f = true) ∧
      (∀ k ∈ keys, (assocGet? Generated.todoMessages k).isSome) ∧
      text = todoBlock indent keys ++ rest ∧
      (∃ funcParams tvs resultString, rest = functionRest env f indent funcParams tvs resultString) ∧
      pyStartsWith rest (indent ++ "// TODO") = false ∧
      st'.todos = [] := by
  have := function_markers_model env f indent isMethod inRe st st' text h h0 hnm hps
  rw [functionKeysM_eq isMethod _ hres] at this
  exact this

/-- `function_markers` under a syntactic hypothesis on the result types: no type variable whose
    converted name is empty sits under the unions / `Final`s of a result type (`mk_tvNonempty`; true in
    particular when no such type variable occurs at all).  (Statement changed: the hypothesis was
    `rendersEmptyM env.safe t = Spec.rendersEmpty t`; that variant is `function_markers_of_agree`.) -/
theorem function_markers_partial (env : Env) (f : Function) (indent : String) (isMethod inRe : Bool)
    (st st' : St) (text : String)
    (h : createFunctionString env f indent isMethod inRe st = .ok (text, st'))
    (h0 : st.todos = []) (hnm : isMethod = true ∨ inRe = true ∨ f.reexportedBy = [])
    (hps : ∀ p ∈ f.params, Spec.optionalIsTyped p = true)
    (hres : ∀ r ∈ f.results, ∀ t, r.type = some t → mk_tvNonempty env.safe t = true) :
    ∃ keys rest, keys.Nodup ∧
      (∀ k, k ≠ "internal class as type" →
        (k ∈ keys ↔ k ∈ Spec.functionKeys f isMethod
          (f.typeVars.filter fun tv =>
            !isMethod || !st.classGenerics.contains (escapeKeyword (convertName tv.name env.safe))))) ∧
      ("internal class as type" ∈ keys → functionInternal f = true) ∧
      (∀ k ∈ keys, (assocGet? Generated.todoMessages k).isSome) ∧
      text = todoBlock indent keys ++ rest ∧
      (∃ funcParams tvs resultString, rest = functionRest env f indent funcParams tvs resultString) ∧
      pyStartsWith rest (indent ++ "// TODO") = false ∧
      st'.todos = [] :=
  function_markers_of_agree env f indent isMethod inRe st st' text h h0 hnm hps
    (mk_plainResults_of_tvNonempty hres)

/-- a function whose only result is `None` gets no result list and no "result without type" marker:
    the result part is empty and the state untouched -/
theorem only_none_result_no_marker (env : Env) (rs : List Result) (st : St)
    (h : Spec.onlyNoneResult rs = true) : createResultString env rs st = .ok ("", st) := by
  rw [mk_createResultString_eq, if_pos h]
  rfl

/-- conversely, unless the only result is `None`, every typed result is rendered (no early return at a
    `None` result) and the markers of all their types are pending afterwards -/
theorem result_markers (env : Env) (rs : List Result) (st st' : St) (s : String)
    (h : createResultString env rs st = .ok (s, st')) (k : String) (hk : k ≠ "internal class as type") :
    k ∈ st'.todos ↔ (k ∈ st.todos ∨ k ∈ resultKeysM env.safe rs) :=
  (createResultString_grows env rs st s st' h).mem k hk

theorem result_markers_spec (env : Env) (rs : List Result) (st st' : St) (s : String)
    (h : createResultString env rs st = .ok (s, st'))
    (hres : ∀ r ∈ rs, ∀ t, r.type = some t → mk_tvNonempty env.safe t = true)
    (k : String) (hk : k ≠ "internal class as type") :
    k ∈ st'.todos ↔ (k ∈ st.todos ∨ k ∈ Spec.resultKeys rs) := by
  rw [← resultKeysM_eq (mk_plainResults_of_tvNonempty hres)]
  exact result_markers env rs st st' s h k hk

/-- the state after a function differs from the state before only in the log entry, the (emptied)
    pending set, and `imports` / `outside` -/
theorem function_frame (env : Env) (f : Function) (indent : String) (isMethod inRe : Bool)
    (st st' : St) (text : String)
    (h : createFunctionString env f indent isMethod inRe st = .ok (text, st'))
    (h0 : st.todos = []) (hnm : isMethod = true ∨ inRe = true ∨ f.reexportedBy = [])
    (hps : ∀ p ∈ f.params, Spec.optionalIsTyped p = true) :
    st' = { st with log := st.log ++ [("fun", f.id)], todos := [], imports := st'.imports,
                    outside := st'.outside } :=
  (createFunctionString_markers env f indent isMethod inRe st h0 hnm hps text st' h).1

/-! ### 6. marker iff feature: attributes (same difference between `rendersEmptyM` and `Spec.rendersEmpty`;
an attribute whose type *is* a type variable is skipped, so the type variable sits inside a union) -/

private def aBad : Attribute :=
  { id := "m/C/x", name := "x", isPublic := true, isStatic := false, type := some (.union [.typeVar "__"]) }

/-- the former counterexample: specification and generator now agree on it -/
private def aNested : Attribute :=
  { id := "m/C/x", name := "x", isPublic := true, isStatic := false, type := some (.union [.union []]) }

example : (match createAttribute ⟨{}, true⟩ aNested "    " {} with
    | .ok (text, st') => (text, st'.todos)
    | .error _ => (none, [])) = (some "    // TODO Attribute has no type information.\n    attr x", []) := by
  decide +kernel
example : Spec.attributeKeys aNested = ["attr without type"] := by decide +kernel

example : (match createAttribute ⟨{}, true⟩ aBad "    " {} with
    | .ok (text, st') => (text, st'.todos)
    | .error _ => (none, [])) = (some "    // TODO Attribute has no type information.\n    attr x", []) := by
  decide +kernel
example : Spec.attributeKeys aBad = [] := by decide +kernel

/-- `attribute_markers` as proposed (`Spec.attributeKeys`, no condition on the type) -/
def AttributeMarkersProposed : Prop :=
  ∀ (env : Env) (a : Attribute) (inner : String) (st st' : St) (text : String),
    createAttribute env a inner st = .ok (some text, st') → st.todos = [] →
    ∃ keys rest, keys.Nodup ∧
      (∀ k, k ≠ "internal class as type" → (k ∈ keys ↔ k ∈ Spec.attributeKeys a)) ∧
      text = todoBlock inner keys ++ rest ∧
      pyStartsWith rest (inner ++ "// TODO") = false

theorem attribute_markers_proposed_false : ¬ AttributeMarkersProposed := by
  intro H
  have hex : (match createAttribute ⟨{}, true⟩ aBad "" {} with
      | .ok (text, st') => (text, st'.todos)
      | .error _ => (none, [])) = (some "// TODO Attribute has no type information.\nattr x", []) := by decide +kernel
  cases hrun : createAttribute ⟨{}, true⟩ aBad "" {} with
  | error e =>
    rw [hrun] at hex
    simp only [Prod.mk.injEq] at hex
    exact absurd hex.1 (by decide)
  | ok r =>
    obtain ⟨text, st'⟩ := r
    rw [hrun] at hex
    simp only [Prod.mk.injEq] at hex
    obtain ⟨htx, _⟩ := hex
    subst htx
    obtain ⟨keys, rest, hnd, hk, htext, hrest⟩ := H _ _ _ _ _ _ hrun rfl
    have hsub : ∀ k ∈ keys, k = "internal class as type" := by
      intro k hkm
      by_contra hne
      have := (hk k hne).1 hkm
      have he : Spec.attributeKeys aBad = [] := by decide +kernel
      rw [he] at this
      simp at this
    exact not_internal_block hnd hsub htext hrest (by decide +kernel) (by decide +kernel)

theorem attribute_markers_model (env : Env) (a : Attribute) (inner : String) (st st' : St) (text : String)
    (h : createAttribute env a inner st = .ok (some text, st')) (h0 : st.todos = []) :
    ∃ keys rest, keys.Nodup ∧
      (∀ k, k ≠ "internal class as type" → (k ∈ keys ↔ k ∈ attributeKeysM env.safe a)) ∧
      ("internal class as type" ∈ keys → attributeInternal a = true) ∧
      (∀ k ∈ keys, (assocGet? Generated.todoMessages k).isSome) ∧
      text = todoBlock inner keys ++ rest ∧
      (∃ attrType, rest = attributeRest env a inner attrType) ∧
      pyStartsWith rest (inner ++ "// TODO") = false ∧
      st'.todos = [] := by
  obtain ⟨hst, keys, ty, h1, h2, h3, h4, h5⟩ :=
    createAttribute_markers env a inner st h0 (some text) st' h text rfl
  exact ⟨keys, _, h1, h2, h3, h4, h5, ⟨ty, rfl⟩, attributeRest_not_marker env a inner ty, by rw [hst]⟩

theorem attribute_markers_of_agree (env : Env) (a : Attribute) (inner : String) (st st' : St) (text : String)
    (h : createAttribute env a inner st = .ok (some text, st')) (h0 : st.todos = [])
    (hty : ∀ t, a.type = some t → rendersEmptyM env.safe t = Spec.rendersEmpty t) :
    ∃ keys rest, keys.Nodup ∧
      (∀ k, k ≠ "internal class as type" → (k ∈ keys ↔ k ∈ Spec.attributeKeys a)) ∧
      ("internal class as type" ∈ keys → attributeInternal a = true) ∧
      (∀ k ∈ keys, (assocGet? Generated.todoMessages k).isSome) ∧
      text = todoBlock inner keys ++ rest ∧
      (∃ attrType, rest = attributeRest env a inner attrType) ∧
      pyStartsWith rest (inner ++ "// TODO") = false ∧
      st'.todos = [] := by
  have := attribute_markers_model env a inner st st' text h h0
  rw [attributeKeysM_eq hty] at this
  exact this

/-- `attribute_markers` under the syntactic hypothesis `mk_tvNonempty` on the attribute's type
    (statement changed: the hypothesis was `rendersEmptyM env.safe t = Spec.rendersEmpty t`; that variant
    is `attribute_markers_of_agree`) -/
theorem attribute_markers_partial (env : Env) (a : Attribute) (inner : String) (st st' : St) (text : String)
    (h : createAttribute env a inner st = .ok (some text, st')) (h0 : st.todos = [])
    (hty : ∀ t, a.type = some t → mk_tvNonempty env.safe t = true) :
    ∃ keys rest, keys.Nodup ∧
      (∀ k, k ≠ "internal class as type" → (k ∈ keys ↔ k ∈ Spec.attributeKeys a)) ∧
      ("internal class as type" ∈ keys → attributeInternal a = true) ∧
      (∀ k ∈ keys, (assocGet? Generated.todoMessages k).isSome) ∧
      text = todoBlock inner keys ++ rest ∧
      (∃ attrType, rest = attributeRest env a inner attrType) ∧
      pyStartsWith rest (inner ++ "// TODO") = false ∧
      st'.todos = [] :=
  attribute_markers_of_agree env a inner st st' text h h0
    (fun t ht => mk_rendersEmptyM_eq env.safe t (hty t ht))

/-! ### 7. classes (beyond the specification file, which has no key set for classes)

A class prints two marker blocks in front of `class`: one for the constructor parameters and the
bounds of the type parameters (`ctorKeys`, `genericKeys`), one for the superclass list
(`inheritanceKeys`: "multiple_inheritance" iff more than one superclass name follows `sub`).
Everything printed in between — attributes, inner classes, methods, inlined private superclasses —
flushes its own markers, so none of them reaches the second block. -/

theorem class_markers (env : Env) (fuel : Nat) (c : Class) (indent : String) (inRe : Bool)
    (st st' : St) (text : String)
    (h : createClassString env fuel c indent inRe st = .ok (text, st'))
    (h0 : st.todos = []) (hnm : inRe = true ∨ c.reexportedBy = [])
    (hps : ∀ ctor, c.ctor = some ctor → ∀ p ∈ ctor.params, Spec.optionalIsTyped p = true) :
    st'.todos = [] ∧
    ∃ keys post, keys.Nodup ∧
      (∀ k, k ≠ "internal class as type" → (k ∈ keys ↔ k ∈ ctorKeys c ++ genericKeys c)) ∧
      text = classPrefix env c indent ++ (todoBlock indent keys ++
        (todoBlock indent (inheritanceKeys c) ++ ("class " ++ post))) :=
  createClassString_markers env fuel c indent inRe st h0 hnm hps text st' h

/-! ### Non-vacuity -/

section Examples

/-- a function with a tuple-typed optional position-only parameter, an untyped `*args`, no results -/
private def fEx : Function :=
  { id := "m/f", name := "f", isPublic := true,
    params := [
      { id := "m/f/a", name := "a", isOptional := true, default := .int 0, assignedBy := .positionOnly,
        type := some (.tuple [.named "int" "builtins.int", .named "str" "builtins.str"]) },
      { id := "m/f/args", name := "args", isOptional := false, default := .none,
        assignedBy := .positionalVararg, type := none }] }

set_option maxRecDepth 100000 in
/-- the exact stub text: five marker lines, sorted, directly above the declaration; nothing pending -/
example : (match createFunctionString ⟨{}, true⟩ fEx "" false false {} with
    | .ok (text, st') => (text, st'.todos)
    | .error _ => ("", [])) =
    ("// TODO Result type information missing.\n" ++
     "// TODO Safe-DS does not support optional but position only parameter assignments.\n" ++
     "// TODO Safe-DS does not support tuple types.\n" ++
     "// TODO Safe-DS does not support variadic parameters.\n" ++
     "// TODO Some parameter have no type information.\n" ++
     "@Pure\nfun f(\n    a: Tuple<Int, String> = 0,\n    args: List<Any>\n)", []) := by decide +kernel

/-- the hypotheses of `function_markers_partial` hold for it, and the specification asks for exactly
    these five keys -/
example : ∀ p ∈ fEx.params, Spec.optionalIsTyped p = true := by decide +kernel
example : fEx.reexportedBy = [] := rfl
example : ∀ r ∈ fEx.results, ∀ t, r.type = some t → mk_tvNonempty true t = true := by
  intro r hr; cases hr
example : Spec.functionKeys fEx false fEx.typeVars =
    ["no tuple support", "OPT_POS_ONLY", "param without type", "variadic", "result without type"] := by decide +kernel

/-- results: a lone `None` result gives neither a result list nor a marker; otherwise every typed result
    is rendered, `None` included, and the markers of all result types appear -/
private def gNone : Function :=
  { id := "m/g", name := "g", isPublic := true,
    results := [{ id := "m/g/r", name := "r", type := some (.named "None" "builtins.None") }] }
private def gTwo : Function :=
  { id := "m/g", name := "g", isPublic := true,
    results := [{ id := "m/g/r", name := "r", type := some (.named "None" "builtins.None") },
                { id := "m/g/s", name := "s", type := some (.tuple [.named "int" "builtins.int"]) }] }

example : Spec.onlyNoneResult gNone.results = true ∧ Spec.onlyNoneResult gTwo.results = false := by decide +kernel
example : (match createFunctionString ⟨{}, true⟩ gNone "" false false {} with
    | .ok (text, st') => (text, st'.todos)
    | .error _ => ("", [])) = ("@Pure\nfun g()", []) := by decide +kernel
example : Spec.functionKeys gNone false gNone.typeVars = [] := by decide +kernel
example : (match createFunctionString ⟨{}, true⟩ gTwo "" false false {} with
    | .ok (text, st') => (text, st'.todos)
    | .error _ => ("", [])) =
    ("// TODO Safe-DS does not support tuple types.\n@Pure\nfun g() -> (r: Nothing?, s: Tuple<Int>)", []) := by
  decide +kernel
example : Spec.functionKeys gTwo false gTwo.typeVars = ["no tuple support"] := by decide +kernel
example : ∀ r ∈ gTwo.results, ∀ t, r.type = some t → mk_tvNonempty true t = true := by decide +kernel

/-- `typeStr` on a nested type: keys added to a non-empty pending set, no duplicates -/
example : (match typeStr ⟨{}, true⟩ (.set [.tuple [.unknown], .list [.unknown, .unknown]]) { todos := ["unknown"] } with
    | .ok (s, st') => (s, st'.todos)
    | .error _ => ("", [])) =
    ("Set<Tuple<unknown>, List<unknown, unknown>>", ["unknown", "no tuple support", "List", "no set support", "Set"]) := by
  decide +kernel

/-- an attribute with a set type inside a class body -/
private def aEx : Attribute :=
  { id := "m/C/s", name := "s", isPublic := true, isStatic := true, type := some (.set [.named "int" "builtins.int"]) }
example : (match createAttribute ⟨{}, true⟩ aEx "    " {} with
    | .ok (text, st') => (text, st'.todos)
    | .error _ => (none, [])) =
    (some "    // TODO Safe-DS does not support set types.\n    static attr s: Set<Int>", []) := by decide +kernel
example : Spec.attributeKeys aEx = ["no set support"] := by decide +kernel

/-- `createTodoMsg` on a two-element pending set -/
example : (match createTodoMsg "  " { todos := ["variadic", "Set"] } with
    | .ok (s, st') => (s, st'.todos)
    | .error _ => ("", ["?"])) =
    ("  // TODO Safe-DS does not support variadic parameters.\n  // TODO Set type has to many type arguments.\n", []) := by
  decide +kernel

/-- a class with a required keyword-only constructor parameter and two superclasses -/
private def cExInit : Function :=
  { id := "m/C/__init__", name := "__init__", isPublic := true,
    params := [
      { id := "m/C/__init__/self", name := "self", isOptional := false, default := .none,
        assignedBy := .implicit, type := none },
      { id := "m/C/__init__/x", name := "x", isOptional := false, default := .none, assignedBy := .nameOnly,
        type := some (.named "int" "builtins.int") }] }
private def cEx : Class :=
  { id := "m/C", name := "C", isPublic := true, superclasses := ["m.A", "m.B"], ctor := some cExInit }

set_option maxRecDepth 100000 in
example : (match createClassString ⟨{}, true⟩ 3 cEx "" false {} with
    | .ok (text, st') => (text, st'.todos)
    | .error _ => ("", [])) =
    ("// TODO Safe-DS does not support required but name only parameter assignments.\n" ++
     "// TODO Safe-DS does not support multiple inheritance.\n" ++
     "class C(\n    x: Int\n) sub A, B", []) := by decide +kernel
example : (ctorKeys cEx, genericKeys cEx, inheritanceKeys cEx) =
    (["REQ_NAME_ONLY"], [], ["multiple_inheritance"]) := by decide +kernel

/-- the same class with a keyword-named constructor type variable and a keyword-named superclass: the
    names are back-quoted in the generics, the parameter type and the superclass list; the two marker
    blocks are unchanged (the generics of the class are scoped to it: afterwards `classGenerics` is again
    what it was before, here `[]`) -/
private def cKwInit : Function :=
  { cExInit with
    typeVars := [{ name := "from", upperBound := none }],
    params := [
      { id := "m/C/__init__/self", name := "self", isOptional := false, default := .none,
        assignedBy := .implicit, type := none },
      { id := "m/C/__init__/x", name := "x", isOptional := false, default := .none, assignedBy := .nameOnly,
        type := some (.typeVar "from") }] }
private def cKw : Class :=
  { id := "m/C", name := "C", isPublic := true, superclasses := ["m.A", "m.in"], ctor := some cKwInit }

set_option maxRecDepth 100000 in
example : (match createClassString ⟨{}, true⟩ 3 cKw "" false {} with
    | .ok (text, st') => (text, st'.todos, st'.classGenerics)
    | .error _ => ("", [], [])) =
    ("// TODO Safe-DS does not support required but name only parameter assignments.\n" ++
     "// TODO Safe-DS does not support multiple inheritance.\n" ++
     "class C<`from`>(\n    x: `from`\n) sub A, `in`", [], []) := by decide +kernel
example : publicSuperNames cKw.superclasses = ["A", "`in`"] := by decide +kernel
example : (ctorKeys cKw, genericKeys cKw, inheritanceKeys cKw) =
    (["REQ_NAME_ONLY"], [], ["multiple_inheritance"]) := by decide +kernel

end Examples

end StubGen.C20
