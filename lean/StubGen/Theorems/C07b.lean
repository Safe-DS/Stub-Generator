/-
C07 — the two halves composed for an ANNOTATED function: from the return annotation to the result list in the stub.
-/
import StubGen.Theorems.C07
import StubGen.Theorems.C07a
import StubGen.Theorems.C05b

namespace StubGen.C07b

open StubGen Spec.MypyMap

/-- the result the analyser creates for an un-documented single return type -/
def result1 (fid : String) (t : AType) : Result :=
  { id := fid ++ "/" ++ resultNameGen 1, name := resultNameGen 1, type := some t }

/-- the generated name of the first result -/
example : resultNameGen 1 = "result_1" := by decide +kernel

/-- `-> None`: the analyser records the one result `result_1: None` (state untouched) … -/
theorem annotated_none_api (env : AEnv) (f : FuncDef) (fid : String) (s : VSt)
    (hn : (f.name == "__init__") = false) (hc : f.hasCallableType = true) (hr : f.retType = some .none) :
    parseResults env f fid [] s = .ok ([result1 fid (.named "None" "builtins.None")], s) := by
  unfold parseResults
  simp only [hn, hc, hr, Bool.false_eq_true, if_false, if_true, bind, StateT.bind, Except.bind, pure, StateT.pure, Except.pure]
  rfl

/-- … and the generator shows NO result for it: no arrow, no marker, whatever its state. END TO END for `-> None`. -/
theorem annotated_none_stub (env : AEnv) (f : FuncDef) (fid : String) (s : VSt)
    (hn : (f.name == "__init__") = false) (hc : f.hasCallableType = true) (hr : f.retType = some .none)
    (genv : Env) (gst : St) :
    ∃ rs, parseResults env f fid [] s = .ok (rs, s) ∧ createResultString genv rs gst = .ok ("", gst) :=
  ⟨_, annotated_none_api env f fid s hn hc hr, C07.none_annotation_no_results genv _ gst rfl⟩

/-- any other annotation whose analysed type is a hint (not an `Any` mypy filled in) and that the analyser translates to
    a non-tuple type `t`: exactly one result `result_1: t`, where `t` is the specified mapping of the mypy type -/
theorem annotated_single_api (env : AEnv) (f : FuncDef) (fid : String) (s s' : VSt) (rt : MType) (t : AType)
    (hn : (f.name == "__init__") = false) (hc : f.hasCallableType = true) (hr : f.retType = some rt)
    (hnone : rt ≠ .none) (hany : isIncorrectAny rt = false)
    (ht : toAbstract env rt f.unanalyzedRet s = .ok (t, s')) (hnt : ∀ ts, t ≠ .tuple ts) :
    parseResults env f fid [] s = .ok ([result1 fid t], s') ∧ t = mapTypeUn (resolveOf env s) rt f.unanalyzedRet := by
  refine ⟨?_, C05b.hint_type env rt f.unanalyzedRet s s' t ht⟩
  unfold parseResults
  -- the `match` on the annotation and the one on `t` are decided by `hnone` and `hnt`, taken from the context
  simp only [hn, hc, hr, hany, Bool.and_false, Bool.false_eq_true, if_false, if_true, bind, StateT.bind, Except.bind, pure,
    StateT.pure, Except.pure, ht]
  rfl

/-- END TO END for `-> T` (a hint the analyser translates to a non-tuple, non-`None` type that renders to a non-empty
    text): the stub shows exactly one result, named after the generated name `result_1` (converted, keyword-escaped), whose
    type text is the SPECIFIED text of the SPECIFIED mapping of the mypy type. -/
theorem annotated_single_stub (env : AEnv) (f : FuncDef) (fid : String) (s s' : VSt) (rt : MType) (t : AType)
    (hn : (f.name == "__init__") = false) (hc : f.hasCallableType = true) (hr : f.retType = some rt)
    (hnone : rt ≠ .none) (hany : isIncorrectAny rt = false)
    (ht : toAbstract env rt f.unanalyzedRet s = .ok (t, s')) (hnt : ∀ ts, t ≠ .tuple ts)
    (genv : Env) (gst gst' : St) (tx : String)
    (hts : typeStr genv t gst = .ok (tx, gst')) (hne : tx ≠ "") (hnn : isNoneNamed t = false) (hl : tt_litOk t = true) :
    ∃ rs, parseResults env f fid [] s = .ok (rs, s') ∧
      createResultString genv rs gst
        = .ok (" -> " ++ escapeKeyword (convertName (resultNameGen 1) genv.safe) ++ ": " ++ tx, gst') ∧
      tx = Spec.typeText genv.safe (mapTypeUn (resolveOf env s) rt f.unanalyzedRet) := by
  obtain ⟨h1, _⟩ := annotated_single_api env f fid s s' rt t hn hc hr hnone hany ht hnt
  refine ⟨_, h1, ?_, C05b.hint_to_stub_text env rt f.unanalyzedRet s s' t genv gst gst' tx ht hts hl⟩
  exact C07.single_result genv (result1 fid t) t gst gst' tx rfl hnn hts hne

end StubGen.C07b
