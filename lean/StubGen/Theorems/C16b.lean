/-
C16 — whole-tool part: a second run of `_run_stub_generator` into the directory the first run filled.
-/
import StubGen.Proofs.Pipeline
import StubGen.Theorems.C16

namespace StubGen.C16b

open StubGen

/-- nothing before the file writes looks at the output directory -/
theorem getApi_ignores_output_dir (i : ToolInput) (pre : List String) : getApi { i with preexisting := pre } = getApi i := rfl

/-- END TO END (partial: for class paths of other libraries that are coherent, `CoherentOutside`; the kernel-checked
    counterexample without it is in `Theorems/C16`): running the whole tool a second time, into the directory that now holds
    the files of the first run, computes the same result — same API, same API file text, same stubs, same write operations —
    and applying those operations again leaves every file as the first run left it. -/
theorem tool_second_run_partial (i : ToolInput) {o : ToolOutput}
    (h : runTool { i with preexisting := [] } = .ok o) (hc : CoherentOutside o.gen.outside) :
    runTool { i with preexisting := (applyWrites [] o.gen.ops).map (·.1) } = .ok o
    ∧ applyWrites (applyWrites [] o.gen.ops) o.gen.ops = applyWrites [] o.gen.ops := by
  obtain ⟨root, d, r, ws, text, gen, hd, ha, ht, hg, rfl⟩ := pl_runTool_ok h
  obtain ⟨h1, h2⟩ := C16.second_run_end_to_end_partial (r.toApi (pathStem root)) i.safe gen hg hc
  exact ⟨pl_runTool_of_stages (i := { i with preexisting := (applyWrites [] gen.ops).map (·.1) }) hd ha ht h1, h2⟩

end StubGen.C16b
