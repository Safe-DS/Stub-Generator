/-
C15a — which files are analysed: the root adjustment (`_get_nearest_init_dirs`, `get_api` lines 31-33),
the composed discovery step (`discoverFrom`) and the AST selection (`selectAsts`).

 1. `nearestInitDirs_loop_eq`: the model's min-based `nearestInitDirs` computes what the imperative
    loop of the Python code (`x15_loop`, a literal fold with the three branches) computes.
 2. `nearestInitDirs_spec` / `nearestInitDirs_order` / `nearestInitDirs_perm` / `adjustRoot_perm`.
 3. `adjustRoot_spec`, `adjustRoot_root_package_partial`, `adjustRoot_idempotent`, `adjustRoot_below`.
 4. `discoverFrom_eq` / `discoverFrom_spec`.
 5. `selectAsts_spec` / `selectAsts_order` / `selectAsts_sublist_perm`.
 6. kernel-checked examples.

Helper lemmas are in `Proofs/Roots.lean` (prefix `x15_`); C15 (`filter_spec`, `no_files_error`) and
C08 (`discoverFrom_enumeration_order`) are imported and reused.
-/
import StubGen.Proofs.Roots
import StubGen.Theorems.C15
import StubGen.Theorems.C08

namespace StubGen.C15a

open List

/-! ### 1. the model implements the full loop -/

/-- `_get_nearest_init_dirs` as written (state `(shortest_len, shortest_init_paths)`, `-1` = `none`):
    ```
    x15_step st init =
      match st.1 with
      | none => (some init.length, st.2 ++ [init.dropLast])
      | some shortest =>
        if init.length ≤ shortest then
          if init.length = shortest then (some shortest, st.2 ++ [init.dropLast])
          else (some init.length, [init.dropLast])
        else st
    x15_loop inits = inits.foldl x15_step (none, [])
    ```
    For every list of files the model's declarative definition returns the list the loop returns on
    `all_inits` (the `__init__.py` files, in glob order). -/
theorem nearestInitDirs_loop_eq (files : List PathParts) :
    nearestInitDirs files = (x15_loop (files.filter isInitFile)).2 := by
  rw [x15_loop_closed, p08_nearestInitDirs_eq]
  rfl

/-- the loop body, for reference (definitional) -/
theorem loop_step_eq (st : Option Nat × List PathParts) (init : PathParts) :
    x15_step st init =
      match st.1 with
      | none => (some init.length, st.2 ++ [init.dropLast])
      | some shortest =>
        if init.length ≤ shortest then
          if init.length = shortest then (some shortest, st.2 ++ [init.dropLast])
          else (some init.length, [init.dropLast])
        else st := rfl

theorem loop_eq (inits : List PathParts) : x15_loop inits = inits.foldl x15_step (none, []) := rfl

/-- the other component of the loop state: `shortest_len` stays `-1` iff there is no `__init__.py`,
    otherwise it is the least number of components -/
theorem loop_shortest_len (files : List PathParts) :
    ((x15_loop (files.filter isInitFile)).1 = none ↔ ∀ f ∈ files, isInitFile f = false) ∧
    (∀ m, (x15_loop (files.filter isInitFile)).1 = some m →
      (∃ f ∈ files, isInitFile f = true ∧ f.length = m) ∧ ∀ g ∈ files, isInitFile g = true → m ≤ g.length) := by
  rw [x15_loop_closed]
  unfold x15_reached
  dsimp only
  constructor
  · rw [Option.map_eq_none_iff, List.head?_eq_none_iff, List.filter_eq_nil_iff]
    exact forall₂_congr fun f _ => by rw [Bool.not_eq_true]
  · intro m hm
    obtain ⟨_, hh, rfl⟩ := Option.map_eq_some_iff.1 hm
    have hne : (files.filter isInitFile).map List.length ≠ [] := fun e => by
      rw [List.map_eq_nil_iff.1 e] at hh; cases hh
    obtain ⟨hmem, hle⟩ := x15_minLen_spec _ hne
    obtain ⟨f, hf, hfl⟩ := List.mem_map.1 hmem
    exact ⟨⟨f, (List.mem_filter.1 hf).1, (List.mem_filter.1 hf).2, hfl⟩,
      fun g hg hgi => hle _ (List.mem_map.2 ⟨g, List.mem_filter.2 ⟨hg, hgi⟩, rfl⟩)⟩

/-! ### 2. the declarative specification; enumeration order -/

/-- membership: the directories of the `__init__.py` files with the fewest path components -/
theorem nearestInitDirs_spec (files : List PathParts) (d : PathParts) :
    d ∈ nearestInitDirs files ↔
      ∃ f ∈ files, isInitFile f = true ∧ f.dropLast = d ∧
        ∀ g ∈ files, isInitFile g = true → f.length ≤ g.length := by
  rw [x15_nearest_eq_filter, List.mem_map]
  constructor
  · rintro ⟨f, hf, hfd⟩
    obtain ⟨hf1, hf2⟩ := List.mem_filter.1 hf
    obtain ⟨hi, hmin⟩ := (x15_isNearest_iff _ _).1 hf2
    exact ⟨f, hf1, hi, hfd, hmin⟩
  · rintro ⟨f, hf, hi, hfd, hmin⟩
    exact ⟨f, List.mem_filter.2 ⟨hf, (x15_isNearest_iff _ _).2 ⟨hi, hmin⟩⟩, hfd⟩

/-- order: the result is an order-preserving filter of the enumeration (glob order among the
    minimal ones), with multiplicities -/
theorem nearestInitDirs_order (files : List PathParts) :
    nearestInitDirs files = (files.filter (x15_isNearest files)).map List.dropLast ∧
    (∀ f, x15_isNearest files f = true ↔
      isInitFile f = true ∧ ∀ g ∈ files, isInitFile g = true → f.length ≤ g.length) ∧
    nearestInitDirs files <+ files.map List.dropLast :=
  ⟨x15_nearest_eq_filter files, x15_isNearest_iff files, by
    rw [x15_nearest_eq_filter]; exact (List.filter_sublist).map _⟩

/-- an `__init__.py` is determined by its directory: from a duplicate-free enumeration no directory
    is listed twice -/
theorem nearestInitDirs_nodup {files : List PathParts} (h : files.Nodup) : (nearestInitDirs files).Nodup := by
  rw [x15_nearest_eq_filter]
  apply List.Nodup.map_on _ (h.filter _)
  intro f hf g hg hfg
  exact x15_dropLast_inj ((x15_isNearest_iff _ _).1 (List.mem_filter.1 hf).2).1
    ((x15_isNearest_iff _ _).1 (List.mem_filter.1 hg).2).1 hfg

/-- two enumeration orders of the same tree -/
theorem nearestInitDirs_perm {files files' : List PathParts} (h : files ~ files') :
    nearestInitDirs files ~ nearestInitDirs files' :=
  p08_nearestInitDirs_perm h

/-- the analysed package does not depend on the enumeration order -/
theorem adjustRoot_perm (root : PathParts) {files files' : List PathParts} (h : files ~ files') :
    adjustRoot root files = adjustRoot root files' :=
  p08_adjustRoot_perm root h

/-- connection with C08's `discoverFrom_enumeration_order`: the common root `r` of the two runs there
    is `adjustRoot root files = adjustRoot root files'` -/
theorem discoverFrom_enumeration_order_root (root : PathParts) (isTestRun : Bool) {files files' : List PathParts}
    (h : files ~ files') {r : PathParts} {d : Discovered} (hd : discoverFrom root files isTestRun = .ok (r, d)) :
    r = adjustRoot root files ∧ r = adjustRoot root files' ∧
    ∃ d', discoverFrom root files' isTestRun = .ok (r, d') ∧ d.walkable ~ d'.walkable ∧ d.packages ~ d'.packages := by
  have hr := p08_discoverFrom_root hd
  refine ⟨hr, hr.trans (adjustRoot_perm root h), ?_⟩
  rcases C08.discoverFrom_enumeration_order root isTestRun h with ⟨e, h1, _⟩ | ⟨r', d1, d', h1, h2, h3, h4⟩
  · rw [hd] at h1; cases h1
  · rw [hd] at h1
    simp only [Except.ok.injEq, Prod.mk.injEq] at h1
    obtain ⟨rfl, rfl⟩ := h1
    exact ⟨d', h2, h3, h4⟩

/-! ### 3. `adjustRoot` -/

/-- in terms of the LIST of nearest directories (no hypothesis): replaced iff it is a singleton -/
theorem adjustRoot_cases (root : PathParts) (files : List PathParts) :
    (∃ d, nearestInitDirs files = [d] ∧ adjustRoot root files = d) ∨
    ((∀ d, nearestInitDirs files ≠ [d]) ∧ adjustRoot root files = root) :=
  x15_adjustRoot_cases root files

/-- For a duplicate-free enumeration (what `glob` gives): the root is replaced by `d` iff `d` is THE
    minimal-depth init directory (exactly one exists); otherwise the given root is kept. -/
theorem adjustRoot_spec (root : PathParts) {files : List PathParts} (hn : files.Nodup) :
    (∃ d, (∀ x, x ∈ nearestInitDirs files ↔ x = d) ∧ adjustRoot root files = d) ∨
    ((¬ ∃ d, ∀ x, x ∈ nearestInitDirs files ↔ x = d) ∧ adjustRoot root files = root) := by
  have hnd := nearestInitDirs_nodup hn
  rcases x15_adjustRoot_cases root files with ⟨d, hd, h⟩ | ⟨hno, h⟩
  · exact Or.inl ⟨d, (x15_nodup_unique hnd d).2 hd, h⟩
  · exact Or.inr ⟨fun ⟨d, hd⟩ => hno d ((x15_nodup_unique hnd d).1 hd), h⟩

/-- the two ways to keep the root: no `__init__.py` at all, or two different minimal directories
    (no hypothesis on duplicates needed) -/
theorem adjustRoot_keeps (root : PathParts) (files : List PathParts) :
    ((∀ f ∈ files, isInitFile f = false) → adjustRoot root files = root) ∧
    (∀ d d', d ∈ nearestInitDirs files → d' ∈ nearestInitDirs files → d ≠ d' → adjustRoot root files = root) := by
  constructor
  · intro h
    apply x15_adjustRoot_other
    intro d hd
    have hm : d ∈ nearestInitDirs files := by rw [hd]; simp
    obtain ⟨f, hf, hi, _⟩ := (nearestInitDirs_spec files d).1 hm
    rw [h f hf] at hi; cases hi
  · intro d d' hd hd' hne
    apply x15_adjustRoot_other
    intro e he
    rw [he] at hd hd'
    simp only [List.mem_singleton] at hd hd'
    exact hne (hd.trans hd'.symm)

/-- Without duplicate-freeness "exactly one minimal directory" is not enough: the loop counts list
    entries.  (Not reachable from `glob`.) -/
example : nearestInitDirs [["/", "p", "__init__.py"], ["/", "p", "__init__.py"]] = [["/", "p"], ["/", "p"]] ∧
    adjustRoot ["/"] [["/", "p", "__init__.py"], ["/", "p", "__init__.py"]] = ["/"] := by decide +kernel

/-- COUNTEREXAMPLE to the root-package statement as asked (`root/__init__.py ∈ files` and every file
    has `root` as a prefix): `isPrefixParts root root` holds, so a "file" equal to the root directory —
    here a directory called `__init__.py` — counts as an `__init__.py` one level higher. -/
example :
    let root := ["/", "__init__.py"]
    let files := [["/", "__init__.py"], ["/", "__init__.py", "__init__.py"]]
    root ++ ["__init__.py"] ∈ files ∧ (∀ f ∈ files, isPrefixParts root f = true) ∧
    adjustRoot root files = ["/"] ∧ adjustRoot root files ≠ root := by decide +kernel

/-- The strongest true variant: a root that is itself a package is kept, provided the files lie
    STRICTLY below it (the root directory is not one of the enumerated files).  Duplicates allowed. -/
theorem adjustRoot_root_package_partial (root : PathParts) (files : List PathParts)
    (hin : root ++ ["__init__.py"] ∈ files)
    (hbelow : ∀ f ∈ files, isPrefixParts root f = true) (hroot : root ∉ files) :
    adjustRoot root files = root ∧ ∀ d ∈ nearestInitDirs files, d = root := by
  have hb : ∀ f ∈ files, isInitFile f = true → root <+: f ∧ f ≠ root :=
    fun f hf _ => ⟨(x15_isPrefixParts_iff _ _).1 (hbelow f hf), fun e => hroot (e ▸ hf)⟩
  exact ⟨x15_adjustRoot_root_package hin hb, fun d hd => x15_nearest_root_package hin hb hd⟩

/-- the same with the other natural side condition: the root directory is not called `__init__.py` -/
theorem adjustRoot_root_package_partial' (root : PathParts) (files : List PathParts)
    (hin : root ++ ["__init__.py"] ∈ files)
    (hbelow : ∀ f ∈ files, isPrefixParts root f = true) (hroot : isInitFile root = false) :
    adjustRoot root files = root := by
  apply x15_adjustRoot_root_package hin
  intro f hf hi
  refine ⟨(x15_isPrefixParts_iff _ _).1 (hbelow f hf), fun e => ?_⟩
  rw [e, hroot] at hi; cases hi

/-- `isPrefixParts` is the list prefix relation -/
theorem isPrefixParts_iff (a b : PathParts) : isPrefixParts a b = true ↔ ∃ t, b = a ++ t := by
  rw [x15_isPrefixParts_iff]
  exact ⟨fun ⟨t, h⟩ => ⟨t, h.symm⟩, fun ⟨t, h⟩ => ⟨t, h.symm⟩⟩

/-- the adjusted root never leaves the given root (files strictly below the root) -/
theorem adjustRoot_below (root : PathParts) (files : List PathParts)
    (hbelow : ∀ f ∈ files, isPrefixParts root f = true) (hroot : root ∉ files) :
    isPrefixParts root (adjustRoot root files) = true := by
  rw [x15_isPrefixParts_iff]
  rcases x15_adjustRoot_cases root files with ⟨d, hd, h⟩ | ⟨_, h⟩
  · rw [h]
    apply x15_nearest_below (files := files) _ (by rw [hd]; simp)
    exact fun f hf _ => ⟨(x15_isPrefixParts_iff _ _).1 (hbelow f hf), fun e => hroot (e ▸ hf)⟩
  · rw [h]

/-- Idempotence: adjusting again, from the adjusted root and the files below it (what the second
    `glob` enumerates), changes nothing. -/
theorem adjustRoot_idempotent (root : PathParts) (files : List PathParts)
    (hbelow : ∀ f ∈ files, isPrefixParts root f = true) :
    adjustRoot (adjustRoot root files) (filesUnder (adjustRoot root files) files) = adjustRoot root files := by
  rcases x15_adjustRoot_cases root files with ⟨d, hd, h⟩ | ⟨hno, h⟩
  · rw [h]
    apply x15_adjustRoot_single
    have hd' := hd
    rw [x15_nearest_eq_filter] at hd'
    obtain ⟨f, hfl, hfd⟩ : ∃ f, files.filter (x15_isNearest files) = [f] ∧ f.dropLast = d := by
      cases hl : files.filter (x15_isNearest files) with
      | nil => rw [hl] at hd'; cases hd'
      | cons a t =>
        rw [hl] at hd'
        cases t with
        | nil => exact ⟨a, rfl, by simpa using hd'⟩
        | cons b t => simp at hd'
    have hfm : f ∈ files.filter (x15_isNearest files) := by rw [hfl]; simp
    obtain ⟨hf1, hf2⟩ := List.mem_filter.1 hfm
    have hP : isPrefixParts d f = true := by
      rw [x15_isPrefixParts_iff, ← hfd]
      exact List.dropLast_prefix f
    rw [x15_nearest_eq_filter]
    unfold filesUnder
    rw [x15_filter_isNearest_under files (isPrefixParts d) hf1 hP hf2, hfl]
    simp [hP, hfd]
  · rw [h]
    have : filesUnder root files = files := by
      unfold filesUnder
      exact List.filter_eq_self.2 hbelow
    rw [this, h]

/-! ### 4. the composition `discoverFrom` -/

/-- C15's `filter_spec` on the files below `r` -/
theorem discoverLoop_filesUnder (r : PathParts) (files : List PathParts) (b : Bool) :
    discoverLoop b (filesUnder r files) =
      { walkable := (files.filter (fun f => isPrefixParts r f && !C15.skipped b f)).filter (fun f => !isInitFile f),
        packages := ((files.filter (fun f => isPrefixParts r f && !C15.skipped b f)).filter isInitFile).map List.dropLast } := by
  have e : ∀ p : PathParts → Bool,
      (files.filter (isPrefixParts r)).filter (fun f => !C15.skipped b f && p f) =
        (files.filter (fun f => isPrefixParts r f && !C15.skipped b f)).filter p := fun p => by
    rw [List.filter_filter, List.filter_filter]
    exact List.filter_congr fun f _ => by
      cases isPrefixParts r f <;> cases C15.skipped b f <;> cases p f <;> rfl
  rw [C15.discoverLoop_eq, filesUnder, e, e]

/-- The model restricts the enumeration to the adjusted root by the component-wise prefix test
    `isPrefixParts r f` (`filesUnder`), then applies the test/docs filter of C15. -/
theorem discoverFrom_eq (root : PathParts) (files : List PathParts) (b : Bool) :
    discoverFrom root files b =
      let r := adjustRoot root files
      let kept := files.filter (fun f => isPrefixParts r f && !C15.skipped b f)
      if kept.filter (fun f => !isInitFile f) = [] then .error .valueError
      else .ok (r, { walkable := kept.filter (fun f => !isInitFile f),
                     packages := (kept.filter isInitFile).map List.dropLast }) := by
  dsimp only
  have hd := discoverLoop_filesUnder (adjustRoot root files) files b
  unfold discoverFrom discover
  dsimp only
  rw [hd]
  dsimp only
  by_cases he : (files.filter (fun f => isPrefixParts (adjustRoot root files) f && !C15.skipped b f)).filter
      (fun f => !isInitFile f) = []
  · rw [if_pos he, he]; rfl
  · rw [if_neg he, List.isEmpty_eq_false_iff.2 he]; rfl

/-- WHICH FILES ARE ANALYSED.  With `r = adjustRoot root files`:
    * the only error is the documented `No files found to analyse` (`ValueError`), raised iff every
      file below `r` that survives the test/docs filter is an `__init__.py` (no walkable file remains);
    * otherwise the reported root is `r`; the module files are exactly the files below `r`
      (prefix test) that are not skipped (C15's `skipped`: flag off and a component `test`/`tests`/`docs`)
      and are not `__init__.py`; the packages are the directories of the surviving `__init__.py` files;
      both in enumeration order; the result is C15's loop on the files below `r`. -/
theorem discoverFrom_spec (root : PathParts) (files : List PathParts) (b : Bool) :
    (discoverFrom root files b = .error .valueError ↔
      ∀ f ∈ files, isPrefixParts (adjustRoot root files) f = true → C15.skipped b f = false → isInitFile f = true) ∧
    (∀ e, discoverFrom root files b = .error e → e = .valueError) ∧
    (∀ r d, discoverFrom root files b = .ok (r, d) →
      r = adjustRoot root files ∧
      (∀ f, f ∈ d.walkable ↔
        f ∈ files ∧ isPrefixParts r f = true ∧ C15.skipped b f = false ∧ isInitFile f = false) ∧
      (∀ p, p ∈ d.packages ↔
        ∃ f ∈ files, isPrefixParts r f = true ∧ C15.skipped b f = false ∧ isInitFile f = true ∧ f.dropLast = p) ∧
      d.walkable <+ files ∧ d.packages <+ files.map List.dropLast ∧
      d = discoverLoop b (filesUnder r files) ∧
      d.walkable = (filesUnder r files).filter (fun f => !C15.skipped b f && !isInitFile f) ∧
      d.packages = ((filesUnder r files).filter (fun f => !C15.skipped b f && isInitFile f)).map List.dropLast) := by
  have heq := discoverFrom_eq root files b
  dsimp only at heq
  have hemp : (files.filter (fun f => isPrefixParts (adjustRoot root files) f && !C15.skipped b f)).filter
        (fun f => !isInitFile f) = [] ↔
      ∀ f ∈ files, isPrefixParts (adjustRoot root files) f = true → C15.skipped b f = false → isInitFile f = true := by
    rw [List.filter_eq_nil_iff]
    constructor
    · intro h f hf h1 h2
      have := h f (List.mem_filter.2 ⟨hf, by simp [h1, h2]⟩)
      simpa using this
    · intro h f hf
      obtain ⟨hf1, hf2⟩ := List.mem_filter.1 hf
      simp only [Bool.and_eq_true, Bool.not_eq_eq_eq_not, Bool.not_true] at hf2
      simp [h f hf1 hf2.1 hf2.2]
  refine ⟨?_, ?_, ?_⟩
  · rw [← hemp, heq]
    constructor
    · intro h
      by_contra hc
      rw [if_neg hc] at h; cases h
    · intro h; rw [if_pos h]
  · intro e he
    rw [heq] at he
    split at he
    · cases he; rfl
    · cases he
  · intro r d hd
    have hr := p08_discoverFrom_root hd
    subst hr
    rw [heq] at hd
    split at hd
    · cases hd
    · simp only [Except.ok.injEq, Prod.mk.injEq, true_and] at hd
      subst hd
      dsimp only
      obtain ⟨hw, hp⟩ := C15.filter_spec b (filesUnder (adjustRoot root files) files)
      refine ⟨rfl, ?_, ?_, ?_, ?_, ?_, ?_, ?_⟩
      · intro f
        simp only [List.mem_filter, Bool.and_eq_true, Bool.not_eq_eq_eq_not, Bool.not_true]
        constructor
        · rintro ⟨⟨h0, h1, h2⟩, h3⟩; exact ⟨h0, h1, h2, h3⟩
        · rintro ⟨h0, h1, h2, h3⟩; exact ⟨⟨h0, h1, h2⟩, h3⟩
      · intro p
        simp only [List.mem_map, List.mem_filter, Bool.and_eq_true, Bool.not_eq_eq_eq_not, Bool.not_true]
        constructor
        · rintro ⟨f, ⟨⟨hf, h1, h2⟩, h3⟩, h4⟩; exact ⟨f, hf, h1, h2, h3, h4⟩
        · rintro ⟨f, hf, h1, h2, h3, h4⟩; exact ⟨f, ⟨⟨hf, h1, h2⟩, h3⟩, h4⟩
      · exact List.filter_sublist.trans List.filter_sublist
      · exact (List.filter_sublist.trans List.filter_sublist).map _
      · exact (discoverLoop_filesUnder (adjustRoot root files) files b).symm
      · exact (congrArg Discovered.walkable (discoverLoop_filesUnder _ files b)).symm.trans hw
      · exact (congrArg Discovered.packages (discoverLoop_filesUnder _ files b)).symm.trans hp

/-! ### 5. `selectAsts` -/

/-- `ast.path.endswith("__init__.py")` -/
abbrev isInitPath := x15_isInitPath
/-- `ast.path.split("__init__.py")[0][:-1]` -/
abbrev pkgDir := x15_pkgDir

theorem isInitPath_eq (p : String) : isInitPath p = pyEndsWith p "__init__.py" := rfl
theorem pkgDir_eq (p : String) :
    pkgDir p = String.ofList ((pySplitStr p "__init__.py").headD "").toList.dropLast := rfl

/-- membership -/
theorem selectAsts_spec (graph : List String) (d : Discovered) (p : String) :
    p ∈ selectAsts graph d ↔
      p ∈ graph ∧ ((isInitPath p = true ∧ pkgDir p ∈ d.packages.map pathStr) ∨
                   (isInitPath p = false ∧ p ∈ d.walkable.map pathStr)) := by
  rw [x15_selectAsts_eq]
  simp only [List.mem_append, List.mem_filter, x15_selPkg, x15_selMod, Bool.and_eq_true,
    Bool.not_eq_eq_eq_not, Bool.not_true, List.contains_iff_mem]
  constructor
  · rintro (⟨h0, h1, h2⟩ | ⟨h0, h1, h2⟩)
    · exact ⟨h0, Or.inl ⟨h1, h2⟩⟩
    · exact ⟨h0, Or.inr ⟨h1, h2⟩⟩
  · rintro ⟨h0, ⟨h1, h2⟩ | ⟨h1, h2⟩⟩
    · exact Or.inl ⟨h0, h1, h2⟩
    · exact Or.inr ⟨h0, h1, h2⟩

/-- packages first, graph order preserved within each group -/
theorem selectAsts_order (graph : List String) (d : Discovered) :
    selectAsts graph d =
      graph.filter (fun p => isInitPath p && (d.packages.map pathStr).contains (pkgDir p)) ++
      graph.filter (fun p => !isInitPath p && (d.walkable.map pathStr).contains p) ∧
    graph.filter (fun p => isInitPath p && (d.packages.map pathStr).contains (pkgDir p)) <+ graph ∧
    graph.filter (fun p => !isInitPath p && (d.walkable.map pathStr).contains p) <+ graph :=
  ⟨rfl, List.filter_sublist, List.filter_sublist⟩

/-- the selection is a rearrangement (packages moved to the front) of a sublist of the graph -/
theorem selectAsts_sublist_perm (graph : List String) (d : Discovered) :
    ∃ l, l <+ graph ∧ selectAsts graph d ~ l :=
  ⟨_, List.filter_sublist, x15_selectAsts_perm_filter graph d⟩

/-- hence no AST is analysed twice (mypy's graph lists every module once) -/
theorem selectAsts_nodup (graph : List String) (d : Discovered) (h : graph.Nodup) : (selectAsts graph d).Nodup :=
  (x15_selectAsts_perm_filter graph d).nodup_iff.2 (h.filter _)

/-! ### 6. kernel-checked examples -/

def exRoot : PathParts := ["/", "w"]
def exDeepInit : PathParts := ["/", "w", "a", "x", "p", "__init__.py"]
def exDeepMod : PathParts := ["/", "w", "a", "x", "p", "m.py"]
def exShallowInit : PathParts := ["/", "w", "b", "q", "__init__.py"]
def exShallowSub : PathParts := ["/", "w", "b", "q", "s", "__init__.py"]
def exShallowMod : PathParts := ["/", "w", "b", "q", "n.py"]
def exShallowTest : PathParts := ["/", "w", "b", "q", "tests", "t.py"]

/-- the deeper package is enumerated first -/
def exFiles1 : List PathParts := [exDeepInit, exDeepMod, exShallowInit, exShallowSub, exShallowMod, exShallowTest]
/-- the shallower package is enumerated first -/
def exFiles2 : List PathParts := [exShallowInit, exShallowSub, exShallowMod, exShallowTest, exDeepInit, exDeepMod]

/-- two sibling subtrees with packages at different depths, both enumeration orders: the same
    adjusted root (the shallower package) -/
example : nearestInitDirs exFiles1 = [["/", "w", "b", "q"]] ∧ nearestInitDirs exFiles2 = [["/", "w", "b", "q"]] ∧
    adjustRoot exRoot exFiles1 = ["/", "w", "b", "q"] ∧ adjustRoot exRoot exFiles2 = ["/", "w", "b", "q"] := by
  decide +kernel

/-- the loop on the deeper-first order really takes the third branch ("shorter path found later") -/
example : x15_loop (exFiles1.filter isInitFile) = (some 5, [["/", "w", "b", "q"]]) ∧
    x15_loop (exFiles2.filter isInitFile) = (some 5, [["/", "w", "b", "q"]]) := by decide +kernel

/-- … and the loop WITHOUT that branch (the seeded defect) would make the analysed package depend on
    the enumeration order; by `nearestInitDirs_loop_eq` the model is not that loop -/
example : (x15_loopDefect (exFiles1.filter isInitFile)).2 = [["/", "w", "a", "x", "p"], ["/", "w", "b", "q", "s"]] ∧
    (x15_loopDefect (exFiles2.filter isInitFile)).2 = [["/", "w", "b", "q"]] ∧
    nearestInitDirs exFiles1 ≠ (x15_loopDefect (exFiles1.filter isInitFile)).2 := by decide +kernel

/-- the same by the theorem -/
example : adjustRoot exRoot exFiles1 = adjustRoot exRoot exFiles2 :=
  adjustRoot_perm exRoot (by decide +kernel : exFiles1 ~ exFiles2)

/-- the whole discovery step on both orders: only the shallower package is analysed, its `tests`
    directory only with the flag -/
example :
    discoverFrom exRoot exFiles1 false
      = .ok (["/", "w", "b", "q"], { walkable := [exShallowMod], packages := [["/", "w", "b", "q"], ["/", "w", "b", "q", "s"]] }) ∧
    discoverFrom exRoot exFiles2 false
      = .ok (["/", "w", "b", "q"], { walkable := [exShallowMod], packages := [["/", "w", "b", "q"], ["/", "w", "b", "q", "s"]] }) ∧
    discoverFrom exRoot exFiles1 true
      = .ok (["/", "w", "b", "q"], { walkable := [exShallowMod, exShallowTest], packages := [["/", "w", "b", "q"], ["/", "w", "b", "q", "s"]] }) := by
  decide +kernel

/-- a root that is itself a package (with a sub-package) is kept -/
example : adjustRoot ["/", "w", "pkg"]
    [["/", "w", "pkg", "sub", "__init__.py"], ["/", "w", "pkg", "__init__.py"], ["/", "w", "pkg", "m.py"]] = ["/", "w", "pkg"] := by
  decide +kernel

/-- … the same by the theorem -/
example : adjustRoot ["/", "w", "pkg"]
    [["/", "w", "pkg", "sub", "__init__.py"], ["/", "w", "pkg", "__init__.py"], ["/", "w", "pkg", "m.py"]] = ["/", "w", "pkg"] :=
  (adjustRoot_root_package_partial _ _ (by decide +kernel) (by decide +kernel) (by decide +kernel)).1

/-- two packages at equal minimal depth: the given root is kept, both are analysed -/
example :
    nearestInitDirs [["/", "w", "p", "__init__.py"], ["/", "w", "q", "__init__.py"], ["/", "w", "p", "m.py"], ["/", "w", "q", "n.py"]]
      = [["/", "w", "p"], ["/", "w", "q"]] ∧
    adjustRoot exRoot [["/", "w", "p", "__init__.py"], ["/", "w", "q", "__init__.py"], ["/", "w", "p", "m.py"], ["/", "w", "q", "n.py"]]
      = exRoot ∧
    discoverFrom exRoot [["/", "w", "p", "__init__.py"], ["/", "w", "q", "__init__.py"], ["/", "w", "p", "m.py"], ["/", "w", "q", "n.py"]] false
      = .ok (exRoot, { walkable := [["/", "w", "p", "m.py"], ["/", "w", "q", "n.py"]], packages := [["/", "w", "p"], ["/", "w", "q"]] }) := by
  decide +kernel

/-- no `__init__.py` at all: root kept; only `__init__.py` files (or only skipped ones) below the
    adjusted root: `No files found` -/
example : adjustRoot exRoot [["/", "w", "m.py"]] = exRoot ∧
    discoverFrom exRoot [["/", "w", "p", "__init__.py"], ["/", "w", "p", "tests", "t.py"]] false = .error .valueError ∧
    discoverFrom exRoot [["/", "w", "p", "__init__.py"], ["/", "w", "p", "tests", "t.py"]] true
      = .ok (["/", "w", "p"], { walkable := [["/", "w", "p", "tests", "t.py"]], packages := [["/", "w", "p"]] }) := by
  decide +kernel

/-- a module file next to (outside) the unique topmost package is NOT analysed after the adjustment -/
example : discoverFrom exRoot [["/", "w", "setup.py"], ["/", "w", "p", "__init__.py"], ["/", "w", "p", "m.py"]] false
    = .ok (["/", "w", "p"], { walkable := [["/", "w", "p", "m.py"]], packages := [["/", "w", "p"]] }) := by
  decide +kernel

/-- `selectAsts`: packages first, graph order inside each group; a graph entry that was not discovered
    (`/w/b/q/tests/t.py`, loaded through an import) is dropped -/
example :
    selectAsts ["/w/b/q/n.py", "/w/b/q/s/__init__.py", "/w/b/q/tests/t.py", "/w/b/q/__init__.py", "/w/a/x/p/__init__.py"]
      { walkable := [exShallowMod], packages := [["/", "w", "b", "q"], ["/", "w", "b", "q", "s"]] }
    = ["/w/b/q/s/__init__.py", "/w/b/q/__init__.py", "/w/b/q/n.py"] := by
  decide +kernel

/-- `pkgDir` cuts at the FIRST occurrence of the text `__init__.py`: a package inside a directory
    whose name contains that text is looked up under the wrong directory and its `__init__` is not selected -/
example : pkgDir "/w/p/__init__.py" = "/w/p" ∧ pkgDir "/w/__init__.pyx/__init__.py" = "/w" ∧
    selectAsts ["/w/__init__.pyx/__init__.py"] { walkable := [], packages := [["/", "w", "__init__.pyx"]] } = [] := by
  decide +kernel

end StubGen.C15a
