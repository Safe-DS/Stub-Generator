/-
C02 (structural half) — in the text the generator model emits, round brackets, curly braces, angle
brackets (and square brackets), string literals, comments and back-quoted names are all closed, and
brackets are properly nested: `Spec.Balanced`, a one-pass scanner with lexical modes and a bracket
stack (`Spec/Balance.lean`).  `Theorems/C02.lean` is the lexical half (each name is an identifier
token, each string literal / comment is ONE token); this file is about the structure of the whole
text.

The theorems hold under the conditions on the analysed package collected in the `…Bal` predicates of
`Spec/Balance.lean` (names convertible / identifiers, string literal values without quote, backslash
and line break, textual default values balanced in themselves, docstring texts without `*/`, examples
without `*`).  Section 8 shows, by closed counterexamples, that these conditions cannot simply be
dropped: the generator escapes none of these texts.

Helper lemmas (`y02_…`): `Proofs/Balance.lean`.
-/
import StubGen.Proofs.Balance
import StubGen.Proofs.ShortestMem
import StubGen.Proofs.ImportTargets

namespace StubGen.C02a

open Spec

/-! ## 1. the scanner -/

/-- `Balanced` (scan from the empty stack) is the same as being a piece of text that can stand
    anywhere in code: read in `code` mode on top of ANY open brackets it comes back to `code` mode
    and leaves them as they were -/
theorem balanced_iff_closed (s : String) :
    Balanced s = true ↔ ∀ stk, scan .code stk s.toList = some (.code, stk) :=
  (y02_CS_iff s).symm

theorem balanced_append (a b : String) (ha : Balanced a = true) (hb : Balanced b = true) :
    Balanced (a ++ b) = true :=
  y02_CS.bal (y02_CS_append (y02_CS_of_bal ha) (y02_CS_of_bal hb))

/-- a balanced text between a matching pair of brackets is balanced -/
theorem balanced_wrapped (p : String) (h : Balanced p = true) :
    Balanced ("(" ++ p ++ ")") = true ∧ Balanced ("{" ++ p ++ "}") = true ∧
    Balanced ("<" ++ p ++ ">") = true ∧ Balanced ("[" ++ p ++ "]") = true :=
  ⟨y02_CS.bal (y02_CS_bracketed "(" ")" [')'] (by decide +kernel) (by decide +kernel) (y02_CS_of_bal h)),
   y02_CS.bal (y02_CS_bracketed "{" "}" ['}'] (by decide +kernel) (by decide +kernel) (y02_CS_of_bal h)),
   y02_CS.bal (y02_CS_bracketed "<" ">" ['>'] (by decide +kernel) (by decide +kernel) (y02_CS_of_bal h)),
   y02_CS.bal (y02_CS_bracketed "[" "]" [']'] (by decide +kernel) (by decide +kernel) (y02_CS_of_bal h))⟩

/-- the scanner on small texts: arrows, comments, strings and back-quotes hide brackets; a wrong or
    missing closer, an open string and an open comment are rejected -/
example : Balanced "(a: Int) -> (r: List<Int>)" = true ∧ Balanced "fun f<T>(x: T = \")\") // :-)\n" = true ∧
    Balanced "/* { */ class `in` { attr a: Map<String, Int> }" = true ∧ Balanced "x = -1" = true ∧
    Balanced "class C {" = false ∧ Balanced "List<Int" = false ∧ Balanced "(a: Int>" = false ∧
    Balanced "fun f()) " = false ∧ Balanced "x = \"a" = false ∧ Balanced "/** doc" = false ∧
    Balanced "a -> b" = true ∧ Balanced "a > b" = false := by decide +kernel

/-! ## 2. tokens and fixed pieces -/

/-- a legal identifier, keyword-escaped or not -/
theorem ident_balanced (n : String) (h : isIdent n.toList = true) :
    Balanced n = true ∧ Balanced (escapeKeyword n) = true :=
  ⟨y02_CS.bal (y02_CS_ident h), y02_CS.bal (y02_CS_escapeKeyword h)⟩

/-- every name that goes through convert + escape -/
theorem rendered_name_balanced (n : String) (safe cls : Bool) (h : Convertible n.toList = true) :
    Balanced (escapeKeyword (convertName n safe cls)) = true := y02_CS.bal (y02_CS_name safe cls h)

/-- a quoted string without quote, backslash and line break; the `@PythonName("…")` annotation -/
theorem string_balanced (s : String) (h : stringBodySafe s.toList = true) :
    Balanced ("\"" ++ s ++ "\"") = true ∧ Balanced (nameAnnotation s) = true :=
  ⟨y02_CS.bal (y02_CS_quotedString h), y02_CS.bal (y02_CS_nameAnnotation h)⟩

/-- the link to the lexical half: every text that `Spec/Tokens.lean` recognises as ONE identifier token,
    ONE closed string literal or ONE closed block comment is balanced -/
theorem token_balanced (s : String) :
    (isIdentToken s = true → Balanced s = true) ∧ (isStringToken s = true → Balanced s = true) ∧
    (isCommentToken s = true → Balanced s = true) :=
  ⟨fun h => y02_CS.bal (y02_CS_identToken h), fun h => y02_CS.bal (y02_CS_stringToken h),
   fun h => y02_CS.bal (y02_CS_commentToken h)⟩

theorem number_balanced (i : Int) (n : Nat) : Balanced (toString i) = true ∧ Balanced (toString n) = true :=
  ⟨y02_CS.bal (y02_CS_int i), y02_CS.bal (y02_CS_nat n)⟩

/-- the pending TODO comments, whatever keys are pending: line comments closed by their line break -/
theorem todo_balanced (indent : String) (st st' : St) (s : String) (hi : indent.toList.all (· = ' ') = true)
    (h : createTodoMsg indent st = .ok (s, st')) : Balanced s = true :=
  y02_CS.bal ((y02_createTodoMsg_outs hi).out _ _ _ h)

/-- documentation comments: the description-only form (modules, properties) … -/
theorem description_comment_balanced (d indent : String) (hd : commentBodySafe d = true)
    (hi : indent.toList.all (· = ' ') = true) : Balanced (sdsDocstringDescription d indent) = true :=
  y02_CS.bal (y02_CS_sdsDocstringDescription hd hi)

/-- … and the full form with `@param`, `@result` and `@example` entries -/
theorem docstring_balanced (safe : Bool) (d indent : String) (ps : List Parameter) (rds : List ResultDoc)
    (exs : List String) (hi : indent.toList.all (· = ' ') = true) (hd : commentBodySafe d = true)
    (hps : ∀ p ∈ ps, Convertible p.name.toList = true ∧ commentBodySafe p.doc.description = true)
    (hrds : rds.all resultDocBal = true) (hexs : exs.all exampleBal = true) :
    Balanced (sdsDocstring safe d indent ps rds exs) = true :=
  y02_CS.bal (y02_CS_sdsDocstring safe hi hd hps hrds hexs)

/-! ## 3. types -/

/-- the text the generator writes for a type (`tt_typeText`, see C05) is balanced -/
theorem typeText_model_closed (safe : Bool) (t : AType) (h : typeBal t = true) :
    Balanced (tt_typeText safe t) = true := y02_CS.bal (y02_typeText_cs safe t h)

/-- the specified text `Spec.typeText`; `hl` is the hypothesis of `C05.typeStr_text` under which
    generator and specification agree -/
theorem typeText_closed (safe : Bool) (t : AType) (h : typeBal t = true) (hl : tt_litOk t = true) :
    Balanced (Spec.typeText safe t) = true := by
  rw [← tt_typeText_eq safe t hl]; exact typeText_model_closed safe t h

/-- whatever the generator renders for a type — in any state, for any API — is balanced -/
theorem typeStr_closed (env : Env) (t : AType) (st st' : St) (s : String) (h : typeStr env t st = .ok (s, st'))
    (ht : typeBal t = true) : Balanced s = true :=
  y02_CS.bal ((y02_typeStr_outs env t ht).out _ _ _ h)

/-! ## 4. parameters, results, functions -/

theorem parameter_closed (env : Env) (p : Parameter) (st st' : St) (out : ParamOut)
    (h : createParameter env p st = .ok (out, st')) (hp : paramBal p = true) : Balanced out.render = true :=
  y02_CS.bal ((y02_createParameter_outs env p hp).out _ _ _ h)

/-- the parameter list, as it stands between the parentheses and with them -/
theorem parameters_closed (env : Env) (ps : List Parameter) (indent : String) (im : Bool) (st st' : St) (s : String)
    (h : createParameterString env ps indent im st = .ok (s, st')) (hps : ps.all paramBal = true)
    (hi : indent.toList.all (· = ' ') = true) : Balanced s = true ∧ Balanced ("(" ++ s ++ ")") = true := by
  have := (y02_createParameterString_outs env ps indent im hps hi).out _ _ _ h
  exact ⟨y02_CS.bal this, (balanced_wrapped s (y02_CS.bal this)).1⟩

theorem results_closed (env : Env) (rs : List Result) (st st' : St) (s : String)
    (h : createResultString env rs st = .ok (s, st')) (hrs : rs.all resultBal = true) : Balanced s = true :=
  y02_CS.bal ((y02_createResultString_outs env rs hrs).out _ _ _ h)

/-- functions and methods: the text returned by a successful `createFunctionString` -/
theorem function_closed (env : Env) (f : Function) (indent : String) (isMethod inRe : Bool) (st st' : St) (s : String)
    (h : createFunctionString env f indent isMethod inRe st = .ok (s, st')) (hf : functionBal f = true)
    (hi : indent.toList.all (· = ' ') = true) : Balanced s = true :=
  y02_CS.bal ((y02_function_outs env f indent isMethod inRe hf hi).out _ _ _ h)

/-- properties -/
theorem property_closed (env : Env) (f : Function) (indent : String) (st st' : St) (s : String)
    (h : createPropertyFunctionString env f indent st = .ok (s, st')) (hf : functionBal f = true)
    (hi : indent.toList.all (· = ' ') = true) : Balanced s = true :=
  y02_CS.bal ((y02_property_outs env f indent hf hi).out _ _ _ h)

/-! ## 5. attributes, enums -/

theorem attribute_closed (env : Env) (a : Attribute) (inner : String) (st st' : St) (s : String)
    (h : createAttribute env a inner st = .ok (some s, st')) (ha : attributeBal a = true)
    (hi : inner.toList.all (· = ' ') = true) : Balanced s = true :=
  y02_CS.bal ((y02_attribute_outs env a inner ha hi).out _ _ _ h s rfl)

theorem enum_closed (env : Env) (e : Enum) (he : enumBal e = true) : Balanced (createEnumString env e) = true :=
  y02_CS.bal (y02_enum_cs env e he)

/-! ## 6. classes

By induction on the fuel: the class body in braces, the public nested classes, the members of the
inlined private base classes (looked up in the class table of the API, hence `hapi`). -/

theorem class_closed (env : Env) (fuel : Nat) (c : Class) (indent : String) (inRe : Bool) (st st' : St) (s : String)
    (h : createClassString env fuel c indent inRe st = .ok (s, st'))
    (hc : classBal c = true) (hapi : ∀ c' ∈ env.api.classes, classBal c' = true)
    (hi : indent.toList.all (· = ' ') = true) : Balanced s = true :=
  y02_CS.bal ((y02_class_outs env hapi fuel c indent inRe hc hi).out _ _ _ h)

/-- the members a class takes over from a private base class -/
theorem inlined_base_closed (env : Env) (fuel : Nat) (sc inner : String) (ad : List String) (st st' : St) (s : String)
    (h : createInternalClassString env fuel sc inner ad st = .ok (s, st'))
    (hapi : ∀ c' ∈ env.api.classes, classBal c' = true) (hi : inner.toList.all (· = ' ') = true) :
    Balanced s = true :=
  y02_CS.bal (((y02_class_outs_aux env hapi fuel).2 sc inner ad hi).out _ _ _ h)

/-! ## 7. modules

`_partial`: the import lines are made from the qualified names registered in the generator state
(`st'.imports`: qualified names of the types and superclasses used, or the path of a class of the
package below its shortest re-export).  The hypothesis `himp` speaks about the final state, whose
`imports` are exactly the printed ones; it is not yet derived from conditions on the API (that needs
an invariant on the state through `addToImports`, i.e. conditions on the `qname`s inside the types, on
the class ids and on the re-export map).  Everything else is a condition on the module, the class table
and the package path. -/

theorem module_closed_partial (env : Env) (m : Module) (st st' : St) (text pkg : String)
    (h : createModuleString env m st = .ok ((text, pkg), st'))
    (hm : moduleBal m = true) (hapi : ∀ c ∈ env.api.classes, classBal c = true)
    (hpkg : pathBal pkg = true) (himp : ∀ imp ∈ st'.imports, pathBal imp = true) : Balanced text = true :=
  y02_CS.bal (y02_module_cs env m st st' text pkg h hm hapi hpkg himp)

/-- the hypothesis about the package line is a condition on the API: it holds when the `/`-segments of the module's id and of
    the ids of the re-exporting modules are convertible names (`_get_shortest_public_reexport` returns the dotted id of a
    module of the re-export map or nothing, `Proofs/ShortestMem`).  What stays `_partial` is the import block. -/
theorem module_closed_partial' (env : Env) (m : Module) (st st' : St) (text pkg : String)
    (h : createModuleString env m st = .ok ((text, pkg), st'))
    (hm : moduleBal m = true) (hapi : ∀ c ∈ env.api.classes, classBal c = true)
    (hid : sm_idBal m.id = true) (hre : ∀ kv ∈ env.api.reexportMap, ∀ r ∈ kv.2, sm_idBal r.id = true)
    (himp : ∀ imp ∈ st'.imports, pathBal imp = true) : Balanced text = true := by
  have hp := (createModuleString_text h).1
  exact module_closed_partial env m st st' text pkg h hm hapi (by rw [hp]; exact sm_modulePackage_bal env m hid hre) himp

/-- the package a module stub announces is the module's own dotted id or the dotted id of a module of the re-export map -/
theorem module_package_is_own_or_reexporter (env : Env) (m : Module) :
    modulePackage env m = joinWith "." (splitSlash m.id) ∨
    ∃ kv ∈ env.api.reexportMap, ∃ r ∈ kv.2, modulePackage env m = joinWith "." (splitSlash r.id) :=
  sm_modulePackage_cases env m

/-- towards the import block: the path `_add_to_imports` registers for a request `q` — `q` itself, the dotted id of the class
    of the package it resolves to, or `<re-exporting package>.<class name>` — is a bracket-free qualified name when `q` is one
    and the `/`-segments of the class ids and of the ids of the re-exporting modules are convertible names … -/
theorem import_target_balanced (env : Env) (q : String) (hq : pathBal q = true)
    (hcls : ∀ c ∈ env.api.classes, sm_idBal c.id = true)
    (hre : ∀ kv ∈ env.api.reexportMap, ∀ r ∈ kv.2, sm_idBal r.id = true) :
    pathBal (q11_target env q) = true := it_target_bal env q hq hcls hre

/-- … hence ONE registration step keeps the import set bracket-free.  (`himp` of `module_closed_partial` is this invariant at
    the end of the module; what is not yet derived is that every request the generator makes — the qualified names inside
    the types and the superclasses — is bracket-free, a condition on the `qname`s of the API.) -/
theorem import_registration_keeps_balance (env : Env) (q : String) (st st' : St) (u : Unit)
    (h : addToImports env q st = .ok (u, st')) (hq : pathBal q = true)
    (hcls : ∀ c ∈ env.api.classes, sm_idBal c.id = true)
    (hre : ∀ kv ∈ env.api.reexportMap, ∀ r ∈ kv.2, sm_idBal r.id = true)
    (hst : ∀ imp ∈ st.imports, pathBal imp = true) :
    ∀ imp ∈ st'.imports, pathBal imp = true := it_addToImports_keeps env q st st' u h hq hcls hre hst

/-- the same through `callGenerator` (which only resets the state first) -/
theorem stub_closed_partial (env : Env) (m : Module) (st st' : St) (text pkg : String)
    (h : callGenerator env m st = .ok ((text, pkg), st'))
    (hm : moduleBal m = true) (hapi : ∀ c ∈ env.api.classes, classBal c = true)
    (hpkg : pathBal pkg = true) (himp : ∀ imp ∈ st'.imports, pathBal imp = true) : Balanced text = true := by
  unfold callGenerator at h
  have hh := se_bind_ok h; clear h; obtain ⟨_, s1, _, h⟩ := hh
  have hh := se_bind_ok h; clear h; obtain ⟨_, s2, _, h⟩ := hh
  have hh := se_bind_ok h; clear h; obtain ⟨_, s3, _, h⟩ := hh
  exact module_closed_partial env m s3 st' text pkg h hm hapi hpkg himp

/-- the pieces of the module text that do not depend on the declarations -/
theorem header_balanced (env : Env) (pkg : String) (h : pathBal pkg = true) :
    Balanced (packageHeader env pkg) = true := y02_CS.bal (y02_CS_packageHeader env pkg h)

theorem import_block_balanced (safe : Bool) (imports : List String) (h : ∀ imp ∈ imports, pathBal imp = true) :
    Balanced (q11_importBlock safe imports) = true := y02_CS.bal (y02_CS_importBlock safe imports h)

/-! ## 8. the hypotheses cannot simply be dropped

The generator escapes nothing it prints.  Each example is a closed run of the model whose text the
scanner rejects, together with the `…Bal` condition it violates. -/

section Counterexamples

private def tStr : AType := .named "str" "builtins.str"
private def env0 : Env := { api := {}, safe := true }
private def textOf {α : Type} (f : α → String) (r : Except PyErr (α × St)) : String :=
  match r with
  | .ok (a, _) => f a
  | .error _ => "<error>"
private def mkP (n : String) (t : Option AType) (opt : Bool := false) (d : DefaultVal := .none) (doc : String := "") :
    Parameter :=
  { id := n, name := n, isOptional := opt, default := d, assignedBy := .positionOrName, type := t,
    doc := { description := doc } }
private def fDoc (d : String) (exs : List String := []) : Function :=
  { id := "m/f", name := "f", isPublic := true, doc := { description := d, examples := exs } }

/-- `defaultBal`: the string default `'a"b'` arrives as `"a"b"` and is printed as it is (cf. the
    known finding in `C02`: string values are not escaped) … -/
example : defaultBal (.str "\"a\"b\"") = false ∧
    textOf ParamOut.render (createParameter env0 (mkP "x" (some tStr) true (.str "\"a\"b\"")) {})
      = "x: String = \"a\"b\"" ∧ Balanced "x: String = \"a\"b\"" = false := by decide +kernel
/-- … and a default value taken from a docstring (`reconcileParameter`) is arbitrary text -/
example : defaultBal (.str "(1, 2") = false ∧
    textOf ParamOut.render (createParameter env0 (mkP "x" (some tStr) true (.str "(1, 2")) {})
      = "x: String = (1, 2" ∧ Balanced "x: String = (1, 2" = false := by decide +kernel
/-- `litBal` / `typeBal`: since the repair d913d69 a quote or a trailing backslash in a `Literal["…"]` value is escaped; the
    text that was written before (`literal<"a"b">`) was not balanced -/
example : typeBal (.literal [.str "a\"b"]) = true ∧ Spec.typeText true (.literal [.str "a\"b"]) = "literal<\"a\\\"b\">" ∧
    Balanced "literal<\"a\"b\">" = false ∧ Balanced (Spec.typeText true (.literal [.str "a\\"])) = true := by decide +kernel
/-- `docBal` (description): a `*/` in the docstring closes the documentation comment early; what follows
    is read as code.  (A comment that is closed early need not unbalance the text: the glob example
    of `C02` is lexically broken and still balanced.) -/
example : docBal (fDoc "Matches */ (or not.").doc = false ∧
    textOf id (createFunctionString env0 (fDoc "Matches */ (or not.") "" false true {})
      = "// TODO Result type information missing.\n/**\n * Matches */ (or not.\n */\n@Pure\nfun f()" ∧
    Balanced (textOf id (createFunctionString env0 (fDoc "Matches */ (or not.") "" false true {})) = false ∧
    Balanced (textOf id (createFunctionString env0 (fDoc "Glob **/*.py files.") "" false true {})) = true := by
  decide +kernel
/-- `exampleBal`: the example `>>> f(2 *>>> 3` contains no `*/`; replacing `>>>` by `//` creates one.
    The condition "no `*`" is sufficient, not necessary (`2 ** 3` is harmless). -/
example : commentBodySafe ">>> f(2 *>>> 3" = true ∧ exampleBal ">>> f(2 *>>> 3" = false ∧
    textOf id (createFunctionString env0 (fDoc "Doc." [">>> f(2 *>>> 3"]) "" false true {})
      = "// TODO Result type information missing.\n/**\n * Doc.\n *\n * @example\n * pipeline example {\n" ++
        " *     // f(2 *// 3\n * }\n */\n@Pure\nfun f()" ∧
    Balanced (textOf id (createFunctionString env0 (fDoc "Doc." [">>> f(2 *>>> 3"]) "" false true {})) = false ∧
    exampleBal ">>> f(2 ** 3)" = false ∧
    Balanced (textOf id (createFunctionString env0 (fDoc "Doc." [">>> f(2 ** 3)"]) "" false true {})) = true := by
  decide +kernel
/-- names: the model prints any string it is given as a name.  (For names that are legal Python
    identifiers `Convertible` is more than balance needs: `__` is rendered as the empty string and
    `_1` as `1`, which is not a token — `C02` — but balanced.) -/
example : typeBal (.named "A<" "m.A<") = false ∧ Balanced (Spec.typeText true (.named "A<" "m.A<")) = false ∧
    Convertible "__".toList = false ∧ Balanced (escapeKeyword (convertName "__" true)) = true := by decide +kernel

end Counterexamples

/-! ## 9. non-vacuity: closed runs of the generator model

(Texts are kept below 300 characters: `String.toList` of a literal is quadratic in the kernel.) -/

section Example

private def xInt : AType := .named "int" "builtins.int"
private def xStr : AType := .named "str" "builtins.str"
private def xNone : AType := .named "None" "builtins.None"

private def xBase : Class :=
  { id := "pkg/mod/_Base", name := "_Base", isPublic := false,
    methods := [{ id := "pkg/mod/_Base/helper", name := "helper", isPublic := true,
                  params := [mkP "self" none, mkP "n" (some xInt) true (.int (-1))],
                  results := [{ id := "r", name := "result_1", type := some (.list [xStr]) }] }] }
private def xInner : Class :=
  { id := "pkg/mod/Box/Inner", name := "Inner", isPublic := true,
    attributes := [{ id := "pkg/mod/Box/Inner/size", name := "size", isPublic := true, isStatic := false,
                     type := some xInt }] }
/-- a generic class with a documented constructor (keyword parameter name, string literal type, string
    default), a nested class, a property, a public and an inlined private base class -/
private def xBox : Class :=
  { id := "pkg/mod/Box", name := "Box", isPublic := true, superclasses := ["pkg.mod._Base", "other.Pub"],
    doc := { description := "A box." },
    ctor := some { id := "pkg/mod/Box/__init__", name := "__init__", isPublic := true,
                   params := [mkP "self" none,
                              mkP "in_" (some (.literal [.str "a", .int 1])) true (.str "\"a\"") "The mode."] },
    methods := [{ id := "pkg/mod/Box/area", name := "area", isPublic := true, isProperty := true,
                  results := [{ id := "r", name := "result_1", type := some (.union [xInt, xNone]) }] }],
    classes := [xInner],
    typeParams := [{ name := "T", type := some xInt, variance := .covariant }] }
/-- a generic function with a callable parameter, nested generics, a float default and an example -/
private def xFun : Function :=
  { id := "pkg/mod/apply_it", name := "apply_it", isPublic := true,
    doc := { description := "Apply.", examples := [">>> apply_it(f)"] },
    typeVars := [{ name := "T", upperBound := none }],
    params := [mkP "f" (some (.callable [xInt, .typeVar "T"] (.tuple [xInt, xStr]))),
               mkP "d" (some (.dict xStr (.set [xInt]))) true (.float "1e-05")],
    results := [{ id := "r", name := "result_1", type := some (.typeVar "T") }] }
/-- a module with a docstring, a function that needs an import, and an enum -/
private def xM : Module :=
  { id := "pkg/mod", name := "mod", docstring := "Shapes (2*3).",
    functions := [{ id := "pkg/mod/f", name := "f", isPublic := true,
                    params := [mkP "x" (some (.named "Pub" "other.Pub"))],
                    results := [{ id := "r", name := "result_1", type := some xNone }] }],
    enums := [{ id := "pkg/mod/Color", name := "Color",
                instances := [{ id := "pkg/mod/Color/RED", name := "RED" },
                              { id := "pkg/mod/Color/dark_blue", name := "dark_blue" }] }] }
private def xEnv : Env := { api := { package := "pkg", modules := [xM], classes := [xBox, xInner, xBase] }, safe := true }

/-- the function text without its last line … -/
private def xFunHead : String :=
    "// TODO Safe-DS does not support set types.\n" ++
    "/**\n * Apply.\n *\n * @example\n * pipeline example {\n *     // apply_it(f)\n * }\n */\n" ++
    "@Pure\n@PythonName(\"apply_it\")\nfun applyIt<T>(\n" ++
    "    f: (param1: Int, param2: T) -> (result1: Int, result2: String),\n" ++
    "    d: Map<String, Set<Int>> = 1e-05"
private def xFunText : String := xFunHead ++ "\n) -> result1: T"
/-- the class text without its closing brace … -/
private def xClassHead : String :=
    "/**\n * A box.\n *\n * @param in The mode.\n */\n" ++
    "class Box<out T sub Int>(\n    @PythonName(\"in_\") `in`: literal<\"a\", 1> = \"a\"\n) sub Pub {\n" ++
    "    class Inner() {\n        attr size: Int\n    }\n\n" ++
    "    @Pure\n    fun helper(\n        n: Int = -1\n    ) -> result1: List<String>\n\n" ++
    "    attr area: Int?\n"
private def xClassText : String := xClassHead ++ "}"
/-- the module text without the closing brace of the enum … -/
private def xModHead : String :=
    "/**\n * Shapes (2*3).\n */\n\npackage pkg.mod\n\nfrom other import Pub\n\n" ++
    "@Pure\nfun f(\n    x: Pub\n)\n\n" ++
    "enum Color {\n    RED\n    @PythonName(\"dark_blue\") darkBlue\n"
private def xModText : String := xModHead ++ "}\n"

/-- the generator writes these texts, … -/
example : textOf id (createFunctionString xEnv xFun "" false true {}) = xFunText := by decide +kernel
example : textOf id (createClassString xEnv 9 xBox "" true {}) = xClassText := by decide +kernel
example : (match callGenerator xEnv xM {} with
     | .ok (r, st') => r.1 == xModText && r.2 == "pkg.mod" && st'.imports.all pathBal
     | .error _ => false) = true := by decide +kernel

/-- … all hypotheses of `function_closed`, `class_closed` and `stub_closed_partial` hold for them (the
    hypothesis on the final imports is part of the previous example), … -/
example : functionBal xFun = true ∧ classBal xBox = true ∧ moduleBal xM = true ∧
    xEnv.api.classes.all classBal = true ∧ pathBal "pkg.mod" = true := by decide +kernel

/-- … the scanner accepts them, … -/
example : Balanced xFunText = true := by decide +kernel
example : Balanced xClassText = true := by decide +kernel
example : Balanced xModText = true := by decide +kernel

/-- … and rejects them when the closing parenthesis or brace is missing or of the wrong kind -/
example : Balanced xFunHead = false := by decide +kernel
example : Balanced (xFunHead ++ "\n} -> result1: T") = false := by decide +kernel
example : Balanced xClassHead = false := by decide +kernel
example : Balanced xModHead = false ∧ Balanced (xModHead ++ ")\n") = false := by decide +kernel

end Example

end StubGen.C02a
