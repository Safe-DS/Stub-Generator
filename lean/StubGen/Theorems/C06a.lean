/-
C06 (analyser side) — "… each parameter keeps its name, kind (positional-only, positional-or-keyword,
keyword-only, *args, **kwargs), default value (int, float, str, bool, None literals, negative numbers)
and optionality."

Property theorems about `argumentKind` (`get_argument_kind`), `defaultOf`
(`_get_parameter_type_and_default_value`: `mypy_expression_to_python_value` and the handling of
what it cannot read), `parseParameter` and `parseParameters` (`_parse_parameter_data`) of
`StubGen.Model.Analyze`.  Vocabulary and helper lemmas: `StubGen/Proofs/Inference.lean` (`u07_`):

* `u07_declaredType env a`       — the first block of `parseParameter`: the translated `variable.type`
                                   of an annotated parameter;
* `u07_defaultTriple fid a argT` — `(default, default_is_none, type)` after looking at the initializer;
* `u07_LitDefault e`             — `e` is a literal default (`1`, `1.5`, `"x"`, `None`, `True`, `False`, `-1`, `-1.5`).

Where things are decided.  IMPLICIT is decided in `argumentKind`, from the flags `is_self` / `is_cls`
of the argument's variable (NOT from the position of the parameter or the kind of the function).
The `*args → List<…>` / `**kwargs → Map<String, …>` wrapping is NOT done by the analyser: the
analyser stores the translated `variable.type` as it is; the wrapping is the generator's
(`createParameter`, C06 generator side).
-/
import StubGen.Proofs.Inference

namespace StubGen.C06a

open StubGen

/-! ### 7. the kind of a parameter -/

/-- (7) total decision table of `argumentKind` over `(is_self ∨ is_cls, kind, pos_only)`; `kind` is
    mypy's `ArgKind` value: 0 `ARG_POS`, 1 `ARG_OPT`, 2 `ARG_STAR`, 3 `ARG_NAMED`, 4 `ARG_STAR2`,
    5 `ARG_NAMED_OPT`.  The only error: a kind outside 0…5 (`ValueError`). -/
theorem argumentKind_table (a : Arg) :
    (a.isSelf = true ∨ a.isCls = true → argumentKind a = .ok .implicit) ∧
    (a.isSelf = false → a.isCls = false →
      ((a.kind = 0 ∨ a.kind = 1) → a.posOnly = true → argumentKind a = .ok .positionOnly) ∧
      ((a.kind = 0 ∨ a.kind = 1) → a.posOnly = false → argumentKind a = .ok .positionOrName) ∧
      (a.kind = 2 → argumentKind a = .ok .positionalVararg) ∧
      ((a.kind = 3 ∨ a.kind = 5) → argumentKind a = .ok .nameOnly) ∧
      (a.kind = 4 → argumentKind a = .ok .namedVararg) ∧
      (6 ≤ a.kind → argumentKind a = .error .valueError)) := by
  obtain ⟨name, isSelf, isCls, kind, posOnly, vt, an, init⟩ := a
  dsimp only
  refine ⟨?_, ?_⟩
  · rintro (rfl | rfl) <;> simp [argumentKind]
  · rintro rfl rfl
    refine ⟨?_, ?_, ?_, ?_, ?_, ?_⟩
    · rintro (rfl | rfl) rfl <;> simp [argumentKind]
    · rintro (rfl | rfl) rfl <;> simp [argumentKind]
    · rintro rfl; simp [argumentKind]
    · rintro (rfl | rfl) <;> simp [argumentKind]
    · rintro rfl; simp [argumentKind]
    · intro h
      have h0 : (kind == 0) = false := by rw [beq_eq_false_iff_ne]; omega
      have h1 : (kind == 1) = false := by rw [beq_eq_false_iff_ne]; omega
      have h2 : (kind == 2) = false := by rw [beq_eq_false_iff_ne]; omega
      have h3 : (kind == 3) = false := by rw [beq_eq_false_iff_ne]; omega
      have h4 : (kind == 4) = false := by rw [beq_eq_false_iff_ne]; omega
      have h5 : (kind == 5) = false := by rw [beq_eq_false_iff_ne]; omega
      simp [argumentKind, h0, h1, h2, h3, h4, h5]

/-- (7, the table is total) every mypy kind has an entry -/
theorem argumentKind_total (a : Arg) (h : a.kind ≤ 5) : ∃ k, argumentKind a = .ok k := by
  have T := argumentKind_table a
  cases hs : a.isSelf with
  | true => exact ⟨_, T.1 (.inl hs)⟩
  | false =>
    cases hc : a.isCls with
    | true => exact ⟨_, T.1 (.inr hc)⟩
    | false =>
      obtain ⟨t1, t2, t3, t4, t5, _⟩ := T.2 hs hc
      have hk : a.kind = 0 ∨ a.kind = 1 ∨ a.kind = 2 ∨ a.kind = 3 ∨ a.kind = 4 ∨ a.kind = 5 := by omega
      rcases hk with hk | hk | hk | hk | hk | hk
      · cases hp : a.posOnly with
        | true => exact ⟨_, t1 (.inl hk) hp⟩
        | false => exact ⟨_, t2 (.inl hk) hp⟩
      · cases hp : a.posOnly with
        | true => exact ⟨_, t1 (.inr hk) hp⟩
        | false => exact ⟨_, t2 (.inr hk) hp⟩
      · exact ⟨_, t3 hk⟩
      · exact ⟨_, t4 (.inl hk)⟩
      · exact ⟨_, t5 hk⟩
      · exact ⟨_, t4 (.inr hk)⟩

/-- (7, error case exactly) -/
theorem argumentKind_error_iff (a : Arg) (e : PyErr) :
    argumentKind a = .error e ↔ e = .valueError ∧ a.isSelf = false ∧ a.isCls = false ∧ 6 ≤ a.kind := by
  have T := argumentKind_table a
  constructor
  · intro h
    cases hs : a.isSelf with
    | true => rw [T.1 (.inl hs)] at h; cases h
    | false =>
      cases hc : a.isCls with
      | true => rw [T.1 (.inr hc)] at h; cases h
      | false =>
        by_cases hk : a.kind ≤ 5
        · obtain ⟨k, hk'⟩ := argumentKind_total a hk
          rw [hk'] at h; cases h
        · rw [(T.2 hs hc).2.2.2.2.2 (by omega)] at h
          cases h
          exact ⟨rfl, rfl, rfl, by omega⟩
  · rintro ⟨rfl, hs, hc, hk⟩
    exact (T.2 hs hc).2.2.2.2.2 hk

/-- (7) IMPLICIT iff the variable is flagged `is_self` or `is_cls` -/
theorem implicit_iff (a : Arg) : argumentKind a = .ok .implicit ↔ (a.isSelf = true ∨ a.isCls = true) := by
  have T := argumentKind_table a
  refine ⟨fun h => ?_, T.1⟩
  cases hs : a.isSelf with
  | true => exact .inl rfl
  | false =>
    cases hc : a.isCls with
    | true => exact .inr rfl
    | false =>
      exfalso
      obtain ⟨t1, t2, t3, t4, t5, t6⟩ := T.2 hs hc
      by_cases hk : a.kind ≤ 5
      · have hk : a.kind = 0 ∨ a.kind = 1 ∨ a.kind = 2 ∨ a.kind = 3 ∨ a.kind = 4 ∨ a.kind = 5 := by omega
        rcases hk with hk | hk | hk | hk | hk | hk
        · cases hp : a.posOnly with
          | true => rw [t1 (.inl hk) hp] at h; cases h
          | false => rw [t2 (.inl hk) hp] at h; cases h
        · cases hp : a.posOnly with
          | true => rw [t1 (.inr hk) hp] at h; cases h
          | false => rw [t2 (.inr hk) hp] at h; cases h
        · rw [t3 hk] at h; cases h
        · rw [t4 (.inl hk)] at h; cases h
        · rw [t5 hk] at h; cases h
        · rw [t4 (.inr hk)] at h; cases h
      · rw [t6 (by omega)] at h; cases h

/-! ### 8. default values -/

/-- the warning for a call as default value -/
def callWarning (fid : String) : String :=
  "Could not parse parameter type for function " ++ fid ++ ": Safe-DS does not support call expressions as types."

/-- a number text is "plain" if it carries no sign -/
def plain (txt : String) : Bool := !(pyStartsWith txt "-") && !(pyStartsWith txt "+")

/-- (8) `defaultOf fid e = (default value, "the default is None", warnings)`, form by form.
    Strings keep their text between double quotes; a float is its source text.
    A unary operator is understood on a non-negative int and an unsigned float only, with `-` and `+`;
    everything else under a unary operator is the marker `unknown` plus a warning.
    A name other than `None`/`True`/`False`, a tuple, a member access, a conditional expression and
    every `other` expression give NO default (`none`, not None): such a parameter is NOT optional
    (`defaultOf_unreadable`); a call additionally leaves a warning. -/
theorem defaultOf_spec (fid : String) :
    (∀ v, defaultOf fid (.int v) = (.int v, false, [])) ∧
    (∀ r, defaultOf fid (.float r) = (.float r, false, [])) ∧
    (∀ v, defaultOf fid (.str v) = (.str (escapeStringLiteral v), false, [])) ∧
    (∀ fq b tn tq, defaultOf fid (.name "None" fq b tn tq) = (.none, true, [])) ∧
    (∀ fq b tn tq, defaultOf fid (.name "True" fq b tn tq) = (.bool true, false, [])) ∧
    (∀ fq b tn tq, defaultOf fid (.name "False" fq b tn tq) = (.bool false, false, [])) ∧
    (∀ n fq b tn tq, n ≠ "None" → n ≠ "True" → n ≠ "False" →
        defaultOf fid (.name n fq b tn tq) = (.none, false, [])) ∧
    (∀ v : Int, 0 ≤ v → defaultOf fid (.unary "-" (.int v)) = (.int (-v), false, [])) ∧
    (∀ v : Int, 0 ≤ v → defaultOf fid (.unary "+" (.int v)) = (.int v, false, [])) ∧
    (∀ v : Int, v < 0 → ∀ op, defaultOf fid (.unary op (.int v)) = (.unknown, false, ["unexpected operator"])) ∧
    (∀ r, plain r = true → defaultOf fid (.unary "-" (.float r)) = (.float ("-" ++ r), false, [])) ∧
    (∀ r, plain r = true → defaultOf fid (.unary "+" (.float r)) = (.float r, false, [])) ∧
    (∀ r, plain r = false → ∀ op, defaultOf fid (.unary op (.float r)) = (.unknown, false, ["unexpected operator"])) ∧
    (∀ op v, op ≠ "-" → op ≠ "+" → defaultOf fid (.unary op (.int v)) = (.unknown, false, ["unexpected operator"])) ∧
    (∀ op r, op ≠ "-" → op ≠ "+" → defaultOf fid (.unary op (.float r)) = (.unknown, false, ["unexpected operator"])) ∧
    defaultOf fid .call = (.none, false, [callWarning fid]) ∧
    (∀ items, defaultOf fid (.tuple items) = (.none, false, [])) ∧
    defaultOf fid .member = (.none, false, []) ∧
    (∀ a b, defaultOf fid (.cond a b) = (.none, false, [])) ∧
    (∀ k, defaultOf fid (.other k) = (.none, false, [])) := by
  refine ⟨fun _ => rfl, fun _ => rfl, fun _ => rfl, fun _ _ _ _ => rfl, fun _ _ _ _ => rfl, fun _ _ _ _ => rfl,
    ?_, ?_, ?_, ?_, ?_, ?_, ?_, ?_, ?_, rfl, fun _ => rfl, rfl, fun _ _ => rfl, fun _ => rfl⟩
  · intro n fq b tn tq h1 h2 h3
    simp [defaultOf, h1, h2, h3]
  · intro v hv
    simp [defaultOf, hv]
  · intro v hv
    simp [defaultOf, hv]
  · intro v hv op
    have : ¬ (0 ≤ v) := by omega
    simp [defaultOf, this]
  · intro r hr
    unfold plain at hr
    simp [defaultOf, hr]
  · intro r hr
    unfold plain at hr
    simp [defaultOf, hr]
  · intro r hr op
    unfold plain at hr
    simp [defaultOf, hr]
  · intro op v h1 h2
    simp [defaultOf, h1, h2]
  · intro op r h1 h2
    simp [defaultOf, h1, h2]

/-- (8, any other operand of a unary operator) the operand's "is None" flag and warnings are kept, the
    value is `unknown`, one more warning -/
theorem defaultOf_unary_other (fid op : String) (e : Expr)
    (hi : ∀ i, (defaultOf fid e).1 ≠ .int i) (hf : ∀ r, (defaultOf fid e).1 ≠ .float r) :
    defaultOf fid (.unary op e) =
      (.unknown, (defaultOf fid e).2.1, (defaultOf fid e).2.2 ++ ["unexpected operator"]) := by
  rw [defaultOf]
  generalize defaultOf fid e = tr at hi hf ⊢
  obtain ⟨v, n, ws⟩ := tr
  cases v with
  | int i => exact absurd rfl (hi i)
  | float r => exact absurd rfl (hf r)
  | _ => rfl

/-- optionality as `parseParameter` computes it from the pair (default, default-is-None) -/
def optionalOf (t : DefaultVal × Bool × List String) : Bool := t.1 != .none || t.2.1

/-- (8) every literal default makes the parameter optional … -/
theorem defaultOf_literal_optional (fid : String) (e : Expr) (h : u07_LitDefault e) :
    optionalOf (defaultOf fid e) = true := by
  cases h with
  | int v => rfl
  | float r => rfl
  | str v => rfl
  | none => rfl
  | true => rfl
  | false => rfl
  | negInt v =>
    by_cases hv : 0 ≤ v
    · rw [(defaultOf_spec fid).2.2.2.2.2.2.2.1 v hv]; rfl
    · rw [(defaultOf_spec fid).2.2.2.2.2.2.2.2.2.1 v (by omega)]; rfl
  | negFloat r =>
    cases hp : plain r with
    | true => rw [(defaultOf_spec fid).2.2.2.2.2.2.2.2.2.2.1 r hp]; rfl
    | false => rw [(defaultOf_spec fid).2.2.2.2.2.2.2.2.2.2.2.2.1 r hp]; rfl

/-- (8) … and so does everything under a unary operator (value `unknown` at worst) -/
theorem defaultOf_unary_optional (fid op : String) (e : Expr) :
    optionalOf (defaultOf fid (.unary op e)) = true := by
  rw [defaultOf]
  generalize defaultOf fid e = tr
  obtain ⟨v, n, ws⟩ := tr
  cases v with
  | int i =>
    dsimp only
    split
    · rfl
    · split <;> rfl
  | float r =>
    dsimp only
    split
    · rfl
    · split <;> rfl
  | _ => rfl

/-- (8, what is NOT kept) a default that is a name other than `None`/`True`/`False`, a call, a tuple,
    a member access, a conditional expression or any other expression: the parameter has no default
    and is NOT optional in the API model -/
theorem defaultOf_unreadable (fid : String) (e : Expr)
    (h : (∃ n fq b tn tq, e = .name n fq b tn tq ∧ n ≠ "None" ∧ n ≠ "True" ∧ n ≠ "False") ∨ e = .call ∨
      (∃ items, e = .tuple items) ∨ e = .member ∨ (∃ a b, e = .cond a b) ∨ (∃ k, e = .other k)) :
    (defaultOf fid e).1 = .none ∧ optionalOf (defaultOf fid e) = false := by
  rcases h with ⟨n, fq, b, tn, tq, rfl, h1, h2, h3⟩ | rfl | ⟨items, rfl⟩ | rfl | ⟨a, b, rfl⟩ | ⟨k, rfl⟩
  · rw [(defaultOf_spec fid).2.2.2.2.2.2.1 n fq b tn tq h1 h2 h3]; exact ⟨rfl, rfl⟩
  all_goals exact ⟨rfl, rfl⟩

/-! ### 9. the fields of a parameter -/

/-- (8, `parseParameter` level) without an initializer: no default, not optional, the declared type -/
theorem defaultOf_none (fid : String) (a : Arg) (argT : Option AType) (h : a.init = none) :
    u07_defaultTriple fid a argT = (.none, false, argT) := by
  unfold u07_defaultTriple; rw [h]

/-- (9) with an initializer `e`: default and "is None" from `defaultOf`; the type is the declared type
    if there is one; an un-annotated parameter gets the type of the initializer (`exprToType e`) when
    the default was readable (default ≠ none or the default is `None`), and stays untyped otherwise -/
theorem defaultTriple_some (fid : String) (a : Arg) (argT : Option AType) (e : Expr) (h : a.init = some e) :
    (u07_defaultTriple fid a argT).1 = (defaultOf fid e).1 ∧
    (u07_defaultTriple fid a argT).2.1 = (defaultOf fid e).2.1 ∧
    (∀ t, argT = some t → (u07_defaultTriple fid a argT).2.2 = some t) ∧
    (argT = none → optionalOf (defaultOf fid e) = true →
        ∃ t, exprToType e = .ok t ∧ (u07_defaultTriple fid a argT).2.2 = some t) ∧
    (argT = none → optionalOf (defaultOf fid e) = false → (u07_defaultTriple fid a argT).2.2 = none) := by
  unfold u07_defaultTriple; rw [h]
  refine ⟨rfl, rfl, ?_, ?_, ?_⟩
  · rintro t rfl; rfl
  · rintro rfl ho
    refine ⟨_, u07_exprToType_eq e, ?_⟩
    unfold optionalOf at ho
    have : ((defaultOf fid e).2.1 || (defaultOf fid e).1 != .none) = true := by rw [Bool.or_comm]; exact ho
    simp [this]
  · rintro rfl ho
    unfold optionalOf at ho
    have : ((defaultOf fid e).2.1 || (defaultOf fid e).1 != .none) = false := by rw [Bool.or_comm]; exact ho
    simp [this]

/-- (9) the declared type: nothing without `variable.type` (`ValueError`); no type if that type is an
    `Any` that does not come from an explicit annotation, or if the parameter is not annotated; otherwise
    `variable.type` translated by `toAbstract` — except for an un-analysed annotation `list[…]`/`set[…]`
    with two or more arguments, which is translated itself -/
theorem declaredType_cases (env : AEnv) (a : Arg) :
    (a.varType = none → ∀ s, u07_declaredType env a s = .error .valueError) ∧
    (∀ mt, a.varType = some mt → isIncorrectAny mt = true → ∀ s, u07_declaredType env a s = .ok (none, s)) ∧
    (∀ mt, a.varType = some mt → a.annotation = none → ∀ s, u07_declaredType env a s = .ok (none, s)) ∧
    (∀ mt n args, a.varType = some mt → isIncorrectAny mt = false → a.annotation = some (.unbound n args) →
        (n = "list" ∨ n = "set") → 2 ≤ args.length →
        u07_declaredType env a = (do let t ← toAbstract env (.unbound n args) none; pure (some t))) ∧
    (∀ mt an, a.varType = some mt → isIncorrectAny mt = false → a.annotation = some an →
        (∀ n args, an = .unbound n args → ¬ ((n = "list" ∨ n = "set") ∧ 2 ≤ args.length)) →
        u07_declaredType env a = (do let t ← toAbstract env mt none; pure (some t))) := by
  refine ⟨?_, ?_, ?_, ?_, ?_⟩
  · intro h s; unfold u07_declaredType; rw [h]; rfl
  · intro mt h hi s; unfold u07_declaredType; rw [h]; simp only [hi, if_true]; rfl
  · intro mt h ha s; unfold u07_declaredType; rw [h, ha]
    dsimp only
    split <;> rfl
  · intro mt n args h hi ha hn hl
    unfold u07_declaredType; rw [h, ha]
    have : ((n == "list" || n == "set") && decide (args.length ≥ 2)) = true := by
      rcases hn with rfl | rfl <;> simp [hl]
    simp only [hi, this, if_true, Bool.false_eq_true, if_false]
  · intro mt an h hi ha hn
    unfold u07_declaredType; rw [h, ha]
    simp only [hi, Bool.false_eq_true, if_false]
    cases an with
    | unbound n args =>
      have : ((n == "list" || n == "set") && decide (args.length ≥ 2)) = false := by
        have := hn n args rfl
        rw [Bool.eq_false_iff]
        intro hc
        apply this
        simpa using hc
      simp only [this, Bool.false_eq_true, if_false]
    | _ => rfl

/-- (9) the fields of a successfully parsed parameter: name and id, the kind of the table (7), default
    and optionality from the initializer (8), the type from the annotation or the initializer.  The
    docstring part (`doc`) is the only other field. -/
theorem parseParameter_fields (env : AEnv) (f : FuncDef) (fid : String) (a : Arg) (s s' : VSt) (p : Parameter)
    (h : parseParameter env f fid a s = .ok (p, s')) :
    p.name = a.name ∧ p.id = fid ++ "/" ++ a.name ∧
    argumentKind a = .ok p.assignedBy ∧
    ∃ argT s1, u07_declaredType env a s = .ok (argT, s1) ∧
      p.default = (u07_defaultTriple fid a argT).1 ∧
      p.isOptional = ((u07_defaultTriple fid a argT).1 != .none || (u07_defaultTriple fid a argT).2.1) ∧
      p.type = (u07_defaultTriple fid a argT).2.2 := by
  obtain ⟨argT, s1, kind, h1, hk, hid, hn, ha, hd, ho, ht⟩ := u07_parseParameter_ok h
  exact ⟨hn, hid, by rw [ha]; exact hk, argT, s1, h1, hd, ho, ht⟩

/-- (9, spelled out for the two cases of the initializer) -/
theorem parseParameter_default (env : AEnv) (f : FuncDef) (fid : String) (a : Arg) (s s' : VSt) (p : Parameter)
    (h : parseParameter env f fid a s = .ok (p, s')) :
    (a.init = none → p.default = .none ∧ p.isOptional = false) ∧
    (∀ e, a.init = some e → p.default = (defaultOf fid e).1 ∧ p.isOptional = optionalOf (defaultOf fid e)) := by
  obtain ⟨_, _, _, argT, s1, _, hd, ho, _⟩ := parseParameter_fields env f fid a s s' p h
  refine ⟨fun hi => ?_, fun e hi => ?_⟩
  · rw [defaultOf_none fid a argT hi] at hd ho
    exact ⟨hd, ho⟩
  · obtain ⟨h1, h2, _⟩ := defaultTriple_some fid a argT e hi
    rw [h1] at hd ho; rw [h2] at ho
    exact ⟨hd, ho⟩

/-- (9) a literal default is kept and makes the parameter optional -/
theorem parseParameter_literal_default (env : AEnv) (f : FuncDef) (fid : String) (a : Arg) (s s' : VSt)
    (p : Parameter) (e : Expr) (h : parseParameter env f fid a s = .ok (p, s')) (hi : a.init = some e)
    (hl : u07_LitDefault e) : p.default = (defaultOf fid e).1 ∧ p.isOptional = true := by
  obtain ⟨hd, ho⟩ := (parseParameter_default env f fid a s s' p h).2 e hi
  exact ⟨hd, by rw [ho]; exact defaultOf_literal_optional fid e hl⟩

/-! ### 10. order and arity -/

/-- (10) `parseParameters` keeps the parameters in order, one per argument, names and ids included -/
theorem parseParameters_order (env : AEnv) (f : FuncDef) (fid : String) (args : List Arg) (s s' : VSt)
    (ps : List Parameter) (h : parseParameters env f fid args s = .ok (ps, s')) :
    ps.map (·.name) = args.map (·.name) ∧ ps.length = args.length ∧
    ∀ p ∈ ps, p.id = fid ++ "/" ++ p.name := by
  have o := (k12_parseParameters_out env f fid args).run _ _ _ h
  refine ⟨o.1, ?_, o.2⟩
  have := congrArg List.length o.1
  simpa using this

/-- (10, position by position) the `i`-th parameter is the parsed `i`-th argument: `parseParameters`
    succeeds iff … and then every parameter has the fields of (9) for its argument -/
theorem parseParameters_pointwise (env : AEnv) (f : FuncDef) (fid : String) :
    ∀ (args : List Arg) (s s' : VSt) (ps : List Parameter),
      parseParameters env f fid args s = .ok (ps, s') →
      List.Forall₂ (fun (a : Arg) (p : Parameter) => ∃ s1 s2, parseParameter env f fid a s1 = .ok (p, s2)) args ps
  | [], s, s', ps, h => by
    rw [parseParameters] at h
    rw [(se_pure_ok h).1]; exact .nil
  | a :: as, s, s', ps, h => by
    rw [parseParameters] at h
    have hh := se_bind_ok h; clear h; obtain ⟨p, s1, h1, h⟩ := hh
    have hh := se_bind_ok h; clear h; obtain ⟨ps', s2, h2, h⟩ := hh
    rw [(se_pure_ok h).1]
    exact .cons ⟨s, s1, h1⟩ (parseParameters_pointwise env f fid as s1 s2 ps' h2)

/-! ### 11. examples (kernel-checked) -/

def exEnv : AEnv := { opts := {}, aliases := [], infoBases := [] }
def exSt : VSt := { doc := { root := { name := "m" }, style := .numpy } }
def exF : FuncDef :=
  { name := "f", fullname := "m.C.f", isStatic := false, isClass := false, isProperty := false, args := [],
    hasCallableType := false, retType := none, unanalyzedRet := none, unanalyzedRetLiteralIsNone := false, body := [] }

/-- what is observed of a parsed parameter: name, id, kind, optional, default, type, and the new warnings -/
def view (a : Arg) : Except PyErr (String × String × Assign × Bool × DefaultVal × Option AType × List String) :=
  match parseParameter exEnv exF "m/C/f" a exSt with
  | .ok (p, s) => .ok (p.name, p.id, p.assignedBy, p.isOptional, p.default, p.type, s.warnings)
  | .error e => .error e

def unannotated : Option MType := some (.any 1 "")
def tInt : MType := .inst "int" "builtins.int" []
def arg (name : String) (kind : Nat) (init : Option Expr := none) (posOnly : Bool := false) : Arg :=
  { name := name, isSelf := false, isCls := false, kind := kind, posOnly := posOnly,
    varType := unannotated, annotation := none, init := init }

/-- `self` — IMPLICIT, whatever its kind -/
example :
    view { name := "self", isSelf := true, isCls := false, kind := 0, posOnly := false,
           varType := some (.inst "C" "m.C" []), annotation := none, init := none }
      = .ok ("self", "m/C/f/self", .implicit, false, .none, none, []) := rfl

/-- `a: int, /` — positional-only, annotated -/
example :
    view { name := "a", isSelf := false, isCls := false, kind := 0, posOnly := true,
           varType := some tInt, annotation := some (.unbound "int" []), init := none }
      = .ok ("a", "m/C/f/a", .positionOnly, false, .none, some (.named "int" "builtins.int"), []) := rfl

/-- `b=-5` — positional-or-keyword, negative default, type from the default -/
example :
    view (arg "b" 1 (some (.unary "-" (.int 5))))
      = .ok ("b", "m/C/f/b", .positionOrName, true, .int (-5), some (.named "int" "builtins.int"), []) := rfl

/-- `*args` -/
example : view (arg "args" 2) = .ok ("args", "m/C/f/args", .positionalVararg, false, .none, none, []) := rfl

/-- `*, c=1.5` — keyword-only with default -/
example :
    view (arg "c" 5 (some (.float "1.5")))
      = .ok ("c", "m/C/f/c", .nameOnly, true, .float "1.5", some (.named "float" "builtins.float"), []) := rfl

/-- `d="x"` -/
example :
    view (arg "d" 5 (some (.str "x")))
      = .ok ("d", "m/C/f/d", .nameOnly, true, .str "\"x\"", some (.named "str" "builtins.str"), []) := rfl

/-- `e=None` — no default VALUE but optional; the type is the class `None` with the name's fullname -/
example :
    view (arg "e" 5 (some (.name "None" "builtins.None" false "" "")))
      = .ok ("e", "m/C/f/e", .nameOnly, true, .none, some (.named "None" "builtins.None"), []) := rfl

/-- `g=True` -/
example :
    view (arg "g" 5 (some (.name "True" "builtins.True" false "" "")))
      = .ok ("g", "m/C/f/g", .nameOnly, true, .bool true, some (.named "bool" "builtins.bool"), []) := rfl

/-- `h=f()` — a call: no default, NOT optional, no type, one warning -/
example :
    view (arg "h" 5 (some .call))
      = .ok ("h", "m/C/f/h", .nameOnly, false, .none, none, [callWarning "m/C/f"]) := rfl

/-- `i=SOME_CONSTANT` — a name: no default, NOT optional, no warning -/
example :
    view (arg "i" 1 (some (.name "SOME_CONSTANT" "m.SOME_CONSTANT" false "" "")))
      = .ok ("i", "m/C/f/i", .positionOrName, false, .none, none, []) := rfl

/-- `j: int = 3` — annotated with default: the annotation wins -/
example :
    view { name := "j", isSelf := false, isCls := false, kind := 1, posOnly := false,
           varType := some tInt, annotation := some (.unbound "int" []), init := some (.int 3) }
      = .ok ("j", "m/C/f/j", .positionOrName, true, .int 3, some (.named "int" "builtins.int"), []) := rfl

/-- `k=-x` — unary operator on something unreadable: value `unknown`, optional, type from the operand -/
example :
    view (arg "k" 1 (some (.unary "-" (.name "x" "m.x" false "" ""))))
      = .ok ("k", "m/C/f/k", .positionOrName, true, .unknown, some (.named "x" "m.x"), ["unexpected operator"]) := rfl

/-- `**kwargs` -/
example : view (arg "kwargs" 4) = .ok ("kwargs", "m/C/f/kwargs", .namedVararg, false, .none, none, []) := rfl

/-- an unknown kind is a `ValueError`; no `variable.type` is a `ValueError` -/
example : view (arg "z" 6) = .error .valueError := rfl
example :
    view { name := "z", isSelf := false, isCls := false, kind := 0, posOnly := false,
           varType := none, annotation := none, init := none } = .error .valueError := rfl

/-- order and arity: a whole parameter list -/
example :
    (match parseParameters exEnv exF "m/C/f"
        [arg "a" 0 none true, arg "b" 1 (some (.int 1)), arg "args" 2, arg "c" 3, arg "kwargs" 4] exSt with
     | .ok (ps, _) => ps.map (fun p => (p.name, p.assignedBy))
     | .error _ => [])
      = [("a", .positionOnly), ("b", .positionOrName), ("args", .positionalVararg), ("c", .nameOnly),
         ("kwargs", .namedVararg)] := rfl

end StubGen.C06a
