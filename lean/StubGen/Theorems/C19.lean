/-
C19 — the type algebra of `_types.py` (model: `StubGen.Model.Types`):
`from_dict ∘ to_dict` is the identity, `==` is an equivalence relation that is
compatible with `hash`, and the sequence-like constructors are order-insensitive.
All statements are for all terms (no size bound).  Proof machinery: `StubGen.Proofs.Types`.
-/
import StubGen.Proofs.Types

namespace StubGen.C19

open StubGen

/-- (a) `from_dict(to_dict(t))` succeeds and returns `t` itself. -/
theorem roundtrip (t : AType) : AType.fromDict t.toDict = .ok t := by
  simp [AType.fromDict, parse_toDict, FromDict.asType]

/-- (b) serialising the deserialised value gives the same dict. -/
theorem todict_stable (t t' : AType) (h : AType.fromDict t.toDict = .ok t') :
    t'.toDict = t.toDict := by
  rw [roundtrip t] at h
  cases h
  rfl

/-- (c) `t == t`. -/
theorem eq_refl (t : AType) : t.pyEq t = true :=
  pyEq_equiv.refl t trivial

/-- (d) `a == b → hash(a) == hash(b)`. -/
theorem eq_hash (a b : AType) : a.pyEq b = true → a.hashKey = b.hashKey :=
  hashKey_of_pyEq_lt (sizeOf a + 1) a b (Nat.lt_succ_self _)

/-- (f) `==` is transitive. -/
theorem eq_trans (a b c : AType) : a.pyEq b = true → b.pyEq c = true → a.pyEq c = true :=
  pyEq_equiv.trans a b c trivial trivial trivial

/-- (e) `(a == b) = (b == a)`. -/
theorem eq_symm (a b : AType) : a.pyEq b = b.pyEq a :=
  pyEq_comm a b

/-! (g) order-insensitivity of the seven sequence-like constructors -/

private theorem eq_and_hash {a b : AType} (h : a.pyEq b = true) : a.pyEq b = true ∧ a.hashKey = b.hashKey :=
  ⟨h, eq_hash a b h⟩

theorem perm_namedSeq (n q : String) (ts ts' : List AType) (h : List.Perm ts ts') :
    (AType.namedSeq n q ts).pyEq (AType.namedSeq n q ts') = true ∧
      (AType.namedSeq n q ts).hashKey = (AType.namedSeq n q ts').hashKey :=
  eq_and_hash (by simp [AType.pyEq, eqFns_permMatch_of_perm h])

theorem perm_union (ts ts' : List AType) (h : List.Perm ts ts') :
    (AType.union ts).pyEq (AType.union ts') = true ∧
      (AType.union ts).hashKey = (AType.union ts').hashKey :=
  eq_and_hash (by simp [AType.pyEq, eqFns_permMatch_of_perm h])

theorem perm_list (ts ts' : List AType) (h : List.Perm ts ts') :
    (AType.list ts).pyEq (AType.list ts') = true ∧
      (AType.list ts).hashKey = (AType.list ts').hashKey :=
  eq_and_hash (by simp [AType.pyEq, eqFns_permMatch_of_perm h])

theorem perm_set (ts ts' : List AType) (h : List.Perm ts ts') :
    (AType.set ts).pyEq (AType.set ts') = true ∧
      (AType.set ts).hashKey = (AType.set ts').hashKey :=
  eq_and_hash (by simp [AType.pyEq, eqFns_permMatch_of_perm h])

theorem perm_tuple (ts ts' : List AType) (h : List.Perm ts ts') :
    (AType.tuple ts).pyEq (AType.tuple ts') = true ∧
      (AType.tuple ts).hashKey = (AType.tuple ts').hashKey :=
  eq_and_hash (by simp [AType.pyEq, eqFns_permMatch_of_perm h])

theorem perm_callable (ps ps' : List AType) (r : AType) (h : List.Perm ps ps') :
    (AType.callable ps r).pyEq (AType.callable ps' r) = true ∧
      (AType.callable ps r).hashKey = (AType.callable ps' r).hashKey :=
  eq_and_hash (by simp [AType.pyEq, eqFns_permMatch_of_perm h, eq_refl r])

theorem perm_literal (ls ls' : List Lit) (h : List.Perm ls ls') :
    (AType.literal ls).pyEq (AType.literal ls') = true ∧
      (AType.literal ls).hashKey = (AType.literal ls').hashKey :=
  eq_and_hash (by simp [AType.pyEq, lits_permMatch_of_perm h])

/-- (h) the round-tripped value is `==` to the original. -/
theorem roundtrip_eq (t : AType) : ∃ t', AType.fromDict t.toDict = .ok t' ∧ t'.pyEq t = true :=
  ⟨t, roundtrip t, eq_refl t⟩

/-! ### Non-vacuity: the hypotheses are satisfiable by non-trivial concrete terms -/

section Examples

private def u1 : AType :=
  .union [.list [.named "int" "builtins.int", .named "str" "builtins.str"],
          .literal [.bool true, .str "a"], .typeVarB "T" (.set [.unknown])]
/-- `u1` with the union, the nested list and the literal permuted, and `True` replaced by `1` -/
private def u2 : AType :=
  .union [.literal [.str "a", .int 1], .typeVarB "T" (.set [.unknown]),
          .list [.named "str" "builtins.str", .named "int" "builtins.int"]]
private def u3 : AType :=
  .union [.typeVarB "T" (.set [.unknown]), .literal [.int 1, .str "a"],
          .list [.named "int" "builtins.int", .named "str" "builtins.str"]]

/-- hypothesis of `eq_hash` / `eq_trans` holds for syntactically different terms -/
example : u1.pyEq u2 = true := by decide +kernel
example : u2.pyEq u3 = true := by decide +kernel
example : u1.pyEq u3 = true := by decide +kernel
example : AType.beq u1 u2 = false := by decide +kernel
example : u1.hashKey = u2.hashKey := eq_hash _ _ (by decide)
/-- `==` is not trivially true -/
example : u1.pyEq (.union [.unknown]) = false := by decide +kernel
example : (AType.literal [.bool true]).pyEq (.literal [.int 1]) = true := by decide +kernel
example : (AType.literal [.bool true]).pyEq (.literal [.int 0]) = false := by decide +kernel
example : (AType.literal [.bool true]).hashKey = (AType.literal [.int 1]).hashKey :=
  eq_hash _ _ (by decide)
/-- multiplicities matter: `==` is multiset, not set, equality -/
example : (AType.list [.unknown, .unknown]).pyEq (.list [.unknown]) = false := by decide +kernel
/-- the hypothesis of `todict_stable` is satisfiable -/
example : (match AType.fromDict u1.toDict with
    | .ok t => AType.beq t u1
    | .error _ => false) = true := by decide +kernel
example : ∃ t', AType.fromDict u1.toDict = .ok t' := ⟨_, roundtrip u1⟩
/-- the hypothesis of the `perm_*` theorems with a non-identity permutation -/
example : List.Perm [AType.unknown, .named "a" "m.a", .list [.unknown]]
    [.list [.unknown], .unknown, .named "a" "m.a"] :=
  List.perm_append_comm (l₁ := [AType.unknown, .named "a" "m.a"]) (l₂ := [.list [.unknown]])
example : (AType.set [.unknown, .named "a" "m.a", .list [.unknown]]).pyEq
    (.set [.list [.unknown], .unknown, .named "a" "m.a"]) = true := by decide +kernel
example : (AType.callable [.unknown, .named "a" "m.a"] u1).pyEq
    (.callable [.named "a" "m.a", .unknown] u2) = true := by decide +kernel
/-- boundary: `max_inclusive` is ignored exactly when `max` is `"Infinity"` -/
example : (AType.boundary "int" (.int 0) (.str "Infinity") true true).pyEq
    (.boundary "int" (.int 0) (.str "Infinity") true false) = true := by decide +kernel
example : (AType.boundary "int" (.int 0) (.int 5) true true).pyEq
    (.boundary "int" (.int 0) (.int 5) true false) = false := by decide +kernel

end Examples

end StubGen.C19
