/-
C10 — "Every stub file lies inside the requested output directory; its directory path relative to that
directory spells, segment by segment, the Python module path announced in the file (Python-module
annotation, else the package declaration), and its base name is the module - or the re-exported
declaration - it contains, without leading underscores.  Two different stub texts are never written to the
same path …"

Model: `StubGen.Model.Files` (`generateModules`, `stubPath`, `createOutsidePackageClass`, `createStubFiles`)
and `StubGen.Model.Gen` (`packageHeader`, `createModuleString`, `createReexportElements`).
Proof machinery: `StubGen.Proofs.Files`.

The package declaration writes the (converted) path with every dot-segment that is a Safe-DS keyword in
back-quotes (`escapePath`); the `@PythonModule` annotation has the Python path verbatim.  The path is read back
from the annotation when there is one, else from the package line with `unescapePath`
(`unescapePath_escapePath`, `header_recovers_python_module`, `header_determines_python_module`); all of this
for paths without back-quotes (counterexample below).
-/
import StubGen.Proofs.PathConv
import StubGen.Proofs.Files
import StubGen.Proofs.ShortestMem

namespace StubGen.C10

open StubGen

/-! ### 7. the header announces the Python module path -/

/-- reading a package line back: the back-quotes that escape Safe-DS keywords are stripped from every
    dot-segment (`pf_unescapePath` of `StubGen.Proofs.Files`) -/
abbrev unescapePath (p : String) : String := pf_unescapePath p

/-- `unescapePath` undoes `escapePath` (on paths without back-quotes) … -/
theorem unescapePath_escapePath (p : String) (h : '`' ∉ p.toList) : unescapePath (escapePath p) = p :=
  pf_unescapePath_escapePath p h

/-- … and `escapePath` writes a path verbatim when none of its dot-segments is a Safe-DS keyword. -/
theorem escapePath_of_no_keyword (p : String) (h : ∀ s ∈ splitDot p, s ∉ Generated.keywords) : escapePath p = p := by
  unfold escapePath
  rw [List.map_congr_left (l := pySplit p '.') fun s hs => pf_escapeKeyword_of_not_keyword s (h s hs), List.map_id']
  exact joinWith_pySplit p '.' "." (by decide)

/-- segment by segment: the dot-segments of the escaped path are the dot-segments of the path, a keyword `k`
    written as `` `k` `` -/
theorem escapePath_segments (p : String) :
    splitDot (escapePath p) = (splitDot p).map escapeKeyword
    ∧ ∀ s, (s ∉ Generated.keywords → escapeKeyword s = s)
         ∧ (s ∈ Generated.keywords → (escapeKeyword s).toList = '`' :: (s.toList ++ ['`'])) := by
  refine ⟨pf_splitDot_escapePath p, fun s => ⟨pf_escapeKeyword_of_not_keyword s, fun hk => ?_⟩⟩
  rcases pf_escapeKeyword_toList s with ⟨hn, _⟩ | ⟨_, e⟩
  · exact absurd hk hn
  · exact e

/-- The Python module path `pkg` is written into the header: in the package declaration (keyword segments
    back-quoted) when the naming convention leaves it unchanged, verbatim in the `@PythonModule` annotation
    otherwise.  In both cases `pkg` is recoverable from the header: from the annotation if there is one, else
    from the package line by `unescapePath` (`header_recovers_python_module`). -/
theorem header_announces_python_module (env : Env) (pkg : String) :
    (convertPath pkg env.safe = pkg → packageHeader env pkg = "package " ++ escapePath pkg ++ "\n")
    ∧ (convertPath pkg env.safe ≠ pkg →
        packageHeader env pkg
          = "@PythonModule(\"" ++ pkg ++ "\")\npackage " ++ escapePath (convertPath pkg env.safe) ++ "\n") := by
  unfold packageHeader
  constructor
  · intro h
    simp [h]
  · intro h
    have h' : ¬ pkg = convertPath pkg env.safe := fun e => h e.symm
    simp only [bne_iff_ne, ne_eq, h', not_false_eq_true, if_true, String.append_assoc]
    rw [← String.append_assoc (s₁ := "\")\n") (s₂ := "package ")]
    rfl

/-- The header in the three shapes it can take, each with the way the Python module path is read back:
    (a) no annotation, no keyword segment: the package line is the path verbatim (the statement for the
        generator without keyword escaping of package paths);
    (b) no annotation: the package line is `escapePath pkg`, and `unescapePath` of it is `pkg`;
    (c) annotation: it contains `pkg` verbatim. -/
theorem header_recovers_python_module (env : Env) (pkg : String) :
    (convertPath pkg env.safe = pkg → (∀ s ∈ splitDot pkg, s ∉ Generated.keywords) →
        packageHeader env pkg = "package " ++ pkg ++ "\n")
    ∧ (convertPath pkg env.safe = pkg → '`' ∉ pkg.toList →
        ∃ line, packageHeader env pkg = "package " ++ line ++ "\n" ∧ unescapePath line = pkg)
    ∧ (convertPath pkg env.safe ≠ pkg →
        ∃ line, packageHeader env pkg = "@PythonModule(\"" ++ pkg ++ "\")\npackage " ++ line ++ "\n") := by
  refine ⟨fun h hk => ?_, fun h hb => ?_, fun h => ?_⟩
  · rw [(header_announces_python_module env pkg).1 h, escapePath_of_no_keyword pkg hk]
  · exact ⟨escapePath pkg, (header_announces_python_module env pkg).1 h, unescapePath_escapePath pkg hb⟩
  · exact ⟨_, (header_announces_python_module env pkg).2 h⟩

/-- without the Safe-DS naming convention there is never an annotation -/
theorem header_without_convention (env : Env) (pkg : String) (h : env.safe = false) :
    packageHeader env pkg = "package " ++ escapePath pkg ++ "\n" := by
  apply (header_announces_python_module env pkg).1
  rw [h]; exact pc_convertPath_off pkg

/-- The announced path is recoverable: two stub texts that start with the headers for `p₁` and `p₂` (paths
    without `"`, line breaks and back-quotes) announce the same Python module path. -/
theorem header_determines_python_module (env : Env) (p₁ p₂ rest₁ rest₂ : String)
    (h1 : '"' ∉ p₁.toList ∧ '\n' ∉ p₁.toList) (h2 : '"' ∉ p₂.toList ∧ '\n' ∉ p₂.toList)
    (hb1 : '`' ∉ p₁.toList) (hb2 : '`' ∉ p₂.toList)
    (h : packageHeader env p₁ ++ rest₁ = packageHeader env p₂ ++ rest₂) : p₁ = p₂ := by
  have h := congrArg String.toList h
  rw [String.toList_append, String.toList_append, packageHeader_toList, packageHeader_toList] at h
  -- the two spellings of the header start with different characters
  have e : "package ".toList = 'p' :: "ackage ".toList ∧
      "@PythonModule(\"".toList = '@' :: "PythonModule(\"".toList := by decide
  by_cases c1 : p₁ = convertPath p₁ env.safe <;> by_cases c2 : p₂ = convertPath p₂ env.safe
  · simp only [if_pos c1, if_pos c2, List.append_assoc, List.append_cancel_left_eq, List.cons_append,
      List.nil_append] at h
    have hn : ∀ p : String, '\n' ∉ p.toList → '\n' ∉ (escapePath p).toList := by
      intro p hp hx
      rcases pf_mem_escapePath p '\n' hx with h' | h' | h'
      · exact hp h'
      · exact absurd h' (by decide)
      · exact absurd h' (by decide)
    exact pf_escapePath_inj p₁ p₂ hb1 hb2
      (String.toList_inj.1 (append_cons_inj_of_not_mem h (hn p₁ h1.2) (hn p₂ h2.2)))
  · rw [if_pos c1, if_neg c2, e.1, e.2] at h
    exact absurd (List.cons.inj h).1 (by decide)
  · rw [if_neg c1, if_pos c2, e.1, e.2] at h
    exact absurd (List.cons.inj h).1 (by decide)
  · simp only [if_neg c1, if_neg c2, List.append_assoc, List.append_cancel_left_eq, List.cons_append] at h
    exact String.toList_inj.1 (append_cons_inj_of_not_mem h h1.1 h2.1)

/-- COUNTEREXAMPLE without the back-quote condition: the paths `` `as` `` and `as` have the same header. -/
example : packageHeader { api := { package := "p" }, safe := false } "`as`"
    = packageHeader { api := { package := "p" }, safe := false } "as" := by decide +kernel

/-! ### 8. the shape of a stub path -/

/-- `dirSegments d` = `pathParts d.dir`, minus the last segment for stubs created from `__init__` re-exports;
    `stubFileName d` = `d.name.lstrip("_") + ".sdsstub"`. -/
theorem stubPath_shape (d : StubData) :
    stubPath d = joinWith "/" (dirSegments d ++ [pyLstrip d.name "_" ++ ".sdsstub"])
    ∧ dirSegments d = (if d.isPackageModule then dropLast' (pathParts d.dir) else pathParts d.dir) :=
  ⟨rfl, rfl⟩

/-- normalisation: a path never has an empty or a `.` segment, and segments contain no `/` -/
theorem pathParts_segments (x s : String) (h : s ∈ pathParts x) : s ≠ "" ∧ s ≠ "." ∧ '/' ∉ s.toList :=
  ⟨(mem_pathParts x s h).2.1, (mem_pathParts x s h).2.2, sep_not_mem_pySplit '/' x s (mem_pathParts x s h).1⟩

/-- the `/`-segments of the path are the directory segments followed by the file name … -/
theorem stubPath_segments (d : StubData) (hn : '/' ∉ d.name.toList) :
    splitSlash (stubPath d) = dirSegments d ++ [pyLstrip d.name "_" ++ ".sdsstub"] :=
  splitSlash_stubPath d hn

/-- … hence the file lies inside the output directory: the relative path has no empty, `.` or `..` segment,
    provided the directory has no `..` segment and the name no `/`. -/
theorem stubPath_inside (d : StubData) (hn : '/' ∉ d.name.toList) (hd : ".." ∉ splitSlash d.dir) :
    ∀ s ∈ splitSlash (stubPath d), s ≠ "" ∧ s ≠ "." ∧ s ≠ ".." := by
  intro s hs
  rw [splitSlash_stubPath d hn, List.mem_append, List.mem_singleton] at hs
  rcases hs with hs | rfl
  · have hs' : s ∈ pathParts d.dir := by
      unfold dirSegments at hs
      split at hs
      · exact mem_dropLast' s _ hs
      · exact hs
    obtain ⟨h1, h2, h3⟩ := mem_pathParts _ _ hs'
    exact ⟨h2, h3, fun e => hd (e ▸ h1)⟩
  · exact append_sdsstub_ne _

/-- COUNTEREXAMPLES for the two side conditions -/
example : stubPath { dir := "pkg/../..", name := "m", text := "", isPackageModule := false } = "pkg/../../m.sdsstub" := by
  decide +kernel
example : stubPath { dir := "pkg", name := "../../m", text := "", isPackageModule := false } = "pkg/../../m.sdsstub" := by
  decide +kernel

/-! ### 5. module stubs: the directory spells the announced package -/

/-- `modulePackage env m` is the path of the shortest public re-export of the module if there is one, else the
    module id with `/` replaced by `.`; `moduleDoc m` is `""` or the module's comment block followed by an
    empty line; `moduleStubName env m` is the alias chosen by the same re-export lookup, else `m.name`.
    Both `createModuleString` (for the header) and `generateModules` (for the directory) evaluate
    `shortestPublicReexport env.api.reexportMap m.name "" true`; the directory always agrees with the header. -/
theorem module_stub_dir_spells_package (env : Env) (ms : List Module) (st : St) (ds : List StubData) (st' : St)
    (h : generateModules env ms st = .ok (ds, st')) :
    ∀ d ∈ ds, d.isPackageModule = false ∧ ∃ m ∈ ms, ∃ doc rest pkg,
      d.text = doc ++ packageHeader env pkg ++ rest
      ∧ d.dir = replaceChar pkg '.' "/"
      ∧ (doc = "" ∨ doc = sdsDocstringDescription m.docstring "" ++ "\n")
      ∧ pkg = modulePackage env m
      ∧ (d.name = m.name ∨ d.name = (shortestPublicReexport env.api.reexportMap m.name "" true).2) := by
  intro d hd
  obtain ⟨m, hm, h1, h2, h3, rest, h4⟩ := generateModules_spec env ms st ds st' h d hd
  refine ⟨h1, m, hm, moduleDoc m, rest, modulePackage env m, h4, h2, ?_, rfl, ?_⟩
  · unfold moduleDoc
    split
    · exact Or.inr rfl
    · rename_i hne
      left
      simpa using hne
  · rw [h3]; unfold moduleStubName
    split
    · exact Or.inr rfl
    · exact Or.inl rfl

/-- what `modulePackage` is -/
theorem modulePackage_eq (env : Env) (m : Module) :
    modulePackage env m =
      if (shortestPublicReexport env.api.reexportMap m.name "" true).1 != ""
      then (shortestPublicReexport env.api.reexportMap m.name "" true).1
      else joinWith "." (splitSlash m.id) := rfl

/-- … and it is never a third thing: the package a module stub announces (and the directory it is written to) is the module's
    own dotted id, or the dotted id of a module that stands in the re-export map (`Proofs/ShortestMem`: the result of
    `_get_shortest_public_reexport` is empty or the id of one of the re-exporting modules) -/
theorem module_package_own_or_reexporter (env : Env) (m : Module) :
    modulePackage env m = joinWith "." (splitSlash m.id) ∨
    ∃ kv ∈ env.api.reexportMap, ∃ r ∈ kv.2, modulePackage env m = joinWith "." (splitSlash r.id) :=
  sm_modulePackage_cases env m

/-- the directory segments of `pkg.replace(".", "/")` are exactly the dot-segments of the announced path -/
theorem dir_segments_are_dot_segments (pkg : String) (h : '/' ∉ pkg.toList) :
    splitSlash (replaceChar pkg '.' "/") = splitDot pkg :=
  splitSlash_replaceChar_dot pkg h

/-- … and they are the dot-segments of the package line `escapePath pkg` with the back-quotes stripped:
    the directory spells the announced path segment by segment also where a segment is an escaped keyword -/
theorem dir_segments_are_unescaped_package_segments (pkg : String) (h : '/' ∉ pkg.toList) (hb : '`' ∉ pkg.toList) :
    splitSlash (replaceChar pkg '.' "/") = (splitDot (escapePath pkg)).map pf_unescapeSegment := by
  rw [splitSlash_replaceChar_dot pkg h, pf_splitDot_escapePath, List.map_map]
  conv => lhs; rw [← List.map_id (splitDot pkg)]
  apply List.map_congr_left
  intro s hs
  exact (pf_unescapeSegment_escapeKeyword s (fun hx => hb (mem_of_mem_pySplit '.' pkg s hs '`' hx))).symm

/-- so, for a module stub, the path is: the dot-segments of the announced module path that are not empty,
    then the file name -/
theorem module_stub_path (d : StubData) (pkg : String) (hp : d.isPackageModule = false)
    (hd : d.dir = replaceChar pkg '.' "/") (h : '/' ∉ pkg.toList) :
    stubPath d = joinWith "/" ((splitDot pkg).filter (fun s => s != "") ++ [pyLstrip d.name "_" ++ ".sdsstub"]) := by
  unfold stubPath pathParts
  rw [hp, hd, splitSlash_replaceChar_dot pkg h]
  simp only [Bool.false_eq_true, if_false]
  congr 2
  apply List.filter_congr
  intro s hs
  have : s ≠ "." := ne_dot_of_mem_splitDot pkg s hs
  simp [this]

/-! ### 9. placeholder stubs for classes of other libraries -/

/-- For class path `cp = s₁.….sₙ.C` the placeholder goes to `s₁/…/sₙ/<sₙ without leading underscores>.sdsstub`
    (like the stub of a module of the package, `stubPath_shape`), and a freshly written file starts with the
    header announcing `s₁.….sₙ` (`header_announces_python_module`; for the segments of its package line see
    `placeholder_package_line_spells_dir`). -/
theorem placeholder_path_spells_package (env : Env) (cp : String) (created existing : List String) (op : WriteOp)
    (created' : List String)
    (h : createOutsidePackageClass env.safe cp created existing = .ok (op, created')) :
    dropLast' (splitDot cp) ≠ []
    ∧ op.path = joinWith "/" (pathParts (joinWith "/" (dropLast' (splitDot cp)))
                              ++ [pyLstrip (lastD "" (dropLast' (splitDot cp))) "_" ++ ".sdsstub"])
    ∧ ((∀ s ∈ dropLast' (splitDot cp), '/' ∉ s.toList ∧ s ≠ "") →
        op.path = joinWith "/" (dropLast' (splitDot cp) ++ [pyLstrip (lastD "" (dropLast' (splitDot cp))) "_" ++ ".sdsstub"])
        ∧ splitSlash op.path
            = dropLast' (splitDot cp) ++ [pyLstrip (lastD "" (dropLast' (splitDot cp))) "_" ++ ".sdsstub"])
    ∧ (op.mode = .write → ∃ rest, op.text = packageHeader env (joinWith "." (dropLast' (splitDot cp))) ++ rest)
    ∧ splitDot (joinWith "." (dropLast' (splitDot cp))) = dropLast' (splitDot cp) := by
  obtain ⟨hne, hp, _, hcase⟩ := createOutsidePackageClass_ok h
  refine ⟨hne, hp, ?_, ?_, ?_⟩
  · intro hs
    have hpp : pathParts (joinWith "/" (dropLast' (splitDot cp))) = dropLast' (splitDot cp) :=
      pathParts_joinWith _ (fun s hs' => ⟨(hs s hs').1, (hs s hs').2,
        ne_dot_of_mem_splitDot cp s (mem_dropLast' s _ hs')⟩)
    refine ⟨?_, ?_⟩
    · rw [hp]; unfold outsideFile outsideModulePath outsideModuleName; rw [hpp]
    · rw [hp]; exact splitSlash_outsideFile cp hs
  · intro hw
    rcases hcase with ⟨ha, _⟩ | ⟨_, ht, _⟩
    · rw [ha] at hw; exact absurd hw (by simp)
    · exact ⟨_, ht⟩
  · unfold splitDot
    apply pySplit_joinWith '.' "." (by decide) _ hne
    intro s hs
    exact sep_not_mem_pySplit '.' cp s (mem_dropLast' s _ hs)

/-- The base name of a placeholder file is the module name `sₙ` without its leading underscores, exactly as for
    the stubs of the package's own modules and re-exported declarations (`stubPath_segments`): the last
    `/`-segment of the path is `sₙ.lstrip("_") + ".sdsstub"`, and the stem does not start with `_`. -/
theorem placeholder_base_name (safe : Bool) (cp : String) (created existing : List String) (op : WriteOp)
    (created' : List String)
    (h : createOutsidePackageClass safe cp created existing = .ok (op, created'))
    (hs : ∀ s ∈ dropLast' (splitDot cp), '/' ∉ s.toList ∧ s ≠ "") :
    lastD "" (splitSlash op.path) = pyLstrip (lastD "" (dropLast' (splitDot cp))) "_" ++ ".sdsstub"
    ∧ (pyLstrip (lastD "" (dropLast' (splitDot cp))) "_").toList.head? ≠ some '_' := by
  obtain ⟨_, hp, _, _⟩ := createOutsidePackageClass_ok h
  refine ⟨?_, pyLstrip_head_not_mem _ _ '_' (by decide)⟩
  rw [hp, splitSlash_outsideFile cp hs, lastD_append_singleton]
  rfl

/-- The package line of a placeholder, segment by segment: for the announced path
    `pkg = s₁.….sₙ` (which the convention leaves unchanged, else it is in the annotation) the line is
    `escapePath pkg`, its dot-segments are the `sᵢ` with keywords back-quoted, and stripping the back-quotes
    gives the directory segments back. -/
theorem placeholder_package_line_spells_dir (cp : String) (hne : dropLast' (splitDot cp) ≠ []) :
    splitDot (escapePath (joinWith "." (dropLast' (splitDot cp)))) = (dropLast' (splitDot cp)).map escapeKeyword
    ∧ ('`' ∉ cp.toList →
        splitDot (unescapePath (escapePath (joinWith "." (dropLast' (splitDot cp))))) = dropLast' (splitDot cp)) := by
  have hsplit : splitDot (joinWith "." (dropLast' (splitDot cp))) = dropLast' (splitDot cp) := by
    unfold splitDot
    apply pySplit_joinWith '.' "." (by decide) _ hne
    intro s hs
    exact sep_not_mem_pySplit '.' cp s (mem_dropLast' s _ hs)
  refine ⟨by rw [pf_splitDot_escapePath, hsplit], fun hb => ?_⟩
  rw [unescapePath_escapePath _ ?_, hsplit]
  intro hx
  rw [toList_joinWith] at hx
  rcases pf_mem_joinL _ _ _ hx with h | ⟨q, hq, hxq⟩
  · exact absurd h (by decide)
  · rw [List.mem_map] at hq
    obtain ⟨t, ht, rfl⟩ := hq
    exact hb (mem_of_mem_pySplit '.' cp t (mem_dropLast' t _ ht) '`' hxq)

/-- `path_parts[-1]` raises `IndexError` exactly for class paths without a dot; there is no other error. -/
theorem placeholder_error_iff (safe : Bool) (cp : String) (created existing : List String) (e : PyErr) :
    createOutsidePackageClass safe cp created existing = .error e ↔ ('.' ∉ cp.toList ∧ e = .indexError) := by
  rw [createOutsidePackageClass_eq, ← dropLast'_splitDot_eq_nil]
  constructor
  · intro h
    split at h
    · rename_i hnil
      simp only [Except.error.injEq] at h
      exact ⟨hnil, h.symm⟩
    · simp only at h
      split at h <;> exact absurd h (by simp)
  · rintro ⟨hnil, rfl⟩
    simp [hnil]

/-! ### 6. stubs created from `__init__` re-exports -/

/-- A re-exported declaration `el` of the package module `moduleId` gets the stub data
    `dir = moduleId/el.name`, flagged as package module, and its text starts with the header that announces
    the dotted form of `dir` without its last segment.  (The proof needs the frame property that the string
    generation never touches `creatingReexport` / `reexportModuleId`: `frame_genInv` of `Proofs/Files`) -/
theorem reexport_stub_dir_spells_package (env : Env) (moduleId : String) (els : List Node) (st : St)
    (ds : List StubData) (st' : St) (hst : st.creatingReexport = true)
    (h : createReexportElements env moduleId els st = .ok (ds, st')) :
    ∀ d ∈ ds, d.isPackageModule = true ∧ (∃ el ∈ els, d.name = el.name) ∧ d.dir = moduleId ++ "/" ++ d.name
      ∧ (∃ rest, d.text = packageHeader env (joinWith "." (dropLast' (splitSlash d.dir))) ++ rest)
      -- for a declaration name without `/`: the announced path is the dotted `moduleId`
      ∧ ('/' ∉ d.name.toList → dropLast' (splitSlash d.dir) = splitSlash moduleId)
      -- … and the file is `<moduleId>/<name without leading underscores>.sdsstub`
      ∧ ('/' ∉ d.name.toList → d.name ≠ "" → d.name ≠ "." →
          stubPath d = joinWith "/" (pathParts moduleId ++ [pyLstrip d.name "_" ++ ".sdsstub"])
          ∧ ((∀ s ∈ splitSlash moduleId, s ≠ "" ∧ s ≠ ".") →
              splitSlash (stubPath d) = splitSlash moduleId ++ [pyLstrip d.name "_" ++ ".sdsstub"])) := by
  intro d hd
  obtain ⟨el, hel, h1, h2, h3, rest, h4⟩ := createReexportElements_spec env moduleId els st ds st' hst h d hd
  rw [← h2] at h3 h4
  refine ⟨h1, ⟨el, hel, h2⟩, h3, ⟨rest, by rw [h3]; exact h4⟩, ?_, ?_⟩
  · intro hn
    rw [h3, splitSlash_append_name moduleId d.name hn, dropLast'_append_singleton]
  · intro hn hne hnd
    have hp : stubPath d = joinWith "/" (pathParts moduleId ++ [pyLstrip d.name "_" ++ ".sdsstub"]) := by
      unfold stubPath
      rw [h1, h3, pathParts_append_name moduleId d.name hn hne hnd]
      simp only [if_true, dropLast'_append_singleton]
    refine ⟨hp, ?_⟩
    intro hseg
    have := splitSlash_stubPath d hn
    unfold dirSegments stubFileName at this
    rw [h1, h3, pathParts_append_name moduleId d.name hn hne hnd] at this
    simp only [if_true, dropLast'_append_singleton] at this
    rw [pathParts_eq_splitSlash moduleId hseg] at this
    exact this

/-- `createReexportModules` runs `createReexportElements` with `creatingReexport = true` -/
theorem reexport_modules_stubs_are_package_modules (env : Env) :
    ∀ (rs : List (String × List Node)) (st : St) (ds : List StubData) (st' : St),
      createReexportModules env rs st = .ok (ds, st') →
      ∀ d ∈ ds, d.isPackageModule = true ∧ ∃ r ∈ rs, (∃ el ∈ r.2, d.name = el.name) ∧ d.dir = r.1 ++ "/" ++ d.name
        ∧ ∃ rest, d.text = packageHeader env (joinWith "." (dropLast' (splitSlash d.dir))) ++ rest :=
  createReexportModules_spec env

/-! ### 10. two texts, one path -/

/-- Exactly when two stubs are sent to the same file: same normalised directory, and names that differ at
    most in their leading underscores. -/
theorem same_path_iff (d₁ d₂ : StubData) (h1 : '/' ∉ d₁.name.toList) (h2 : '/' ∉ d₂.name.toList) :
    stubPath d₁ = stubPath d₂ ↔ dirSegments d₁ = dirSegments d₂ ∧ pyLstrip d₁.name "_" = pyLstrip d₂.name "_" := by
  constructor
  · intro h
    have := congrArg splitSlash h
    rw [splitSlash_stubPath d₁ h1, splitSlash_stubPath d₂ h2] at this
    -- (`rfl` for the lengths makes the unifier compare the two file names)
    obtain ⟨ha, hb⟩ := List.append_inj' this (List.length_singleton.trans List.length_singleton.symm)
    exact ⟨ha, string_append_right_cancel (List.singleton_inj.1 hb)⟩
  · rintro ⟨ha, hb⟩
    rw [stubPath_eq_join, stubPath_eq_join, ha]
    unfold stubFileName
    rw [hb]

/-- COUNTEREXAMPLE 1: modules `_x` and `x` of one package are written to the same file; the second text
    replaces the first. -/
example :
    ((createStubFiles true
        [{ dir := "pkg", name := "_x", text := "A", isPackageModule := false },
         { dir := "pkg", name := "x", text := "B", isPackageModule := false }] [] []).toOption.map
      fun ops => (ops.map fun o => (o.path, o.mode, o.text), applyWrites [] ops))
    = some ([("pkg/x.sdsstub", .write, "A"), ("pkg/x.sdsstub", .write, "B")], [("pkg/x.sdsstub", "B")]) := by
  decide +kernel

/-- COUNTEREXAMPLE 2: the placeholder for class `pkg.colors.Color` is *written* (first creation of its directory
    in the run) over the module stub `pkg/colors/colors.sdsstub`. -/
example :
    ((createStubFiles true [{ dir := "pkg/colors", name := "colors", text := "M", isPackageModule := false }]
        ["pkg.colors.Color"] []).toOption.map
      fun ops => (ops.map fun o => (o.path, o.mode), applyWrites [] ops))
    = some ([("pkg/colors/colors.sdsstub", .write), ("pkg/colors/colors.sdsstub", .write)],
            [("pkg/colors/colors.sdsstub", "package pkg.colors\n\nclass Color\n")]) := by
  decide +kernel

/-- COUNTEREXAMPLE 2' (same exclusion, new instances since the placeholder's file name drops the leading
    underscores of the module name): the placeholder for class `pkg._colors.Color` goes to
    `pkg/_colors/colors.sdsstub`, the file of the module stub of `pkg._colors`, and is *written* over it.
    (With the file name `_colors.sdsstub` the two did not meet: no module stub has a leading underscore.) -/
example :
    ((createStubFiles true [{ dir := "pkg/_colors", name := "_colors", text := "M", isPackageModule := false }]
        ["pkg._colors.Color"] []).toOption.map
      fun ops => (ops.map fun o => (o.path, o.mode), applyWrites [] ops))
    = some ([("pkg/_colors/colors.sdsstub", .write), ("pkg/_colors/colors.sdsstub", .write)],
            [("pkg/_colors/colors.sdsstub", "@PythonModule(\"pkg._colors\")\npackage pkg.colors\n\nclass Color\n")]) := by
  decide +kernel

/-- NO new collision between placeholders: the foreign modules `lib._x` and `lib.x` have the same base name
    `x.sdsstub` but different directories `lib/_x` and `lib/x` (the directory keeps the underscores); classes of
    one module still share one file (`OutsideInjective` holds for all plain class paths as before,
    `outsideInjective_of_plain`). -/
example :
    ((createStubFiles true [] ["lib._x.C", "lib.x.D", "lib._x.E"] []).toOption.map
      fun ops => ops.map fun o => (o.path, o.mode))
    = some [("lib/_x/x.sdsstub", .write), ("lib/_x/x.sdsstub", .append), ("lib/x/x.sdsstub", .write)] := by
  decide +kernel

/-- COUNTEREXAMPLE 3 (a third excluded situation): the class paths `a..b.C` and `a.b.D` have different
    directories `a//b` and `a/b`, hence both are "first creations", but the same normalised file. -/
example :
    ((createStubFiles true [] ["a..b.C", "a.b.D"] []).toOption.map fun ops => ops.map fun o => (o.path, o.mode))
    = some [("a/b/b.sdsstub", .write), ("a/b/b.sdsstub", .write)] := by decide +kernel

/-- Under the three exclusions — the stub paths are pairwise different, no placeholder file is a module stub
    file (`outsideFile c`, the file name without leading underscores: this now also excludes a placeholder for
    a class of the package's own private module `pkg._m` next to the module stub `pkg/_m/m.sdsstub`,
    COUNTEREXAMPLE 2'), placeholder files of different directories are different (`OutsideInjective`; it holds when the
    directory segments of all class paths are non-empty and `/`-free, `outsideInjective_of_plain`) — every
    path receives at most one `write`, whatever the directory contains; and in an empty directory (or for
    coherent class paths) every append follows a write of the same run. -/
theorem no_two_texts_one_path_partial (safe : Bool) (stubs : List StubData) (outside pre : List String)
    (ops : List WriteOp) (h : createStubFiles safe stubs outside pre = .ok ops)
    (h1 : (stubs.map stubPath).Nodup) (h2 : ∀ c ∈ outside, outsideFile c ∉ stubs.map stubPath)
    (h3 : OutsideInjective outside) :
    (∀ p, writeCount p ops ≤ 1) ∧ ((pre = [] ∨ CoherentOutside outside) → FirstOpsWrite ops) := by
  refine ⟨fun p => createStubFiles_writeCount h h1 h2 h3 p, ?_⟩
  rintro (rfl | hc)
  · exact createStubFiles_firstOpsWrite_fresh h
  · rw [createStubFiles_indep safe stubs outside pre [] hc] at h
    exact createStubFiles_firstOpsWrite_fresh h

/-- the side conditions on the class paths hold when their directory segments are non-empty and `/`-free -/
theorem plain_outside (outside : List String) (h : PlainOutside outside) :
    OutsideInjective outside ∧ CoherentOutside outside :=
  ⟨outsideInjective_of_plain outside h, coherentOutside_of_plain outside h⟩

/-! ### end to end -/

/-- Every stub of a run is a module stub (5.) or a stub of a re-exported declaration (6.): in both cases the
    text starts (after the optional module comment) with the header announcing the Python module path that
    the directory spells. -/
theorem every_stub_spells_package (api : API) (safe : Bool) (pre : List String) (r : GenResult)
    (h : runGenerator api safe pre = .ok r) :
    ∀ d ∈ r.stubs,
      (∃ m ∈ api.modules, d.isPackageModule = false
        ∧ d.dir = replaceChar (modulePackage { api := api, safe := safe } m) '.' "/"
        ∧ d.name = moduleStubName { api := api, safe := safe } m
        ∧ ∃ rest, d.text = moduleDoc m
            ++ packageHeader { api := api, safe := safe } (modulePackage { api := api, safe := safe } m) ++ rest)
      ∨ (d.isPackageModule = true ∧ ∃ moduleId, d.dir = moduleId ++ "/" ++ d.name
        ∧ ∃ rest, d.text = packageHeader { api := api, safe := safe } (joinWith "." (dropLast' (splitSlash d.dir)))
            ++ rest) := by
  obtain ⟨stubs, st, ops, hg, _, rfl⟩ := runGenerator_ok.1 h
  exact generateStubData_spec { api := api, safe := safe } {} stubs st hg

/-! ### Non-vacuity -/

section Examples

example : packageHeader { api := { package := "p" }, safe := true } "my_pkg.sub_mod"
    = "@PythonModule(\"my_pkg.sub_mod\")\npackage myPkg.subMod\n" := by decide +kernel
example : packageHeader { api := { package := "p" }, safe := true } "pkg.mod" = "package pkg.mod\n" := by decide +kernel
example : packageHeader { api := { package := "p" }, safe := false } "my_pkg.sub_mod" = "package my_pkg.sub_mod\n" := by
  decide +kernel

/-- keyword segments (`sub`, `internal`) are back-quoted in the package line, never in the annotation -/
example : packageHeader { api := { package := "p" }, safe := true } "pkg.sub.internal"
    = "package pkg.`sub`.`internal`\n" := by decide +kernel
example : packageHeader { api := { package := "p" }, safe := true } "my_pkg.sub.internal"
    = "@PythonModule(\"my_pkg.sub.internal\")\npackage myPkg.`sub`.`internal`\n" := by decide +kernel
example : packageHeader { api := { package := "p" }, safe := false } "my_pkg.sub.internal"
    = "package my_pkg.`sub`.`internal`\n" := by decide +kernel
example : unescapePath "pkg.`sub`.`internal`" = "pkg.sub.internal" := by decide +kernel
example : escapePath "pkg.sub.internal" = "pkg.`sub`.`internal`" ∧ escapePath "pkg.mod" = "pkg.mod" := by decide +kernel

example : stubPath { dir := "pkg/./sub//_mod", name := "__mod", text := "", isPackageModule := false }
    = "pkg/sub/_mod/mod.sdsstub" := by decide +kernel
example : stubPath { dir := "pkg/sub/_Cls", name := "_Cls", text := "", isPackageModule := true }
    = "pkg/sub/Cls.sdsstub" := by decide +kernel

example : (createOutsidePackageClass true "np.core.Array" [] []).toOption.map (fun r => (r.1.path, r.1.mode, r.1.text, r.2))
    = some ("np/core/core.sdsstub", .write, "package np.core\n\nclass Array\n", ["np/core"]) := by decide +kernel
example : (createOutsidePackageClass true "np.internal.Array" [] []).toOption.map (fun r => (r.1.path, r.1.mode, r.1.text, r.2))
    = some ("np/internal/internal.sdsstub", .write, "package np.`internal`\n\nclass Array\n", ["np/internal"]) := by
  decide +kernel
/-- a class of a private module of another library: the directory keeps the underscore, the file name loses it
    (like `stubPath` for the package's own modules); the package line is `package lib._impl`, or the converted
    path plus the annotation under the naming convention -/
example : (createOutsidePackageClass false "lib._impl.Thing" [] []).toOption.map (fun r => (r.1.path, r.1.mode, r.1.text, r.2))
    = some ("lib/_impl/impl.sdsstub", .write, "package lib._impl\n\nclass Thing\n", ["lib/_impl"]) := by decide +kernel
example : (createOutsidePackageClass true "lib._impl.Thing" [] []).toOption.map (fun r => (r.1.path, r.1.mode, r.1.text, r.2))
    = some ("lib/_impl/impl.sdsstub", .write, "@PythonModule(\"lib._impl\")\npackage lib.impl\n\nclass Thing\n", ["lib/_impl"]) := by
  decide +kernel
/-- only LEADING underscores go; a module name of underscores only leaves the bare suffix -/
example : ((createOutsidePackageClass false "lib.__impl__.Thing" [] []).toOption.map (·.1.path),
           (createOutsidePackageClass false "lib.__.Thing" [] []).toOption.map (·.1.path))
    = (some "lib/__impl__/impl__.sdsstub", some "lib/__/.sdsstub") := by decide +kernel
example : createOutsidePackageClass true "Array" [] [] = .error .indexError :=
  (placeholder_error_iff _ _ _ _ _).2 ⟨by decide, rfl⟩

/-- the hypotheses of `no_two_texts_one_path_partial` are satisfiable (with an append in the log) -/
example : PlainOutside ["np.core.Array", "np.core.Matrix"] := by unfold PlainOutside; decide +kernel
example : ([({ dir := "pkg", name := "a", text := "A", isPackageModule := false } : StubData),
            { dir := "pkg", name := "b", text := "B", isPackageModule := false }].map stubPath).Nodup := by
  decide +kernel

/-- a whole run: a module stub with an annotation, a function moved to the package `__init__` re-export, and a
    placeholder for a class of another library -/
private def exApi : API :=
  { package := "pkg",
    modules := [
      { id := "pkg/__init__", name := "__init__" },
      { id := "pkg/my_mod", name := "my_mod", docstring := "Doc.",
        functions := [
          { id := "pkg/my_mod/do_it", name := "do_it", isPublic := true,
            reexportedBy := [{ id := "pkg", qualifiedImports := [{ qualifiedName := "pkg.my_mod.do_it", «alias» := none }] }] },
          { id := "pkg/my_mod/_keep", name := "keep", isPublic := true,
            results := [{ id := "r", name := "result_1", type := some (.named "Array" "numpy.core.Array") }] }] }] }

example : (runGenerator exApi true).toOption.map (fun r =>
      (r.stubs.map (fun d => (d.dir, d.name, d.isPackageModule, stubPath d)), r.ops.map (fun o => (o.path, o.mode))))
    = some ([("pkg/my_mod", "my_mod", false, "pkg/my_mod/my_mod.sdsstub"), ("pkg/do_it", "do_it", true, "pkg/do_it.sdsstub")],
            [("pkg/my_mod/my_mod.sdsstub", .write), ("pkg/do_it.sdsstub", .write), ("numpy/core/core.sdsstub", .write)]) := by
  decide +kernel

example : (runGenerator exApi true).toOption.map (fun r => r.stubs.map (·.text))
    = some ["/**\n * Doc.\n */\n\n@PythonModule(\"pkg.my_mod\")\npackage pkg.myMod\n\nfrom numpy.core import Array\n\n@Pure\nfun keep() -> result1: Array\n",
            "package pkg\n\n// TODO Result type information missing.\n@Pure\n@PythonName(\"do_it\")\nfun doIt()\n"] := by
  decide +kernel

/-- a run that uses a class of a private module of another library (`lib._impl.Thing`): the import names the
    module path with the underscore, the placeholder file is `lib/_impl/impl.sdsstub` and announces `lib._impl` -/
private def exApiPriv : API :=
  { package := "pkg",
    modules := [
      { id := "pkg/m", name := "m",
        functions := [
          { id := "pkg/m/f", name := "f", isPublic := true,
            results := [{ id := "r", name := "result_1", type := some (.named "Thing" "lib._impl.Thing") }] }] }] }

example : (runGenerator exApiPriv false).toOption.map (fun r => (r.outside, r.ops.map (fun o => (o.path, o.mode, o.text))))
    = some (["lib._impl.Thing"],
            [("pkg/m/m.sdsstub", .write, "package pkg.m\n\nfrom lib._impl import Thing\n\n@Pure\nfun f() -> result_1: Thing\n"),
             ("lib/_impl/impl.sdsstub", .write, "package lib._impl\n\nclass Thing\n")]) := by
  decide +kernel

/-- a run with the module id `pkg/sub/internal`, two segments of which are Safe-DS keywords: the directory is
    spelled with the plain segments, the package line (and the `from` part of the import) with the escaped ones -/
private def exApiKw : API :=
  { package := "pkg",
    modules := [
      { id := "pkg/sub/internal", name := "internal",
        functions := [
          { id := "pkg/sub/internal/f", name := "f", isPublic := true,
            results := [{ id := "r", name := "result_1", type := some (.named "Array" "numpy.internal.Array") }] }] }] }

example : (runGenerator exApiKw true).toOption.map (fun r =>
      (r.stubs.map (fun d => (d.dir, d.name, d.isPackageModule, stubPath d)), r.ops.map (fun o => (o.path, o.mode))))
    = some ([("pkg/sub/internal", "internal", false, "pkg/sub/internal/internal.sdsstub")],
            [("pkg/sub/internal/internal.sdsstub", .write), ("numpy/internal/internal.sdsstub", .write)]) := by
  decide +kernel

example : (runGenerator exApiKw true).toOption.map (fun r => (r.stubs.map (·.text), r.ops.map (·.text)))
    = some (["package pkg.`sub`.`internal`\n\nfrom numpy.`internal` import Array\n\n@Pure\nfun f() -> result1: Array\n"],
            ["package pkg.`sub`.`internal`\n\nfrom numpy.`internal` import Array\n\n@Pure\nfun f() -> result1: Array\n",
             "package numpy.`internal`\n\nclass Array\n"]) := by
  decide +kernel

end Examples

end StubGen.C10
